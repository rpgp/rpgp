import RpgpProofs.Sound
/-!
# SoundMessage — signatures inside messages (C02)

The hash slot of one signature (`inlinePre`) and `Message::verify_nested_explicit` on it
(`verifyInline`) inverted; messages with several signatures (slot `i` is computed from signature
`i` alone); the positional pairing of One-Pass headers with the trailing signatures, and the entry
point that takes the message as on the wire (`verifyMessageWire`) inverted down to the slot.
-/
namespace Rpgp.Sound
open Rpgp Rpgp.SigDigest

/-! ## one signature -/

/-- one step of a chain of early returns, none of which is the value asked for -/
theorem ite_eq_iff_of_ne {α : Type} {c : Prop} [Decidable c] {a b v : α} (h : a ≠ v) :
    (if c then a else b) = v ↔ ¬ c ∧ b = v := by
  by_cases hc : c <;> simp [hc, h]

/-- the reader's hasher normalises line endings across reads: what it has seen is a function of
the concatenation -/
theorem inlineBody_eq (text : Bool) (chunks : List Bytes) :
    inlineBody text chunks = if text then canon chunks.flatten else chunks.flatten := by
  unfold inlineBody
  rw [hashedText_eq_canon]

theorem inlineTail_ok (s : Sig) (ft : Bytes) :
    inlineTail s = .ok ft ↔ areaScanOk s.cfg s.hashed = true ∧ fieldsAndTrailer s.cfg = some ft := by
  unfold inlineTail
  cases fieldsAndTrailer s.cfg <;> simp [ite_eq_iff_of_ne]

theorem opsMatches_iff (o : Ops) (s : Sig) :
    opsMatches o s = true ↔
      s.known = true ∧ o.typ = s.cfg.typ ∧ o.hash = s.cfg.hash ∧ o.pk = s.cfg.pk ∧
      ((o.ver = 3 ∧ s.cfg.ver = .v4) ∨ (o.ver = 6 ∧ s.cfg.ver = .v6 ∧ o.salt = s.cfg.salt)) := by
  simp only [opsMatches, Gen.sndOpsV3, Gen.sndOpsV6, Bool.and_eq_true, Bool.or_eq_true, beq_iff_eq, and_assoc]

/-- the salt the reader feeds the hasher for a matching One-Pass header is the signature's: a v3
header goes with a v4 signature (no salt), a v6 header carries the salt -/
theorem opsMatches_salt (o : Ops) (s : Sig) (h : opsMatches o s = true) :
    (if o.ver == Gen.sndOpsV6 then o.salt else []) = saltBytes s.cfg := by
  obtain ⟨_, _, _, _, ⟨h3, h4⟩ | ⟨h6, hv6, hsalt⟩⟩ := (opsMatches_iff o s).1 h
  · rw [h3, saltBytes, h4]; rfl
  · rw [h6, saltBytes, hv6, hsalt]; rfl

theorem inlinePre_some (hk : Byte → Bool) (ops : Option Ops) (s : Sig) (chunks : List Bytes) (a : Byte) (p : Bytes)
    (h : inlinePre hk ops s chunks = .ok (some (a, p))) :
    a = s.cfg.hash ∧ s.known = true ∧ areaScanOk s.cfg s.hashed = true ∧
    (∀ o, ops = some o → opsMatches o s = true) ∧
    ∃ ft, fieldsAndTrailer s.cfg = some ft ∧
      p = saltBytes s.cfg ++ inlineBody (s.cfg.typ == typText) chunks ++ ft := by
  cases ops with
  | none =>
    simp only [inlinePre, ite_eq_iff_of_ne, ne_eq, reduceCtorEq, not_false_eq_true, Except.ok.injEq,
      Bool.not_eq_true', Bool.not_eq_false] at h
    obtain ⟨hkn, _, _, h⟩ := h
    cases hT : inlineTail s with
    | error g => rw [hT] at h; cases h
    | ok ft =>
      simp only [hT, Except.ok.injEq, Option.some.injEq, Prod.mk.injEq] at h
      obtain ⟨hs, hft⟩ := (inlineTail_ok s ft).1 hT
      exact ⟨h.1.symm, hkn, hs, nofun, ft, hft, h.2.symm⟩
  | some o =>
    have hf : Gen.sndOpsNoneOnMismatch = 1 := by decide
    simp only [inlinePre, ite_eq_iff_of_ne, ne_eq, reduceCtorEq, not_false_eq_true, Except.ok.injEq, hf, true_and,
      Bool.not_eq_true', Bool.not_eq_false] at h
    obtain ⟨_, _, hm, hkn, h⟩ := h
    cases hT : inlineTail s with
    | error g => rw [hT] at h; cases h
    | ok ft =>
      simp only [hT, Except.ok.injEq, Option.some.injEq, Prod.mk.injEq] at h
      obtain ⟨hs, hft⟩ := (inlineTail_ok s ft).1 hT
      obtain ⟨_, hty, hha, _⟩ := (opsMatches_iff o s).1 hm
      refine ⟨h.1.symm.trans hha, hkn, hs, fun o' ho' => by cases ho'; exact hm, ft, hft, ?_⟩
      rw [← h.2, opsMatches_salt o s hm, hty]

theorem inline_established (s : Sig) (chunks : List Bytes) (ft : Bytes)
    (hft : fieldsAndTrailer s.cfg = some ft)
    (hty : (s.cfg.typ == typBinary || s.cfg.typ == typText) = true) :
    Established s.cfg (.document chunks.flatten)
      (saltBytes s.cfg ++ inlineBody (s.cfg.typ == typText) chunks ++ ft) ∧
    Spec.classOf s.cfg.typ = some .doc := by
  have hs := fieldsAndTrailer_saltSizeOk s.cfg ft hft
  have hal : verifyAligned s.cfg (if s.cfg.ver = .v6 then 6 else 4) = true := by
    unfold verifyAligned
    cases s.cfg.ver <;> rfl
  refine verifyInline_eq_spec s.cfg _ chunks _ ((verifyInline_eq_some ..).2 ⟨hs, hty, hal, ?_⟩)
  rw [hft, inlineBody_eq]
  simp only [Option.map_some, beq_iff_eq]

theorem verifyInline_some_ok (P : Prims) (k : VKey) (s : Sig) (d : Bytes) (h : verifyInline P k s (some d) = .ok) :
    s.known = true ∧ (s.cfg.typ == typBinary || s.cfg.typ == typText) = true ∧
    verifyAligned s.cfg k.ver = true ∧ strengthOk s.cfg = true ∧ matchIdentity s k = true ∧
    check Gen.sndLeft16Inline P k s d = .ok := by
  have hg : Gen.inlineChecksPreconditions = 1 := by decide
  simpa only [verifyInline, ite_eq_iff_of_ne, ne_eq, reduceCtorEq, not_false_eq_true, hg, true_and,
    Bool.not_eq_true', Bool.not_eq_false] using h

theorem none_slot_is_error (P : Prims) (k : VKey) (s : Sig) : verifyInline P k s none = .err .noneSlot := by
  simp [verifyInline, Gen.sndInlineNoneIsError]

theorem verifyMessage_ok (P : Prims) (k : VKey) (ops : Option Ops) (s : Sig) (chunks : List Bytes)
    (h : verifyMessage P k ops s chunks = .ok) :
    ∃ ft, fieldsAndTrailer s.cfg = some ft ∧
      inlinePre P.hashKnown ops s chunks =
        .ok (some (s.cfg.hash, saltBytes s.cfg ++ inlineBody (s.cfg.typ == typText) chunks ++ ft)) ∧
      (s.cfg.typ == typBinary || s.cfg.typ == typText) = true ∧
      check Gen.sndLeft16Inline P k s
        (P.hash s.cfg.hash (saltBytes s.cfg ++ inlineBody (s.cfg.typ == typText) chunks ++ ft)) = .ok := by
  unfold verifyMessage inlineSlot at h
  cases hp : inlinePre P.hashKnown ops s chunks with
  | error g => rw [hp] at h; cases h
  | ok slot =>
    rw [hp] at h
    cases slot with
    | none => cases (none_slot_is_error P k s).symm.trans h
    | some ap =>
      obtain ⟨a, p⟩ := ap
      obtain ⟨rfl, _, _, _, ft, hft, rfl⟩ := inlinePre_some _ ops s chunks a p hp
      obtain ⟨_, hty, _, _, _, hc⟩ := verifyInline_some_ok P k s _ h
      exact ⟨ft, hft, rfl, hty, hc⟩

/-! ## messages with several signatures -/

theorem collectSlots_ok (l : List (Except Guard (Option (Byte × Bytes)))) (xs : List (Option (Byte × Bytes)))
    (h : collectSlots l = .ok xs) : l = xs.map .ok := by
  induction l generalizing xs with
  | nil => cases h; rfl
  | cons a t ih =>
    cases a with
    | error g => cases h
    | ok y =>
      rw [collectSlots] at h
      split at h
      · cases h
      · cases h; rw [ih _ ‹_›]; rfl

theorem collectSlots_map_get {α : Type} (f : α → Except Guard (Option (Byte × Bytes))) (l : List α)
    (slots : List (Option (Byte × Bytes))) (h : collectSlots (l.map f) = .ok slots)
    (i : Nat) (x : Option (Byte × Bytes)) (hx : slots[i]? = some x) : ∃ a, l[i]? = some a ∧ f a = .ok x := by
  have := congrArg (·[i]?) (collectSlots_ok _ slots h)
  simp only [List.getElem?_map, hx, Option.map_some] at this
  exact Option.map_eq_some_iff.1 this

theorem inlineSlotsPre_get (hk : Byte → Bool) (sigs : List MsgSig) (chunks : List Bytes)
    (slots : List (Option (Byte × Bytes))) (h : inlineSlotsPre hk sigs chunks = .ok slots)
    (i : Nat) (m : MsgSig) (x : Option (Byte × Bytes)) (hm : sigs[i]? = some m) (hx : slots[i]? = some x) :
    inlinePre hk m.ops m.sig chunks = .ok x := by
  unfold inlineSlotsPre at h
  simp only at h
  split at h
  · cases h
  · obtain ⟨m', hm', hp⟩ := collectSlots_map_get _ sigs slots h i x hx
    cases hm.symm.trans hm'
    exact hp

theorem verifyMessageAt_ok (P : Prims) (k : VKey) (sigs : List MsgSig) (chunks : List Bytes) (i : Nat)
    (h : verifyMessageAt P k sigs chunks i = .ok) :
    ∃ m, sigs[i]? = some m ∧ verifyMessage P k m.ops m.sig chunks = .ok := by
  unfold verifyMessageAt at h
  split at h
  · cases h
  rename_i slots hs
  split at h
  · rename_i m x hm hx
    refine ⟨m, hm, ?_⟩
    rw [verifyMessage, inlineSlot, inlineSlotsPre_get _ sigs chunks slots hs i m x hm hx]
    exact h
  · cases h

/-! ## pairing of One-Pass headers and trailing signatures -/

/-- number of heads before position `i` that take a trailing signature -/
def popsBefore (hk : Byte → Bool) (heads : List MsgHead) (i : Nat) : Nat :=
  ((heads.take i).filter (MsgHead.pops hk)).length

theorem popsBefore_cons_succ (hk : Byte → Bool) (h : MsgHead) (t : List MsgHead) (j : Nat) :
    popsBefore hk (h :: t) (j + 1) = (if h.pops hk then 1 else 0) + popsBefore hk t j := by
  rw [popsBefore, List.take_succ_cons, List.filter_cons]
  split
  · rw [List.length_cons, Nat.add_comm]; rfl
  · exact (Nat.zero_add _).symm

theorem pairHeads_cons (hk : Byte → Bool) (h : MsgHead) (t : List MsgHead) (rs : List Sig) (l : List (Option MsgSig))
    (hl : pairHeads hk (h :: t) rs = some l) :
    ∃ e l', l = e :: l' ∧ pairHeads hk t (rs.drop (if h.pops hk then 1 else 0)) = some l' ∧
      ∀ o, h = .onePass o → hk o.hash = true → ∃ s, rs[0]? = some s ∧ e = some { ops := some o, sig := s } := by
  cases h with
  | prefixed s0 =>
    obtain ⟨l', hl', rfl⟩ := Option.map_eq_some_iff.1 hl
    exact ⟨_, l', rfl, hl', nofun⟩
  | onePass o0 =>
    cases hk0 : hk o0.hash with
    | false =>
      simp only [pairHeads, hk0, Bool.not_false, if_true] at hl
      obtain ⟨l', hl', rfl⟩ := Option.map_eq_some_iff.1 hl
      refine ⟨_, l', rfl, by rw [MsgHead.pops, hk0]; exact hl', ?_⟩
      rintro o ⟨⟩ ho
      rw [hk0] at ho
      cases ho
    | true =>
      simp only [pairHeads, hk0, Bool.not_true, Bool.false_eq_true, if_false] at hl
      cases rs with
      | nil => cases hl
      | cons s0 rs' =>
        obtain ⟨l', hl', rfl⟩ := Option.map_eq_some_iff.1 hl
        refine ⟨_, l', rfl, by rw [MsgHead.pops, hk0]; exact hl', ?_⟩
        rintro o ⟨⟩ -
        exact ⟨s0, rfl, rfl⟩

theorem pairHeads_onePass (hk : Byte → Bool) (heads : List MsgHead) (rs : List Sig) (l : List (Option MsgSig))
    (hl : pairHeads hk heads rs = some l) (i : Nat) (o : Ops) (hi : heads[i]? = some (.onePass o))
    (ho : hk o.hash = true) :
    ∃ s, rs[popsBefore hk heads i]? = some s ∧ l[i]? = some (some { ops := some o, sig := s }) := by
  induction heads generalizing rs l i with
  | nil => cases hi
  | cons h t ih =>
    obtain ⟨e, l', rfl, hl', he⟩ := pairHeads_cons hk h t rs l hl
    cases i with
    | zero =>
      obtain ⟨s, hs, rfl⟩ := he o (Option.some.inj hi) ho
      exact ⟨s, hs, rfl⟩
    | succ j =>
      obtain ⟨s, hs, hr⟩ := ih _ l' hl' j hi
      rw [List.getElem?_drop] at hs
      exact ⟨s, by rw [popsBefore_cons_succ]; exact hs, hr⟩

/-- a successful `verify_nested_explicit(i, key)` on a message given as on the wire: every One-Pass
header found its trailing signature, entry `i` of the pairing is a signature, and its hash slot was
filled (`inlinePre_some` says with what); the verdict of `verifyInline` on that slot is not part of
the statement -/
theorem verifyMessageWire_ok (P : Prims) (k : VKey) (heads : List MsgHead) (trailing : List Sig)
    (chunks : List Bytes) (i : Nat) (h : verifyMessageWire P k heads trailing chunks i = .ok) :
    ∃ entries, pairMessage P.hashKnown heads trailing = some entries ∧
      ∃ m ap, entries[i]? = some (some m) ∧ inlinePre P.hashKnown m.ops m.sig chunks = .ok (some ap) := by
  unfold verifyMessageWire at h
  split at h
  · cases h
  split at h
  · cases h
  rename_i entries hp
  refine ⟨entries, hp, ?_⟩
  simp only at h
  split at h
  · cases h
  rename_i slots hcs
  split at h
  · rename_i ap hx
    obtain ⟨e, he, hpre⟩ := collectSlots_map_get _ entries slots hcs i _ hx
    cases e with
    | none => cases hpre
    | some m => exact ⟨m, ap, he, hpre⟩
  · cases h

end Rpgp.Sound
