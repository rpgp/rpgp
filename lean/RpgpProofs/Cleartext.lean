import RpgpModel.Cleartext
import RpgpProofs.SignVerifyCleartext
/-! `RpgpModel/Cleartext.lean` and the cleartext part of `RpgpModel/SignVerify.lean` transcribe the
same functions of `cleartext.rs`; the first section proves that the two transcriptions are the same
functions, and what `SignVerifyCleartext.lean` proves about one is used here for the other (C16). -/
namespace Rpgp

/-! ## the two transcriptions agree -/

theorem splitInclusive_eq (t : Bytes) : splitInclusive t = SV.splitIncl t := by
  induction t with
  | nil => rfl
  | cons b r ih => rw [splitInclusive, SV.splitIncl, ih]; cases SV.splitIncl r <;> rfl

theorem linewise_eq {f g : Bytes → Bytes} (h : ∀ l, f l = g l) (t : Bytes) :
    ((splitInclusive t).map f).flatten = ((SV.splitIncl t).map g).flatten := by
  rw [splitInclusive_eq, funext h]

theorem escLine_eq : escLine = SV.escapeLine := rfl

theorem dashEscape_eq (t : Bytes) : dashEscape t = SV.dashEscape t := linewise_eq (fun _ => rfl) t

theorem splitEnd_eq : ∀ l : Bytes, splitEnd l = SV.splitEnd l
  | [] => rfl
  | [a] => rfl
  | [a, b] => by
    by_cases ha : a = CR <;> by_cases hb : b = LF <;> simp [splitEnd, SV.splitEnd, ha, hb]
  | a :: b :: c :: r => by
    rw [splitEnd, SV.splitEnd, splitEnd_eq (b :: c :: r)]
    simp

theorem splitEnd_head (b : Byte) (s : Bytes) :
    (splitEnd (b :: s)).1 = [] ∨ ∃ s', (splitEnd (b :: s)).1 = b :: s' := by
  have h := SV.splitEnd_append (b :: s)
  rw [← splitEnd_eq] at h
  cases h1 : (splitEnd (b :: s)).1 with
  | nil => exact Or.inl rfl
  | cons x s' => rw [h1] at h; exact Or.inr ⟨s', by rw [(List.cons.inj h).1]⟩

theorem stripDashSp_eq : stripDashSp = SV.stripDashSpace := rfl

theorem trimEnd_eq (l : Bytes) : trimEnd l = SV.trimEndBlank l := by
  induction l with
  | nil => rfl
  | cons b r ih =>
    rw [trimEnd, SV.trimEndBlank, ih]
    cases SV.trimEndBlank r <;> simp [isBlank]

theorem utLine_eq (l : Bytes) : utLine l = SV.unescapeTrimLine l := by
  rw [utLine, SV.unescapeTrimLine, splitEnd_eq, stripDashSp_eq, trimEnd_eq]

theorem unescapeTrim_eq (t : Bytes) : unescapeTrim t = SV.dashUnescapeTrim t := linewise_eq utLine_eq t

theorem trimLine_eq (l : Bytes) : trimLine l = SV.trimLine l := by
  rw [trimLine, SV.trimLine, splitEnd_eq, trimEnd_eq]

theorem trimLines_eq (t : Bytes) : trimLines t = SV.trimLines t := linewise_eq trimLine_eq t

theorem isPrefixOf_eq (p s : Bytes) : p.isPrefixOf s = SV.startsWith s p :=
  Bool.eq_iff_iff.mpr (by rw [List.isPrefixOf_iff_prefix, SV.startsWith_iff])

theorem findLast_eq (pat s : Bytes) : findLast pat s = SV.rfind pat s := by
  induction s with
  | nil => rw [findLast, isPrefixOf_eq]; cases pat <;> rfl
  | cons b r ih => rw [findLast, SV.rfind_cons, ih, isPrefixOf_eq]; cases SV.rfind pat r <;> rfl

theorem endsCRLF_eq (o : Bytes) : endsCRLF o = SV.endsCRLF o := by
  fun_induction endsCRLF o with
  | case1 | case2 | case3 => rfl
  | case4 a b c r ih => exact ih

theorem readBodyLoop_eq (out : Bytes) (ls : List Bytes) :
    SV.readBodyLoop out ls = (readBodyLoop out ls).map fun r => (r.1, r.2.1) := by
  induction ls generalizing out with
  | nil => rfl
  | cons l ls ih =>
    rw [SV.readBodyLoop, readBodyLoop, ih, isPrefixOf_eq, findLast_eq]
    -- the same literals under two names
    unfold bodyEndPat fiveDashes SV.dashes5
    split
    · rfl
    · cases SV.rfind _ (out ++ l) with
      | none => rfl
      | some pos => simp only [Option.map_some, stripLineBreak, endsCRLF_eq]; rfl

/-! ## lines -/

theorem splitInclusive_cons (b : Byte) (r : Bytes) :
    splitInclusive (b :: r) =
      if b = LF then [LF] :: splitInclusive r else consHead b (splitInclusive r) := by
  rw [splitInclusive]

@[simp] theorem consHead_ne_nil (b : Byte) (ls : List Bytes) : consHead b ls ≠ [] := by
  cases ls <;> simp [consHead]

@[simp] theorem consHead_cons (b : Byte) (l : Bytes) (ls : List Bytes) :
    consHead b (l :: ls) = (b :: l) :: ls := rfl
@[simp] theorem consHead_nil (b : Byte) : consHead b [] = [[b]] := rfl

@[simp] theorem consHead_flatten (b : Byte) (ls : List Bytes) : (consHead b ls).flatten = b :: ls.flatten := by
  cases ls <;> simp [consHead]

theorem splitInclusive_flatten (t : Bytes) : (splitInclusive t).flatten = t := by
  rw [splitInclusive_eq]; exact SV.splitIncl_flatten t

theorem splitInclusive_cons_LF (r : Bytes) : splitInclusive (LF :: r) = [LF] :: splitInclusive r := by
  rw [splitInclusive, if_pos rfl]

theorem splitInclusive_line (l r : Bytes) (h : LF ∉ l) :
    splitInclusive (l ++ LF :: r) = (l ++ [LF]) :: splitInclusive r := by
  rw [splitInclusive_eq, splitInclusive_eq]; exact SV.splitIncl_line l r h

def endsLF (l : Bytes) : Prop := ∃ c, l = c ++ [LF]

theorem splitInclusive_all_endLF (a : Bytes) : ∀ l ∈ splitInclusive (a ++ [LF]), endsLF l := by
  induction a using SV.lines_induction with
  | nil => exact fun l hl => ⟨[], List.mem_singleton.mp hl⟩
  | last e _ he =>
    rw [splitInclusive_line e [] he]
    exact fun l hl => ⟨e, List.mem_singleton.mp hl⟩
  | line l r hl ih =>
    rw [List.append_assoc, List.cons_append, splitInclusive_line l _ hl]
    intro x hx
    rcases List.mem_cons.mp hx with rfl | hx
    · exact ⟨l, rfl⟩
    · exact ih x hx

/-! ## dash escaping -/

/-- `dash_escape` byte by byte; the flag: the previous byte was LF (or there is none) -/
def escapeGo : Bool → Bytes → Bytes
  | _, [] => []
  | s, b :: r => (if s && b == DASH then [DASH, SP] else []) ++ b :: escapeGo (b == LF) r

theorem headD_consHead (b : Byte) (L : List Bytes) : (consHead b L).headD [] = b :: L.headD [] := by
  cases L <;> rfl
theorem tail_consHead (b : Byte) (L : List Bytes) : (consHead b L).tail = L.tail := by
  cases L <;> rfl

theorem flatten_map_escLine (L : List Bytes) :
    (L.map escLine).flatten = escLine (L.headD []) ++ (L.tail.map escLine).flatten := by
  cases L <;> rfl

/-- the machine at a line start escapes every line; inside a line, every line but the first -/
theorem escapeGo_eq (t : Bytes) :
    escapeGo true t = ((splitInclusive t).map escLine).flatten ∧
    escapeGo false t = (splitInclusive t).headD [] ++ ((splitInclusive t).tail.map escLine).flatten := by
  induction t with
  | nil => exact ⟨rfl, rfl⟩
  | cons b r ih =>
    rw [escapeGo, escapeGo, splitInclusive_cons]
    by_cases hb : b = LF
    · rw [hb, if_pos rfl, beq_self_eq_true, ih.1]
      exact ⟨rfl, rfl⟩
    · rw [if_neg hb, beq_false_of_ne hb, ih.2, flatten_map_escLine (consHead b _), headD_consHead, tail_consHead]
      refine ⟨?_, rfl⟩
      rw [Bool.true_and, escLine]
      by_cases hd : b = DASH
      · rw [hd, beq_self_eq_true, if_pos rfl, if_pos rfl]; rfl
      · rw [beq_false_of_ne hd, if_neg hd, if_neg Bool.false_ne_true]; rfl

theorem dashEscape_eq_go (t : Bytes) : dashEscape t = escapeGo true t :=
  (escapeGo_eq t).1.symm

theorem lines_dashEscape (t : Bytes) :
    splitInclusive (dashEscape t) = (splitInclusive t).map escLine := by
  rw [dashEscape_eq, splitInclusive_eq, splitInclusive_eq, escLine_eq]
  exact SV.splitIncl_dashEscape t

theorem unescape_dashEscape (t : Bytes) : unescape (dashEscape t) = t := by
  have : stripDashSp ∘ escLine = id := funext fun l => by
    rw [Function.comp_apply, stripDashSp_eq, escLine_eq, SV.stripDashSpace_escapeLine]; rfl
  rw [unescape, lines_dashEscape, List.map_map, this, List.map_id, splitInclusive_flatten]

theorem unescapeTrim_factor (c : Bytes) :
    unescapeTrim c = ((splitInclusive c).map fun l => trimLine (stripDashSp l)).flatten := by
  have : utLine = fun l => trimLine (stripDashSp l) := funext fun l => by
    rw [utLine_eq, trimLine_eq, stripDashSp_eq, SV.unescapeTrimLine_eq]
  rw [unescapeTrim, this]

theorem unescapeTrim_dashEscape (t : Bytes) : unescapeTrim (dashEscape t) = trimLines t := by
  rw [unescapeTrim_eq, dashEscape_eq, trimLines_eq, SV.dashUnescapeTrim_dashEscape]

/-! ## the escaped text holds no boundary -/

theorem no_pat_dashEscape (t y : Bytes) (hy1 : ¬ [DASH, DASH] <+: y) (hy2 : ¬ [LF, DASH, DASH] <:+: y) :
    ¬ bodyEndPat <:+: dashEscape t ++ y := by
  have hpat : [LF, DASH, DASH] <:+: bodyEndPat := ⟨[], [DASH, DASH, DASH], rfl⟩
  rw [dashEscape_eq]
  exact fun h => SV.no_LF_dd_dashEscape t y hy1 hy2 (hpat.trans h)

theorem dashEscape_no_pat (t : Bytes) : ¬ bodyEndPat <:+: dashEscape t := by
  have := no_pat_dashEscape t [] (by decide) (by decide)
  rwa [List.append_nil] at this

theorem dashEscape_no_dashdash (t : Bytes) : ¬ [DASH, DASH] <+: dashEscape t := by
  have := SV.not_dd_prefix_dashEscape t [] (by decide)
  rwa [List.append_nil, ← dashEscape_eq] at this

/-! ## the body reader: what it returns is a split of its input -/

theorem findLast_some (pat s : Bytes) (i : Nat) (h : findLast pat s = some i) :
    ∃ a c, s = a ++ pat ++ c ∧ a.length = i := by
  induction s generalizing i with
  | nil =>
    rw [findLast] at h
    split at h
    · next hp =>
      obtain ⟨c, hc⟩ := List.isPrefixOf_iff_prefix.mp hp
      exact ⟨[], c, hc.symm, Option.some.inj h⟩
    · cases h
  | cons b r ih =>
    rw [findLast] at h
    cases hr : findLast pat r with
    | some j =>
      rw [hr] at h
      obtain ⟨a, c, e, hl⟩ := ih j hr
      exact ⟨b :: a, c, by rw [e]; rfl, by rw [List.length_cons, hl]; exact Option.some.inj h⟩
    | none =>
      rw [hr] at h
      dsimp only at h
      split at h
      · next hp =>
        obtain ⟨c, hc⟩ := List.isPrefixOf_iff_prefix.mp hp
        exact ⟨[], c, hc.symm, Option.some.inj h⟩
      · cases h

/-- the two possible "trailing line breaks" removed by `read_cleartext_body` -/
def IsSep (s : Bytes) : Prop := s = [LF] ∨ s = [CR, LF]

theorem stripLineBreak_append_LF (x : Bytes) :
    stripLineBreak (x ++ [LF]) = if endsCR x then x.dropLast else x := by
  rw [stripLineBreak, endsCRLF_eq]; exact SV.stripLineBreak_append_LF x

theorem stripLineBreak_sep (x : Bytes) :
    ∃ sep, IsSep sep ∧ stripLineBreak (x ++ [LF]) ++ sep = x ++ [LF] := by
  rw [stripLineBreak_append_LF]
  split
  · next h =>
    refine ⟨[CR, LF], Or.inr rfl, ?_⟩
    rw [List.append_cons, dropLast_append_CR x h]
  · exact ⟨[LF], Or.inl rfl, rfl⟩

theorem readBodyLoop_sound (ls : List Bytes) (out txt pre : Bytes) (ls' : List Bytes)
    (h : readBodyLoop out ls = some (txt, pre, ls')) :
    fiveDashes <+: pre ∧
    ((txt = [] ∧ out ++ ls.flatten = pre ++ ls'.flatten) ∨
     ∃ sep, IsSep sep ∧ out ++ ls.flatten = txt ++ sep ++ pre ++ ls'.flatten) := by
  induction ls generalizing out with
  | nil => cases h
  | cons l ls ih =>
    rw [readBodyLoop] at h
    rw [List.flatten_cons, ← List.append_assoc]
    split at h
    · next hp =>
      cases h
      exact ⟨List.isPrefixOf_iff_prefix.mp hp, Or.inl ⟨rfl, rfl⟩⟩
    · cases hf : findLast bodyEndPat (out ++ l) with
      | none => rw [hf] at h; exact ih (out ++ l) h
      | some pos =>
        rw [hf] at h
        obtain ⟨a, c, e, rfl⟩ := findLast_some _ _ _ hf
        have e' : out ++ l = (a ++ [LF]) ++ (fiveDashes ++ c) := by rw [e]; simp [bodyEndPat]
        have hlen : a.length + 1 = (a ++ [LF]).length := by simp
        dsimp only at h
        rw [e', hlen, List.take_left' rfl, List.drop_left' rfl] at h
        cases h
        obtain ⟨sep, hs, he⟩ := stripLineBreak_sep a
        exact ⟨⟨c, rfl⟩, Or.inr ⟨sep, hs, by rw [e', he]⟩⟩

theorem readCleartextBody_sound (inp txt rest : Bytes) (h : readCleartextBody inp = some (txt, rest)) :
    fiveDashes <+: rest ∧
    ((txt = [] ∧ inp = rest) ∨ ∃ sep, IsSep sep ∧ inp = txt ++ sep ++ rest) := by
  rw [readCleartextBody, readBodyLines] at h
  cases hr : readBodyLoop [] (splitInclusive inp) with
  | none => rw [hr] at h; cases h
  | some r =>
    obtain ⟨t0, pre, ls'⟩ := r
    rw [hr] at h
    obtain ⟨rfl, rfl⟩ := Prod.mk.inj (Option.some.inj h)
    obtain ⟨⟨q, hq⟩, h2⟩ := readBodyLoop_sound _ _ _ _ _ hr
    rw [List.nil_append, splitInclusive_flatten] at h2
    refine ⟨⟨q ++ ls'.flatten, by rw [← hq, List.append_assoc]⟩, ?_⟩
    rcases h2 with h2 | ⟨sep, hs, e⟩
    · exact Or.inl h2
    · exact Or.inr ⟨sep, hs, by rw [e, List.append_assoc]⟩

/-! ## the body reader on what the writer wrote -/

/-- the separator `to_armored_writer` writes after the text -/
def sepFixed (csf : Bytes) : Bytes := if endsCR csf then [CR, LF] else [LF]

/-- The reader of `SignVerify.lean` keeps the text only; the text tells the rest, since the
result is a split of the input. -/
theorem readCleartextBody_of_text (txt sep rest : Bytes) (hs : IsSep sep)
    (h : (SV.readCleartextBody (txt ++ sep ++ rest)).map (·.1) = some txt) :
    readCleartextBody (txt ++ sep ++ rest) = some (txt, rest) := by
  rw [SV.readCleartextBody, ← splitInclusive_eq, readBodyLoop_eq, Option.map_map] at h
  cases hl : readBodyLoop [] (splitInclusive (txt ++ sep ++ rest)) with
  | none => rw [hl] at h; cases h
  | some x =>
    obtain ⟨txt', pre, ls'⟩ := x
    rw [hl] at h
    obtain rfl : txt' = txt := Option.some.inj h
    have hr : readCleartextBody (txt' ++ sep ++ rest) = some (txt', pre ++ ls'.flatten) := by
      rw [readCleartextBody, readBodyLines, hl]; rfl
    have hD : ∀ s, IsSep s → ∀ z, ¬ fiveDashes <+: s ++ z := by
      rintro s (rfl | rfl) z h <;> exact absurd (List.cons_prefix_cons.mp h).1 (by decide)
    rw [hr]
    obtain ⟨h5, hsplit | ⟨sep', hs', e⟩⟩ := readCleartextBody_sound _ _ _ hr
    · rw [← hsplit.2, hsplit.1, List.nil_append] at h5
      exact absurd h5 (hD sep hs rest)
    · rw [List.append_assoc, List.append_assoc, List.append_cancel_left_eq] at e
      rcases hs with rfl | rfl <;> rcases hs' with rfl | rfl
      · rw [List.append_cancel_left e]
      · exact absurd (List.cons.inj e).1 (by decide)
      · exact absurd (List.cons.inj e).1 (by decide)
      · rw [List.append_cancel_left e]

theorem readCleartextBody_sepFixed (t sig : Bytes) (hsig : fiveDashes <+: sig) :
    readCleartextBody (dashEscape t ++ sepFixed (dashEscape t) ++ sig) = some (dashEscape t, sig) := by
  have hs : IsSep (sepFixed (dashEscape t)) := by
    unfold sepFixed; split
    · exact Or.inr rfl
    · exact Or.inl rfl
  apply readCleartextBody_of_text _ _ _ hs
  rw [dashEscape_eq]
  exact SV.armorRoundTripCsf_dashEscape t sig ((SV.startsWith_iff _ _).mpr hsig)

/-- with a bare LF instead, a final CR of the text is taken for part of the line break -/
theorem readCleartextBody_LF (t sig : Bytes) (hsig : fiveDashes <+: sig) :
    readCleartextBody (dashEscape t ++ LF :: sig) =
      some (if endsCR t then (dashEscape t).dropLast else dashEscape t, sig) := by
  rw [dashEscape_eq]
  obtain ⟨sep, hs, e⟩ := stripLineBreak_sep (SV.dashEscape t)
  rw [stripLineBreak_append_LF, SV.endsCR_dashEscape] at e
  have hsplit : SV.dashEscape t ++ LF :: sig =
      (if endsCR t then (SV.dashEscape t).dropLast else SV.dashEscape t) ++ sep ++ sig := by
    rw [e, List.append_assoc]; rfl
  rw [hsplit]
  apply readCleartextBody_of_text _ _ _ hs
  have := SV.readCleartextBody_dashEscape t [] sig (Or.inl rfl) hsig
  rw [List.append_nil, SV.cutFinalCR, SV.endsCR_dashEscape] at this
  rw [← hsplit]; exact this

/-! ## what is signed and what is verified -/

theorem window_pos : 0 < Gen.normalizedReaderWindow := by decide

theorem signedText_eq (csf : Bytes) : signedText csf = canon (unescapeTrim csf) :=
  replaceNewlines_crlf _

theorem signInputMany_eq (t : Bytes) : signInputMany t = canon (trimLines t) := by
  unfold signInputMany; rw [replaceNewlines_crlf, unescapeTrim_dashEscape]; rfl

theorem signInputNew_eq (chunk : Bytes → List Bytes) (hch : ∀ x, (chunk x).flatten = x) (t : Bytes) :
    signInputNew chunk t = canon (trimLines t) := by
  unfold signInputNew
  rw [hashedText_eq_canon, hch, normalizedRead_eq_canon _ window_pos, canon_idem,
    unescapeTrim_dashEscape]

theorem verifyInput_eq (csf : Bytes) : verifyInput csf = signedText csf := by
  unfold verifyInput
  rw [normalizedRead_eq_canon _ window_pos, signedText_eq, canon_idem]

/-- what `new`/`new_many` hand to the text-mode hasher, as a specification -/
def signInputFixed (t : Bytes) : Bytes := canon (unescapeTrim (dashEscape t))

/-! ## the header section and the whole document -/

/-- the ids `to_armored_writer` can name -/
def hashIds : List Nat :=
  [Gen.hashIdNone, Gen.hashIdMd5, Gen.hashIdSha1, Gen.hashIdRipemd160, Gen.hashIdSha256, Gen.hashIdSha384,
    Gen.hashIdSha512, Gen.hashIdSha224, Gen.hashIdSha3_256, Gen.hashIdSha3_512, Gen.hashIdPrivate10]

theorem hashName_eq_none (id : Nat) (h : id ∉ hashIds) : hashName id = none := by
  simp only [hashIds, List.mem_cons, List.not_mem_nil, or_false, not_or] at h
  obtain ⟨h0, h1, h2, h3, h4, h5, h6, h7, h8, h9, h10⟩ := h
  rw [hashName, if_neg h0, if_neg h1, if_neg h2, if_neg h3, if_neg h4, if_neg h5, if_neg h6, if_neg h7,
    if_neg h8, if_neg h9, if_neg h10]

theorem isAlnumDash_ne (b : Byte) (h : isAlnumDash b = true) : b ≠ CR ∧ b ≠ LF ∧ b ≠ COMMA := by
  refine ⟨?_, ?_, ?_⟩ <;> (rintro rfl; revert h; decide)

theorem splitEnd_append_LF (n : Bytes) (h : ∀ b ∈ n, b ≠ CR ∧ b ≠ LF) : splitEnd (n ++ [LF]) = (n, [LF]) := by
  induction n with
  | nil => rfl
  | cons b n ih =>
    have hb := h b List.mem_cons_self
    rw [List.cons_append, splitEnd_eq, SV.splitEnd_cons_of_ne b _ hb.1 hb.2, ← splitEnd_eq,
      ih fun x hx => h x (List.mem_cons_of_mem _ hx)]

theorem splitOnByte_of_not_mem (sep : Byte) (n : Bytes) (h : sep ∉ n) : splitOnByte sep n = [n] := by
  induction n with
  | nil => rfl
  | cons b n ih =>
    rw [List.mem_cons, not_or] at h
    rw [splitOnByte, ih h.2]
    exact if_neg (Ne.symm h.1)

theorem hashHeaderLine_written (n : Bytes) (hne : n ≠ []) (hn : n.all isAlnumDash = true) :
    hashHeaderLine (hashTag ++ n ++ [LF]) = some [n] := by
  have hb : ∀ b ∈ n, b ≠ CR ∧ b ≠ LF ∧ b ≠ COMMA := fun b hb => isAlnumDash_ne b (List.all_eq_true.mp hn b hb)
  have hpre : hashTag.isPrefixOf (hashTag ++ n ++ [LF]) = true :=
    List.isPrefixOf_iff_prefix.mpr ⟨n ++ [LF], (List.append_assoc _ _ _).symm⟩
  have hne' : n.isEmpty = false := by cases n with | nil => exact absurd rfl hne | cons _ _ => rfl
  rw [hashHeaderLine, if_pos hpre, List.append_assoc, List.drop_left, lineContent,
    splitEnd_append_LF n fun b h => ⟨(hb b h).1, (hb b h).2.1⟩]
  simp only [List.cons_ne_nil, if_false, splitOnByte_of_not_mem COMMA n fun h => (hb _ h).2.2 rfl, List.all_cons,
    List.all_nil, hne', hn, Bool.not_false, Bool.and_self, if_true]

theorem hashNames_ok : ∀ id ∈ hashIds, ∀ n ∈ hashName id,
    n ≠ [] ∧ n.all isAlnumDash = true ∧ hashOfName n = some id := by decide

theorem hashName_spec (id : Nat) (n : Bytes) (h : hashName id = some n) :
    hashHeaderLine (hashTag ++ n ++ [LF]) = some [n] ∧ LF ∉ n ∧ hashOfName n = some id := by
  by_cases hid : id ∈ hashIds
  · obtain ⟨hne, hn, hof⟩ := hashNames_ok id hid n h
    exact ⟨hashHeaderLine_written n hne hn,
      fun hm => (isAlnumDash_ne LF (List.all_eq_true.mp hn LF hm)).2.1 rfl, hof⟩
  · rw [hashName_eq_none id hid] at h; cases h

theorem hashHeaderLine_LF : hashHeaderLine [LF] = none := by decide
theorem isBlankLine_LF : isBlankLine [LF] = true := by decide
theorem LF_notin_header : LF ∉ csfHeaderLine := by decide
theorem LF_notin_hashTag : LF ∉ hashTag := by decide
theorem lineContent_header : lineContent (csfHeaderLine ++ [LF]) = some csfHeaderLine := by decide

theorem mapM_cons_eq_some {α β : Type} (f : α → Option β) (a : α) (as : List α) (bs : List β)
    (h : (a :: as).mapM f = some bs) : ∃ b bs', f a = some b ∧ as.mapM f = some bs' ∧ bs = b :: bs' := by
  rw [List.mapM_cons] at h
  cases hb : f a with
  | none => rw [hb] at h; cases h
  | some b =>
    cases hbs : as.mapM f with
    | none => rw [hb, hbs] at h; cases h
    | some bs' => rw [hb, hbs] at h; exact ⟨b, bs', rfl, rfl, (Option.some.inj h).symm⟩

theorem readHashHeaders_written (ids : List Nat) (names : List Bytes) (body : Bytes)
    (hn : ids.mapM hashName = some names) :
    readHashHeaders (splitInclusive ((names.map fun n => hashTag ++ n ++ [LF]).flatten ++ LF :: body)) =
      some (names, splitInclusive body) ∧ validateHeaders names = some ids := by
  induction ids generalizing names with
  | nil =>
    rw [List.mapM_nil] at hn
    cases Option.some.inj hn
    refine ⟨?_, rfl⟩
    rw [List.map_nil, List.flatten_nil, List.nil_append, splitInclusive_cons_LF, readHashHeaders, hashHeaderLine_LF,
      isBlankLine_LF]
    rfl
  | cons id ids ih =>
    obtain ⟨n, ns, h1, h2, rfl⟩ := mapM_cons_eq_some _ _ _ _ hn
    obtain ⟨hl, hnl, hof⟩ := hashName_spec id n h1
    obtain ⟨ih1, ih2⟩ := ih ns h2
    have hX : LF ∉ hashTag ++ n := fun h => (List.mem_append.mp h).elim LF_notin_hashTag hnl
    constructor
    · rw [List.map_cons, List.flatten_cons, List.append_assoc, List.append_assoc, List.singleton_append,
        splitInclusive_line _ _ hX, readHashHeaders, hl, ih1]
      rfl
    · rw [validateHeaders, List.mapM_cons, hof, ← validateHeaders, ih2]
      rfl

/-- `from_string (to_armored_string m)` up to the signature block, on the model -/
theorem readDoc_writeDoc (ids : List Nat) (names : List Bytes) (t sig : Bytes)
    (hn : ids.mapM hashName = some names) (hsig : fiveDashes <+: sig) :
    readDoc (writeDoc names (dashEscape t) sig) = some (ids, dashEscape t, sig) := by
  obtain ⟨h1, h2⟩ := readHashHeaders_written ids names (dashEscape t ++ sepFixed (dashEscape t) ++ sig) hn
  have hb := readCleartextBody_sepFixed t sig hsig
  rw [readCleartextBody] at hb
  have e : writeDoc names (dashEscape t) sig =
      csfHeaderLine ++ LF :: ((names.map fun n => hashTag ++ n ++ [LF]).flatten ++
        LF :: (dashEscape t ++ sepFixed (dashEscape t) ++ sig)) := by
    simp only [writeDoc, sepFixed, List.append_assoc, List.cons_append, List.nil_append]
  rw [readDoc, e, splitInclusive_line _ _ LF_notin_header]
  simp only [lineContent_header, if_true, h1, h2, hb]
  rfl

end Rpgp
