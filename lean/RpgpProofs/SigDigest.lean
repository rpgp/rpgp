import RpgpProofs.Framing
import RpgpProofs.Canon
import RpgpModel.SigDigest
/-! Proofs about signature pre-images (C11, shared with C02): the pre-image as salt, subject and
tail; parsing it back from the end; normal forms of the hashing routines; code = specification. -/
namespace Rpgp.SigDigest

theorem lenField_two (n : Nat) : lenField 2 n = if n < 65536 then some (be16 n) else none := by
  simp [lenField, be16]

theorem lenField_four (n : Nat) : lenField 4 n = if n < 4294967296 then some (be32 n) else none := by
  simp [lenField, be32]

theorem lenField_map_eq_some {α : Type} (w n : Nat) (f : Bytes → α) (out : α) :
    (lenField w n).map f = some out ↔ n < 256 ^ w ∧ f (beBytes w n) = out := by
  unfold lenField
  split <;> simp [*]

/-! ## the specification: salt, subject, tail -/

/-- the part of the pre-image after the subject -/
def Spec.tailBytes (i : Spec.Input) : Bytes :=
  match i.ver with
  | .v3 => i.typ :: be32 i.created
  | _ => Spec.hashedFields i ++ Spec.trailerBytes i

def Spec.saltPart (i : Spec.Input) : Bytes :=
  match i.ver with
  | .v6 => i.salt
  | _ => []

theorem Spec.preimage_eq (i : Spec.Input) :
    Spec.preimage i = Spec.saltPart i ++ Spec.subjectBytes i.ver i.typ i.subject ++ Spec.tailBytes i := by
  unfold Spec.preimage Spec.saltPart Spec.tailBytes
  cases h : i.ver <;> simp [List.append_assoc]

theorem tailBytes_of_ne_v3 (i : Spec.Input) (hv : i.ver ≠ .v3) :
    Spec.tailBytes i = Spec.hashedFields i ++ ([i.ver.octet, 0xFF] ++ be32 (Spec.hashedFields i).length) := by
  unfold Spec.tailBytes Spec.trailerBytes
  cases h : i.ver
  · exact absurd h hv
  · rfl
  · rfl

theorem fields_length (v typ pk hash : Byte) (l area : Bytes) :
    ([v, typ, pk, hash] ++ l ++ area).length = 4 + l.length + area.length := by
  rw [List.length_append, List.length_append]
  rfl

theorem hashedFields_length (i : Spec.Input) (hv : i.ver ≠ .v3) :
    (Spec.hashedFields i).length = (if i.ver = .v4 then 6 else 8) + i.area.length := by
  unfold Spec.hashedFields
  cases h : i.ver
  · exact absurd h hv
  · rw [fields_length, be16_length]; rfl
  · rw [fields_length, be32_length]; rfl

theorem preimage_subject_iff (i : Spec.Input) (s s' : Spec.Subject) :
    Spec.preimage { i with subject := s } = Spec.preimage { i with subject := s' } ↔
      Spec.subjectBytes i.ver i.typ s = Spec.subjectBytes i.ver i.typ s' := by
  rw [Spec.preimage_eq, Spec.preimage_eq]
  exact List.append_left_inj _ |>.trans (List.append_right_inj _)

theorem doc_text_iff (i : Spec.Input) (d d' : Bytes) (ht : i.typ = 0x01) :
    Spec.preimage { i with subject := .document d } = Spec.preimage { i with subject := .document d' } ↔
      canon d = canon d' := by
  rw [preimage_subject_iff, Spec.subjectBytes, Spec.subjectBytes, if_pos ht, if_pos ht]

theorem doc_binary_iff (i : Spec.Input) (d d' : Bytes) (ht : i.typ ≠ 0x01) :
    Spec.preimage { i with subject := .document d } = Spec.preimage { i with subject := .document d' } ↔
      d = d' := by
  rw [preimage_subject_iff, Spec.subjectBytes, Spec.subjectBytes, if_neg ht, if_neg ht]

theorem Spec.WF_iff (i : Spec.Input) : Spec.WF i = true ↔
    (Spec.subjectWF i.ver i.subject = true ∧ Spec.classOf i.typ = some i.subject.cls ∧
      ∀ d, i.subject = .document d → i.typ = 0x01 → canon d = d) ∧
    match i.ver with
    | .v3 => i.area = [] ∧ i.salt = [] ∧ i.created < 4294967296
    | .v4 => i.area.length < 65536 ∧ i.salt = [] ∧ i.created = 0
    | .v6 => i.area.length + 8 < 4294967296 ∧ Spec.saltSize i.hash = some i.salt.length ∧ i.created = 0 := by
  simp only [Spec.WF, Bool.and_eq_true, beq_iff_eq, and_assoc]
  refine and_congr_right fun _ => and_congr_right fun _ => and_congr ?_ ?_
  · cases i.subject with
    | document d => by_cases ht : i.typ = 0x01 <;> simp [ht]
    | _ => simp
  · cases i.ver <;>
      simp only [Bool.and_eq_true, decide_eq_true_eq, List.isEmpty_iff, beq_iff_eq, and_assoc]

/-! ## parsing the pre-image back -/

theorem Ver.octet_inj {a b : Ver} (h : a.octet = b.octet) : a = b := by
  cases a <;> cases b <;> first | rfl | exact absurd h (by decide)

theorem fields_trailer_inj {x x' f f' : Bytes} {v v' : Byte}
    (hf : f.length < 4294967296) (hf' : f'.length < 4294967296)
    (h : x ++ (f ++ ([v, 0xFF] ++ be32 f.length)) = x' ++ (f' ++ ([v', 0xFF] ++ be32 f'.length))) :
    x = x' ∧ f = f' ∧ v = v' := by
  rw [← List.append_assoc x f, ← List.append_assoc x' f'] at h
  obtain ⟨hxf, ht⟩ := List.append_inj' h (by simp [be32_length])
  simp only [List.cons_append, List.nil_append, List.cons.injEq, true_and] at ht
  obtain ⟨hx, hf⟩ := List.append_inj' hxf (be32_inj _ _ hf hf' ht.2)
  exact ⟨hx, hf, ht.1⟩

theorem hashedFields_inj (a b : Spec.Input) (hv : a.ver = b.ver) (ha : a.ver ≠ .v3)
    (h : Spec.hashedFields a = Spec.hashedFields b) :
    a.typ = b.typ ∧ a.pk = b.pk ∧ a.hash = b.hash ∧ a.area = b.area := by
  unfold Spec.hashedFields at h
  rw [← hv] at h
  cases hva : a.ver
  · exact absurd hva ha
  all_goals
    simp only [hva, List.cons_append, List.nil_append, List.cons.injEq, true_and] at h
    exact ⟨h.1, h.2.1, h.2.2.1, (List.append_inj h.2.2.2 (by simp only [be16_length, be32_length])).2⟩

theorem tailBytes_append_inj (a b : Spec.Input) (x y : Bytes) (ha : a.ver ≠ .v3) (hb : b.ver ≠ .v3)
    (la : (Spec.hashedFields a).length < 4294967296) (lb : (Spec.hashedFields b).length < 4294967296)
    (h : x ++ Spec.tailBytes a = y ++ Spec.tailBytes b) :
    x = y ∧ a.ver = b.ver ∧ a.typ = b.typ ∧ a.pk = b.pk ∧ a.hash = b.hash ∧ a.area = b.area := by
  rw [tailBytes_of_ne_v3 a ha, tailBytes_of_ne_v3 b hb] at h
  obtain ⟨hx, hf, hv⟩ := fields_trailer_inj la lb h
  exact ⟨hx, Ver.octet_inj hv, hashedFields_inj a b (Ver.octet_inj hv) ha hf⟩

theorem framed_append_inj {w : Nat} {o o' : Byte} {b b' r r' : Bytes}
    (hb : b.length < 256 ^ w) (hb' : b'.length < 256 ^ w)
    (h : o :: (beBytes w b.length ++ b) ++ r = o' :: (beBytes w b'.length ++ b') ++ r') :
    o = o' ∧ b = b' ∧ r = r' := by
  simp only [List.cons_append, List.cons.injEq, List.append_assoc] at h
  obtain ⟨hl, hbr⟩ := List.append_inj h.2 (by rw [beBytes_length, beBytes_length])
  exact ⟨h.1, List.append_inj hbr (beBytes_inj hb hb' hl)⟩

theorem keyBytes_append_inj (k k' : Spec.Key) (r r' : Bytes)
    (hk : Spec.keyWF k = true) (hk' : Spec.keyWF k' = true)
    (h : Spec.keyBytes k ++ r = Spec.keyBytes k' ++ r') : k = k' ∧ r = r' := by
  obtain ⟨f, b⟩ := k
  obtain ⟨f', b'⟩ := k'
  cases f <;> cases f' <;> simp only [Spec.keyBytes, Spec.keyWF, decide_eq_true_eq] at h hk hk'
  · obtain ⟨-, rfl, rfl⟩ := framed_append_inj (w := 2) hk hk' h
    exact ⟨rfl, rfl⟩
  · cases (List.cons.inj h).1
  · cases (List.cons.inj h).1
  · obtain ⟨-, rfl, rfl⟩ := framed_append_inj (w := 4) hk hk' h
    exact ⟨rfl, rfl⟩

theorem keyBytes_inj (k k' : Spec.Key) (hk : Spec.keyWF k = true) (hk' : Spec.keyWF k' = true)
    (h : Spec.keyBytes k = Spec.keyBytes k') : k = k' :=
  (keyBytes_append_inj k k' [] [] hk hk' (by rw [List.append_nil, List.append_nil, h])).1

theorem idBytes_inj (ver : Ver) (hv : ver ≠ .v3) (a a' : Bool) (b b' : Bytes)
    (h : Spec.idBytes ver a b = Spec.idBytes ver a' b') : a = a' ∧ b = b' := by
  cases ver
  · exact absurd rfl hv
  all_goals
    obtain ⟨h0, h1⟩ := List.cons.inj h
    refine ⟨?_, (List.append_inj h1 (by rw [be32_length, be32_length])).2⟩
    cases a <;> cases a' <;> first | rfl | cases h0

theorem subjectBytes_inj (ver : Ver) (hv : ver ≠ .v3) (typ : Byte) (s s' : Spec.Subject)
    (hc : s.cls = s'.cls) (w : Spec.subjectWF ver s = true) (w' : Spec.subjectWF ver s' = true)
    (hcan : ∀ d, s = .document d → typ = 0x01 → canon d = d)
    (hcan' : ∀ d, s' = .document d → typ = 0x01 → canon d = d)
    (h : Spec.subjectBytes ver typ s = Spec.subjectBytes ver typ s') : s = s' := by
  cases s <;> cases s' <;> simp only [Spec.Subject.cls, reduceCtorEq] at hc
  · rename_i d d'
    simp only [Spec.subjectBytes] at h
    by_cases ht : typ = 0x01
    · rw [if_pos ht, if_pos ht, hcan d rfl ht, hcan' d' rfl ht] at h
      rw [h]
    · rw [if_neg ht, if_neg ht] at h
      rw [h]
  · rw [keyBytes_inj _ _ w w' h]
  · rename_i k a b k' a' b'
    obtain ⟨rfl, h2⟩ := keyBytes_append_inj k k' _ _ (Bool.and_eq_true_iff.1 w).1 (Bool.and_eq_true_iff.1 w').1 h
    obtain ⟨rfl, rfl⟩ := idBytes_inj ver hv a a' b b' h2
    rfl
  · rename_i p q p' q'
    have w := Bool.and_eq_true_iff.1 w
    have w' := Bool.and_eq_true_iff.1 w'
    obtain ⟨rfl, h2⟩ := keyBytes_append_inj p p' _ _ w.1 w'.1 h
    rw [keyBytes_inj q q' w.2 w'.2 h2]

theorem wf_of_ne_v3 (i : Spec.Input) (w : Spec.WF i = true) (hv : i.ver ≠ .v3) :
    (Spec.hashedFields i).length < 4294967296 ∧ Spec.saltPart i = i.salt ∧ i.created = 0 := by
  have h := ((Spec.WF_iff i).1 w).2
  rw [hashedFields_length i hv]
  unfold Spec.saltPart
  cases hver : i.ver <;> rw [hver] at h
  · exact absurd hver hv
  · exact ⟨Nat.lt_trans (Nat.add_lt_add_left h.1 6) (by decide), h.2.1.symm, h.2.2⟩
  · exact ⟨Nat.add_comm _ _ ▸ h.1, rfl, h.2.2⟩

theorem wf_salt_length (a b : Spec.Input) (wa : Spec.WF a = true) (wb : Spec.WF b = true)
    (hv : a.ver = b.ver) (hh : a.hash = b.hash) : a.salt.length = b.salt.length := by
  have ha := ((Spec.WF_iff a).1 wa).2
  have hb := ((Spec.WF_iff b).1 wb).2
  rw [← hv] at hb
  cases hver : a.ver <;> rw [hver] at ha hb
  · rw [ha.2.1, hb.2.1]
  · rw [ha.2.1, hb.2.1]
  · exact Option.some.inj (by rw [← ha.2.1, ← hb.2.1, hh])

/-- Parse back from the end: the trailer says where the hashed fields begin, these give version and
hash algorithm, hence the size of the salt; between salt and hashed fields is the framed subject. -/
theorem preimage_injective (a b : Spec.Input) (ha : a.ver ≠ .v3) (hb : b.ver ≠ .v3)
    (wa : Spec.WF a = true) (wb : Spec.WF b = true) (h : Spec.preimage a = Spec.preimage b) : a = b := by
  obtain ⟨la, sa, cra⟩ := wf_of_ne_v3 a wa ha
  obtain ⟨lb, sb, crb⟩ := wf_of_ne_v3 b wb hb
  obtain ⟨swa, cla, cana⟩ := ((Spec.WF_iff a).1 wa).1
  obtain ⟨swb, clb, canb⟩ := ((Spec.WF_iff b).1 wb).1
  rw [Spec.preimage_eq, Spec.preimage_eq, sa, sb] at h
  obtain ⟨hx, hver, htyp, hpk, hhash, harea⟩ := tailBytes_append_inj a b _ _ ha hb la lb h
  obtain ⟨hsalt, hS⟩ := List.append_inj hx (wf_salt_length a b wa wb hver hhash)
  rw [← hver] at swb
  rw [← htyp] at clb canb
  rw [← hver, ← htyp] at hS
  have hsub := subjectBytes_inj a.ver ha a.typ a.subject b.subject (Option.some.inj (cla.symm.trans clb))
    swa swb cana canb hS
  cases a
  cases b
  exact Spec.Input.mk.injEq .. ▸ ⟨hver, htyp, hpk, hhash, harea, hsalt, cra.trans crb.symm, hsub⟩

theorem preimage_injective_v4 (a b : Spec.Input) (ha : a.ver = .v4) (hb : b.ver = .v4)
    (wa : Spec.WF a = true) (wb : Spec.WF b = true) (h : Spec.preimage a = Spec.preimage b) : a = b :=
  preimage_injective a b (by simp [ha]) (by simp [hb]) wa wb h

theorem preimage_injective_v6 (a b : Spec.Input) (ha : a.ver = .v6) (hb : b.ver = .v6)
    (wa : Spec.WF a = true) (wb : Spec.WF b = true) (h : Spec.preimage a = Spec.preimage b) : a = b :=
  preimage_injective a b (by simp [ha]) (by simp [hb]) wa wb h

/-- version 3: type, creation time and the subject octets are recovered (the v3 framing of
certifications does not separate User IDs from User Attributes, so the statement stops at the
subject octets) -/
theorem preimage_injective_v3 (a b : Spec.Input) (ha : a.ver = .v3) (hb : b.ver = .v3)
    (wa : Spec.WF a = true) (wb : Spec.WF b = true) (h : Spec.preimage a = Spec.preimage b) :
    a.typ = b.typ ∧ a.created = b.created ∧
      Spec.subjectBytes .v3 a.typ a.subject = Spec.subjectBytes .v3 b.typ b.subject := by
  have ca := ((Spec.WF_iff a).1 wa).2
  have cb := ((Spec.WF_iff b).1 wb).2
  rw [ha] at ca
  rw [hb] at cb
  simp only [Spec.preimage, ha, hb] at h
  obtain ⟨hS, hT⟩ := List.append_inj' h (by simp [be32_length])
  simp only [List.cons.injEq] at hT
  exact ⟨hT.1, be32_inj _ _ ca.2.2 cb.2.2 hT.2, hS⟩

/-! ## the code: hashed fields and trailer -/

theorem hashedFields_map (v typ pk hash : Byte) (w : Nat) (area : Bytes) :
    ((lenField w area.length).map fun l =>
      let res := [v, typ, pk, hash] ++ l ++ area
      (res, res.length)) =
    if area.length < 256 ^ w then
      some ([v, typ, pk, hash] ++ beBytes w area.length ++ area, 4 + w + area.length) else none := by
  unfold lenField
  split
  · simp only [Option.map_some, fields_length, beBytes_length]
  · rfl

theorem hashSignatureData_v4 (c : Cfg) (h : c.ver = .v4) :
    hashSignatureData c = if c.area.length < 65536 then
      some ([4, c.typ, c.pk, c.hash] ++ be16 c.area.length ++ c.area, 6 + c.area.length) else none := by
  simp only [hashSignatureData, h]
  exact hashedFields_map 4 c.typ c.pk c.hash 2 c.area

theorem hashSignatureData_v6 (c : Cfg) (h : c.ver = .v6) :
    hashSignatureData c = if saltSizeOk c = true ∧ c.area.length < 4294967296 then
      some ([6, c.typ, c.pk, c.hash] ++ be32 c.area.length ++ c.area, 8 + c.area.length) else none := by
  simp only [hashSignatureData, h]
  cases saltSizeOk c
  · rfl
  · simp only [true_and]
    exact hashedFields_map 6 c.typ c.pk c.hash 4 c.area

theorem trailer_of_ne_v3 (c : Cfg) (len : Nat) (hv : c.ver ≠ .v3) :
    trailer c len = if len < 4294967296 then some ([c.ver.octet, 0xFF] ++ be32 len) else none := by
  unfold trailer
  cases h : c.ver
  · exact absurd h hv
  all_goals
    show Option.map _ (lenField 4 len) = _
    rw [lenField_four]
    split <;> rfl

theorem fieldsAndTrailer_v3 (c : Cfg) (h : c.ver = .v3) :
    fieldsAndTrailer c = some (c.typ :: be32 c.created) := by
  simp [fieldsAndTrailer, hashSignatureData, trailer, h, Gen.sdHsdV3Len, be32]

theorem fieldsAndTrailer_v4 (c : Cfg) (h : c.ver = .v4) :
    fieldsAndTrailer c =
      if c.area.length < 65536 then
        some ([4, c.typ, c.pk, c.hash] ++ be16 c.area.length ++ c.area ++ ([4, 0xFF] ++ be32 (6 + c.area.length)))
      else none := by
  unfold fieldsAndTrailer
  rw [hashSignatureData_v4 c h]
  by_cases hl : c.area.length < 65536
  · simp only [if_pos hl, trailer_of_ne_v3 c _ (h ▸ nofun), h]
    rw [if_pos (Nat.lt_trans (Nat.add_lt_add_left hl 6) (by decide))]
    rfl
  · simp only [if_neg hl]

theorem fieldsAndTrailer_v6 (c : Cfg) (h : c.ver = .v6) :
    fieldsAndTrailer c =
      if saltSizeOk c = true ∧ c.area.length + 8 < 4294967296 then
        some ([6, c.typ, c.pk, c.hash] ++ be32 c.area.length ++ c.area ++ ([6, 0xFF] ++ be32 (8 + c.area.length)))
      else none := by
  unfold fieldsAndTrailer
  rw [hashSignatureData_v6 c h]
  by_cases hs : saltSizeOk c = true ∧ c.area.length < 4294967296
  · rw [if_pos hs]
    simp only [hs.1, true_and, trailer_of_ne_v3 c _ (h ▸ nofun), h]
    by_cases hl : c.area.length + 8 < 4294967296
    · rw [if_pos hl, if_pos (Nat.add_comm _ _ ▸ hl)]
      rfl
    · rw [if_neg hl, if_neg (Nat.add_comm _ _ ▸ hl)]
      rfl
  · rw [if_neg hs, if_neg (fun hc => hs ⟨hc.1, Nat.lt_of_le_of_lt (Nat.le_add_right _ _) hc.2⟩)]

theorem fieldsAndTrailer_fits (c : Cfg) (ft : Bytes) (h : fieldsAndTrailer c = some ft) :
    saltSizeOk c = true ∧
    match c.ver with
    | .v3 => True
    | .v4 => c.area.length < 65536
    | .v6 => c.area.length + 8 < 4294967296 := by
  cases hv : c.ver
  · exact ⟨by simp [saltSizeOk, hv], trivial⟩
  · rw [fieldsAndTrailer_v4 c hv] at h
    exact ⟨by simp [saltSizeOk, hv], Decidable.byContradiction fun hl => by simp [hl] at h⟩
  · rw [fieldsAndTrailer_v6 c hv] at h
    exact Decidable.byContradiction fun hl => by simp [hl] at h

theorem fieldsAndTrailer_saltSizeOk (c : Cfg) (ft : Bytes) (h : fieldsAndTrailer c = some ft) :
    saltSizeOk c = true :=
  (fieldsAndTrailer_fits c ft h).1

@[simp] theorem toInput_ver (c : Cfg) (s : Spec.Subject) : (c.toInput s).ver = c.ver := rfl
@[simp] theorem toInput_typ (c : Cfg) (s : Spec.Subject) : (c.toInput s).typ = c.typ := rfl
@[simp] theorem toInput_subject (c : Cfg) (s : Spec.Subject) : (c.toInput s).subject = s := rfl
@[simp] theorem toInput_pk (c : Cfg) (s : Spec.Subject) : (c.toInput s).pk = c.pk := rfl
@[simp] theorem toInput_hash (c : Cfg) (s : Spec.Subject) : (c.toInput s).hash = c.hash := rfl

theorem toInput_area (c : Cfg) (s : Spec.Subject) (hv : c.ver ≠ .v3) : (c.toInput s).area = c.area := by
  cases h : c.ver
  · exact absurd h hv
  all_goals simp only [Cfg.toInput, h]

theorem toInput_hashedFields_lt (c : Cfg) (s : Spec.Subject) (ft : Bytes) (h : fieldsAndTrailer c = some ft)
    (hv : c.ver ≠ .v3) : (Spec.hashedFields (c.toInput s)).length < 4294967296 := by
  have hb := (fieldsAndTrailer_fits c ft h).2
  rw [hashedFields_length _ hv, toInput_ver, toInput_area c s hv]
  cases hc : c.ver <;> rw [hc] at hb
  · exact absurd hc hv
  · exact Nat.lt_trans (Nat.add_lt_add_left hb 6) (by decide)
  · exact Nat.add_comm _ _ ▸ hb

theorem fieldsAndTrailer_eq_spec (c : Cfg) (ft : Bytes) (s : Spec.Subject)
    (h : fieldsAndTrailer c = some ft) : ft = Spec.tailBytes (c.toInput s) := by
  obtain ⟨hs, hf⟩ := fieldsAndTrailer_fits c ft h
  cases hv : c.ver <;> rw [hv] at hf
  · rw [fieldsAndTrailer_v3 c hv] at h
    simp only [Spec.tailBytes, Cfg.toInput, hv]
    exact (Option.some.inj h).symm
  · have hv' : (c.toInput s).ver ≠ .v3 := by simp [hv]
    rw [fieldsAndTrailer_v4 c hv, if_pos hf] at h
    rw [← Option.some.inj h, tailBytes_of_ne_v3 _ hv', hashedFields_length _ hv']
    simp only [Spec.hashedFields, Cfg.toInput, hv]
    rfl
  · have hv' : (c.toInput s).ver ≠ .v3 := by simp [hv]
    rw [fieldsAndTrailer_v6 c hv, if_pos ⟨hs, hf⟩] at h
    rw [← Option.some.inj h, tailBytes_of_ne_v3 _ hv', hashedFields_length _ hv']
    simp only [Spec.hashedFields, Cfg.toInput, hv]
    rfl

/-- `HashAlgorithm::salt_len` is RFC 9580 table 23: the six tabulated algorithms one by one;
everywhere else both tables are empty -/
theorem saltLenOf_eq_spec (h : Byte) : Gen.sdSaltLenOf h.toNat = Spec.saltSize h := by
  by_cases hm : h ∈ [8, 9, 10, 11, 12, 14]
  · simp only [List.mem_cons, List.not_mem_nil, or_false] at hm
    rcases hm with rfl | rfl | rfl | rfl | rfl | rfl <;> rfl
  · simp only [List.mem_cons, List.not_mem_nil, or_false, not_or] at hm
    have hn : ∀ k : Nat, ¬ h = k.toUInt8 → ¬ h.toNat = k := fun k hk he => hk (by rw [← he, toNat_toUInt8])
    simp only [Spec.saltSize, hm, Gen.sdSaltLenOf, Gen.sdHashIdSha224, Gen.sdHashIdSha256, Gen.sdHashIdSha384,
      Gen.sdHashIdSha512, Gen.sdHashIdSha3256, Gen.sdHashIdSha3512, hn 8 hm.1, hn 9 hm.2.1, hn 10 hm.2.2.1,
      hn 11 hm.2.2.2.1, hn 12 hm.2.2.2.2.1, hn 14 hm.2.2.2.2.2, if_false]

theorem saltSizeOk_v6 (c : Cfg) (hv : c.ver = .v6) :
    saltSizeOk c = true ↔ Spec.saltSize c.hash = some c.salt.length := by
  simp [saltSizeOk, hv, saltLenOf_eq_spec]

/-! ## every routine hashes the specification's pre-image -/

theorem serializeForHashing_eq (k : Key) (out : Bytes) (h : serializeForHashing k = some out)
    (ht : k.ser.truthful) : out = Spec.keyBytes k.toSpec ∧ Spec.keyWF k.toSpec = true := by
  unfold Ser.truthful at ht
  unfold serializeForHashing at h
  split at h
  · have h6 : k.ver ≠ 6 := by omega
    obtain ⟨hl, rfl⟩ := (lenField_map_eq_some 2 _ _ _).1 h
    simp only [Key.toSpec, if_neg h6, Spec.keyBytes, Spec.keyWF, ← ht, decide_eq_true hl]
    exact ⟨rfl, trivial⟩
  · split at h
    · rename_i h6
      obtain ⟨hl, rfl⟩ := (lenField_map_eq_some 4 _ _ _).1 h
      simp only [Key.toSpec, if_pos h6, Spec.keyBytes, Spec.keyWF, ← ht, decide_eq_true hl]
      exact ⟨rfl, trivial⟩
    · cases h

theorem typText_eq : typText = 1 := by decide
theorem typBinary_eq : typBinary = 0 := by decide

theorem signAligned_not_v3 (c : Cfg) (sv : Nat) (h : signAligned c sv = true) : c.ver ≠ .v3 := by
  intro hv
  simp [signAligned, hv] at h

theorem saltBytes_eq_spec (c : Cfg) (s : Spec.Subject) : saltBytes c = Spec.saltPart (c.toInput s) := by
  cases h : c.ver <;> simp [saltBytes, Spec.saltPart, Cfg.toInput, h]

/-- what a successful hashing routine establishes: the octets it hashed are the specification's
pre-image of `s`, every length fitted its field -/
def Established (c : Cfg) (s : Spec.Subject) (p : Bytes) : Prop :=
  p = Spec.preimage (c.toInput s) ∧ Spec.subjectWF c.ver s = true ∧ (fieldsAndTrailer c).isSome = true

/-- a guard of a routine, `if !b { return Err }` -/
theorem guard_eq_some {α : Type} {b : Bool} {x : Option α} {p : α} :
    (if (!b) = true then none else x) = some p ↔ b = true ∧ x = some p := by
  cases b <;> simp

theorem established_of_map (c : Cfg) (s : Spec.Subject) (body p : Bytes)
    (hb : body = Spec.subjectBytes c.ver c.typ s) (hs : Spec.subjectWF c.ver s = true)
    (h : (fieldsAndTrailer c).map (fun ft => saltBytes c ++ body ++ ft) = some p) :
    Established c s p := by
  obtain ⟨ft, hft, rfl⟩ := Option.map_eq_some_iff.1 h
  refine ⟨?_, hs, by rw [hft]; rfl⟩
  rw [Spec.preimage_eq, ← saltBytes_eq_spec, ← fieldsAndTrailer_eq_spec c ft s hft, hb]
  rfl

theorem classOf_direct (t : Byte) (h : (t == Gen.sdSigTypeKey.toUInt8 || t == Gen.sdSigTypeKeyRevocation.toUInt8) = true) :
    Spec.classOf t = some .direct := by
  simp only [Bool.or_eq_true, beq_iff_eq] at h
  rcases h with rfl | rfl <;> rfl

theorem classOf_cert (t : Byte) (h : isCertification t = true) : Spec.classOf t = some .cert := by
  simp only [isCertification, Bool.or_eq_true, beq_iff_eq] at h
  rcases h with (((rfl | rfl) | rfl) | rfl) | rfl <;> rfl

theorem classOf_bind_sub (t : Byte)
    (h : (t == Gen.sdSigTypeSubkeyBinding.toUInt8 || t == Gen.sdSigTypeSubkeyRevocation.toUInt8) = true) :
    Spec.classOf t = some .bind := by
  simp only [Bool.or_eq_true, beq_iff_eq] at h
  rcases h with rfl | rfl <;> rfl

theorem classOf_bind_prim (t : Byte) (h : (t == Gen.sdSigTypeKeyBinding.toUInt8) = true) :
    Spec.classOf t = some .bind := by
  rw [beq_iff_eq] at h
  subst h
  rfl

theorem classOf_doc (t : Byte) (h : (t == typBinary || t == typText) = true) :
    Spec.classOf t = some .doc := by
  simp only [Bool.or_eq_true, beq_iff_eq] at h
  rcases h with rfl | rfl <;> rfl

theorem key_established (c : Cfg) (k : Key) (p : Bytes) (ht : k.ser.truthful)
    (h : (match serializeForHashing k with
      | none => none
      | some kb => (fieldsAndTrailer c).map fun ft => saltBytes c ++ kb ++ ft) = some p) :
    Established c (.directKey k.toSpec) p := by
  split at h
  · cases h
  · rename_i kb hk
    have hk' := serializeForHashing_eq k kb hk ht
    exact established_of_map c _ kb p hk'.1 hk'.2 h

theorem signKey_eq_spec (c : Cfg) (sv : Nat) (k : Key) (p : Bytes) (h : signKey c sv k = some p)
    (ht : k.ser.truthful) :
    Established c (.directKey k.toSpec) p ∧ Spec.classOf c.typ = some .direct := by
  simp only [signKey, guard_eq_some] at h
  exact ⟨key_established c k p ht h.2.2, classOf_direct c.typ h.2.1⟩

theorem verifyKey_eq_spec (c : Cfg) (sv : Nat) (k : Key) (p : Bytes) (h : verifyKey c sv k = some p)
    (ht : k.ser.truthful) :
    Established c (.directKey k.toSpec) p ∧ Spec.classOf c.typ = some .direct := by
  simp only [verifyKey, guard_eq_some] at h
  exact ⟨key_established c k p ht h.2.2, classOf_direct c.typ h.1⟩

theorem binding_established (c : Cfg) (pk sk : Key) (p : Bytes)
    (tp : pk.ser.truthful) (ts : sk.ser.truthful)
    (h : (match serializeForHashing pk, serializeForHashing sk with
      | some pb, some sb => (fieldsAndTrailer c).map fun ft => saltBytes c ++ pb ++ sb ++ ft
      | _, _ => none) = some p) :
    Established c (.binding pk.toSpec sk.toSpec) p := by
  split at h
  · rename_i pb sb hp hs
    have h1 := serializeForHashing_eq pk pb hp tp
    have h2 := serializeForHashing_eq sk sb hs ts
    refine established_of_map c _ (pb ++ sb) p (by rw [h1.1, h2.1]; rfl) ?_ (by simpa only [List.append_assoc] using h)
    simp only [Spec.subjectWF, h1.2, h2.2, Bool.and_self]
  · cases h

theorem signSubkeyBinding_eq_spec (c : Cfg) (sv : Nat) (pk sk : Key) (p : Bytes)
    (h : signSubkeyBinding c sv pk sk = some p) (tp : pk.ser.truthful) (ts : sk.ser.truthful) :
    Established c (.binding pk.toSpec sk.toSpec) p ∧ Spec.classOf c.typ = some .bind := by
  simp only [signSubkeyBinding, guard_eq_some] at h
  exact ⟨binding_established c pk sk p tp ts h.2.2, classOf_bind_sub _ h.2.1⟩

theorem signPrimaryKeyBinding_eq_spec (c : Cfg) (sv : Nat) (pk sk : Key) (p : Bytes)
    (h : signPrimaryKeyBinding c sv pk sk = some p) (tp : pk.ser.truthful) (ts : sk.ser.truthful) :
    Established c (.binding pk.toSpec sk.toSpec) p ∧ Spec.classOf c.typ = some .bind := by
  simp only [signPrimaryKeyBinding, guard_eq_some] at h
  exact ⟨binding_established c pk sk p tp ts h.2.2, classOf_bind_prim _ h.2.1⟩

theorem verifySubkeyBinding_eq_spec (c : Cfg) (pk sk : Key) (p : Bytes)
    (h : verifySubkeyBinding c pk sk = some p) (tp : pk.ser.truthful) (ts : sk.ser.truthful) :
    Established c (.binding pk.toSpec sk.toSpec) p ∧ Spec.classOf c.typ = some .bind := by
  simp only [verifySubkeyBinding, guard_eq_some] at h
  exact ⟨binding_established c pk sk p tp ts h.2.2, classOf_bind_sub _ h.1⟩

theorem verifyPrimaryKeyBinding_eq_spec (c : Cfg) (sk pk : Key) (p : Bytes)
    (h : verifyPrimaryKeyBinding c sk pk = some p) (tp : pk.ser.truthful) (ts : sk.ser.truthful) :
    Established c (.binding pk.toSpec sk.toSpec) p ∧ Spec.classOf c.typ = some .bind := by
  simp only [verifyPrimaryKeyBinding, guard_eq_some] at h
  exact ⟨binding_established c pk sk p tp ts h.2.2, classOf_bind_prim _ h.1⟩

theorem idPrefix_eq_spec (ver : Ver) (tag : Nat) (body pre : Bytes)
    (h : idPrefix ver 0xB4 0xD1 4 tag body.length = some pre) :
    pre ++ body = Spec.idBytes ver (tag == tagUserAttribute) body ∧
    (ver == .v3 || decide (body.length < 4294967296)) = true := by
  cases ver
  · obtain rfl := Option.some.inj h
    exact ⟨rfl, rfl⟩
  all_goals
    simp only [idPrefix] at h
    split at h
    · rename_i ht
      obtain ⟨hl, rfl⟩ := (lenField_map_eq_some 4 _ _ _).1 h
      subst ht
      exact ⟨rfl, by rw [decide_eq_true hl, Bool.or_true]⟩
    · split at h
      · rename_i ht
        obtain ⟨hl, rfl⟩ := (lenField_map_eq_some 4 _ _ _).1 h
        subst ht
        exact ⟨rfl, by rw [decide_eq_true hl, Bool.or_true]⟩
      · cases h

theorem certification_established (c : Cfg) (k : Key) (tag len : Nat) (id : Ser) (p : Bytes)
    (ht : k.ser.truthful) (hl : len = id.bytes.length)
    (h : (match serializeForHashing k with
      | none => none
      | some kb =>
        match idPrefix c.ver 0xB4 0xD1 4 tag len with
        | none => none
        | some pre => (fieldsAndTrailer c).map fun ft => saltBytes c ++ kb ++ pre ++ id.bytes ++ ft) = some p) :
    Established c (.certification k.toSpec (tag == tagUserAttribute) id.bytes) p := by
  subst hl
  split at h
  · cases h
  · rename_i kb hk
    split at h
    · cases h
    · rename_i pre hpre
      have hk' := serializeForHashing_eq k kb hk ht
      have hid := idPrefix_eq_spec c.ver tag id.bytes pre hpre
      refine established_of_map c _ (kb ++ (pre ++ id.bytes)) p (by rw [hk'.1, hid.1]; rfl) ?_
        (by simpa only [List.append_assoc] using h)
      simp only [Spec.subjectWF, hk'.2, hid.2, Bool.and_self]

theorem signCertification_eq_spec (c : Cfg) (sv : Nat) (k : Key) (tag : Nat) (id : Ser) (p : Bytes)
    (h : signCertification c sv k tag id = some p) (ht : k.ser.truthful) :
    Established c (.certification k.toSpec (tag == tagUserAttribute) id.bytes) p ∧
    Spec.classOf c.typ = some .cert := by
  simp only [signCertification, guard_eq_some] at h
  exact ⟨certification_established c k tag _ id p ht rfl h.2.2, classOf_cert c.typ h.2.1⟩

theorem verifyCertification_eq_spec (c : Cfg) (sv : Nat) (k : Key) (tag : Nat) (id : Ser) (p : Bytes)
    (h : verifyCertification c sv k tag id = some p) (ht : k.ser.truthful) (hi : id.truthful) :
    Established c (.certification k.toSpec (tag == tagUserAttribute) id.bytes) p ∧
    Spec.classOf c.typ = some .cert := by
  simp only [verifyCertification, guard_eq_some] at h
  exact ⟨certification_established c k tag _ id p ht hi h.2.2, classOf_cert c.typ h.1⟩

theorem docBytes_eq_spec (c : Cfg) (d : Bytes) :
    (if c.typ = typText then canon d else d) = Spec.subjectBytes c.ver c.typ (.document d) := by
  simp [Spec.subjectBytes, typText_eq]

theorem hashDataToSign_doc (c : Cfg) (x : Bytes) (hty : c.typ = typBinary ∨ c.typ = typText) :
    hashDataToSign c x = some x :=
  if_pos hty.symm

theorem signData_eq_spec (c : Cfg) (sv : Nat) (chunks : List Bytes) (p : Bytes)
    (h : signData c sv chunks = some p) :
    Established c (.document chunks.flatten) p ∧ Spec.classOf c.typ = some .doc := by
  simp only [signData, guard_eq_some, hashedText_eq_canon] at h
  exact ⟨established_of_map c _ _ p (docBytes_eq_spec c _) rfl h.2.2, classOf_doc c.typ h.2.1⟩

/-- the inline reader runs `hash_signature_data` and `trailer` before it looks at type and
alignment; as a condition on its result the order does not matter -/
theorem verifyInline_eq_some (c : Cfg) (sv : Nat) (chunks : List Bytes) (p : Bytes) :
    verifyInline c sv chunks = some p ↔
      saltSizeOk c = true ∧ (c.typ == typBinary || c.typ == typText) = true ∧ verifyAligned c sv = true ∧
      (fieldsAndTrailer c).map (fun ft =>
        saltBytes c ++ (if c.typ = typText then canon chunks.flatten else chunks.flatten) ++ ft) = some p := by
  simp only [verifyInline, guard_eq_some, hashedText_eq_canon]
  cases fieldsAndTrailer c with
  | none => exact ⟨fun h => (nomatch h.2), fun h => (nomatch h.2.2.2)⟩
  | some ft => simp only [guard_eq_some, Option.map_some]

theorem verifyInline_eq_spec (c : Cfg) (sv : Nat) (chunks : List Bytes) (p : Bytes)
    (h : verifyInline c sv chunks = some p) :
    Established c (.document chunks.flatten) p ∧ Spec.classOf c.typ = some .doc :=
  have h := (verifyInline_eq_some c sv chunks p).1 h
  ⟨established_of_map c _ _ p (docBytes_eq_spec c _) rfl h.2.2.2, classOf_doc c.typ h.2.1⟩

theorem verifyData_eq_spec (c : Cfg) (sv : Nat) (d : Bytes) (p : Bytes)
    (hty : c.typ = typBinary ∨ c.typ = typText)
    (h : verifyData c sv d = some p) :
    Established c (.document d) p := by
  simp only [verifyData, guard_eq_some, normalizedRead_eq_canon _ (by decide : 0 < Gen.normalizedReaderWindow),
    hashDataToSign_doc c _ hty] at h
  exact established_of_map c _ _ p (docBytes_eq_spec c _) rfl h.2.2

/-! ## what a successful routine has established -/

theorem established_ends_with_tail (c : Cfg) (s : Spec.Subject) (p : Bytes) (h : Established c s p) :
    Spec.tailBytes (c.toInput s) <:+ p := by
  rw [h.1, Spec.preimage_eq]
  exact List.suffix_append _ _

/-- the creation time enters a v3 pre-image only, hence the shape of `hcr` -/
theorem Established.wf {c : Cfg} {s : Spec.Subject} {p : Bytes} (h : Established c s p)
    (hcls : Spec.classOf c.typ = some s.cls)
    (hcan : ∀ d, s = .document d → c.typ = 0x01 → canon d = d)
    (hcr : c.ver = .v3 → c.created < 4294967296) :
    Spec.WF (c.toInput s) = true := by
  obtain ⟨ft, hft⟩ := Option.isSome_iff_exists.1 h.2.2
  obtain ⟨hsalt, hfit⟩ := fieldsAndTrailer_fits c ft hft
  refine (Spec.WF_iff _).2 ⟨⟨h.2.1, hcls, hcan⟩, ?_⟩
  cases hv : c.ver <;> rw [hv] at hfit <;> simp only [Cfg.toInput, hv]
  · exact ⟨trivial, trivial, hcr hv⟩
  · exact ⟨hfit, trivial, trivial⟩
  · exact ⟨hfit, (saltSizeOk_v6 c hv).1 hsalt, trivial⟩

theorem established_inj (c c' : Cfg) (s s' : Spec.Subject) (p : Bytes)
    (h : Established c s p) (h' : Established c' s' p) (hv : c.ver ≠ .v3) (hv' : c'.ver ≠ .v3)
    (hcls : Spec.classOf c.typ = some s.cls) (hcls' : Spec.classOf c'.typ = some s'.cls)
    (hcan : ∀ d, s = .document d → c.typ = 0x01 → canon d = d)
    (hcan' : ∀ d, s' = .document d → c'.typ = 0x01 → canon d = d) :
    c.toInput s = c'.toInput s' :=
  preimage_injective _ _ hv hv' (h.wf hcls hcan fun e => absurd e hv) (h'.wf hcls' hcan' fun e => absurd e hv')
    (h.1.symm.trans h'.1)

end Rpgp.SigDigest
