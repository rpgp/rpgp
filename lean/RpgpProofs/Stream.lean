import RpgpModel.Stream
/-! Lemmas about sources, `fill_buffer` and buffered producers (C09 and the streaming parts of C01/C06/C14). -/
namespace Rpgp

def AllNonEmpty (src : List Bytes) : Prop := ∀ c ∈ src, c ≠ []

theorem isEmpty_take_eq_false {l : Bytes} {n : Nat} (hl : l ≠ []) (hn : 0 < n) : (l.take n).isEmpty = false :=
  match l, n, hl, hn with
  | _ :: _, _ + 1, _, _ => rfl

theorem take_append_prefix {a x y : Bytes} (n : Nat) (h : x <+: a.drop n ++ y) : a.take n ++ x <+: a ++ y := by
  rw [← List.take_append_drop n a, List.append_assoc, List.take_append_drop]
  exact (List.prefix_append_right_inj _).mpr h

/-! ## `fill_buffer` over a fault-free source -/

theorem srcRead_spec (src : List Bytes) (n : Nat) (h : AllNonEmpty src) (hn : 0 < n) :
    (srcRead src n).1 ++ (srcRead src n).2.flatten = src.flatten ∧
    (srcRead src n).1.length ≤ n ∧
    AllNonEmpty (srcRead src n).2 ∧
    ((srcRead src n).1 = [] → src = []) := by
  cases src with
  | nil => exact ⟨rfl, Nat.zero_le _, h, fun _ => rfl⟩
  | cons c cs =>
    have hc : c ≠ [] := h c List.mem_cons_self
    have hcs : AllNonEmpty cs := fun x hx => h x (List.mem_cons_of_mem _ hx)
    simp only [srcRead]
    split
    · exact ⟨rfl, ‹_›, hcs, fun h' => absurd h' hc⟩
    · refine ⟨?_, List.length_take_le _ _, ?_, fun h' => ?_⟩
      · rw [List.flatten_cons, ← List.append_assoc, List.take_append_drop, List.flatten_cons]
      · intro x hx
        rcases List.mem_cons.mp hx with rfl | hx
        · exact fun h' => by rw [List.drop_eq_nil_iff] at h'; omega
        · exact hcs x hx
      · have := isEmpty_take_eq_false hc hn
        rw [show c.take n = [] from h'] at this
        cases this

theorem fillBuffer_spec : ∀ (fuel : Nat) (src : List Bytes) (n : Nat),
    AllNonEmpty src → n < fuel →
    (fillBuffer fuel src n).1 = src.flatten.take n ∧
    (fillBuffer fuel src n).2.flatten = src.flatten.drop n ∧
    AllNonEmpty (fillBuffer fuel src n).2 := by
  intro fuel src n
  fun_induction fillBuffer fuel src n with
  | case1 => intro _ h; omega
  | case2 => intro h _; exact ⟨rfl, rfl, h⟩
  | case3 fuel src n hn got src' hrd hemp =>
    intro h _
    obtain ⟨h1, -, h3, h4⟩ := srcRead_spec src n h (Nat.pos_of_ne_zero hn)
    rw [hrd] at h1 h3 h4
    cases List.isEmpty_iff.mp hemp
    cases h4 rfl
    exact ⟨List.take_nil.symm, h1.trans List.drop_nil.symm, h3⟩
  | case4 fuel src n hn got src' hrd hne more src'' hrec ih =>
    intro h hf
    obtain ⟨h1, h2, h3, -⟩ := srcRead_spec src n h (Nat.pos_of_ne_zero hn)
    rw [hrd] at h1 h2 h3
    have hpos : 0 < got.length := List.length_pos_iff.mpr (by simpa using hne)
    obtain ⟨i1, i2, i3⟩ := ih h3 (by omega)
    rw [hrec] at i1 i2 i3
    simp only at h1 h2 i1 i2 ⊢
    rw [← h1, List.take_append, List.drop_append, List.take_of_length_le h2, List.drop_eq_nil_of_le h2,
      List.nil_append, ← i1, ← i2]
    exact ⟨rfl, rfl, i3⟩

theorem fillBuffer_chunk_indep (s s' : List Bytes) (n : Nat)
    (h : AllNonEmpty s) (h' : AllNonEmpty s') (heq : s.flatten = s'.flatten) :
    (fillBuffer (n + 1) s n).1 = (fillBuffer (n + 1) s' n).1 := by
  rw [(fillBuffer_spec _ s n h (by omega)).1, (fillBuffer_spec _ s' n h' (by omega)).1, heq]

/-! ## buffered producers -/

/-- every refill block except possibly the last one (after which the component is in its
terminal state) is non-empty -/
def NoSpuriousEOF (bs : List Bytes) : Prop := AllNonEmpty bs.dropLast

theorem NoSpuriousEOF.nil : NoSpuriousEOF [] := fun _ h => nomatch h

theorem NoSpuriousEOF.singleton (b : Bytes) : NoSpuriousEOF [b] := fun _ h => nomatch h

theorem NoSpuriousEOF.cons {b : Bytes} {bs : List Bytes} (hb : b ≠ []) (h : NoSpuriousEOF bs) :
    NoSpuriousEOF (b :: bs) := by
  cases bs with
  | nil => exact .singleton b
  | cons c cs =>
    intro x hx
    rcases List.mem_cons.mp hx with rfl | hx
    · exact hb
    · exact h x hx

theorem NoSpuriousEOF.tail {b : Bytes} {bs : List Bytes} (h : NoSpuriousEOF (b :: bs)) : NoSpuriousEOF bs := by
  cases bs with
  | nil => exact .nil
  | cons c cs => exact fun x hx => h x (List.mem_cons_of_mem _ hx)

theorem NoSpuriousEOF.head {b : Bytes} {bs : List Bytes} (h : NoSpuriousEOF (b :: bs)) (hne : bs ≠ []) : b ≠ [] := by
  cases bs with
  | nil => exact absurd rfl hne
  | cons c cs => exact h b List.mem_cons_self

theorem bpDrain_refill (b : Bytes) (bs : List Bytes) (reqs : List Nat) (hb : b ≠ []) :
    bpDrain [] (b :: bs) reqs = bpDrain b bs reqs := by
  match b, reqs, hb with
  | _, [], _ => rfl
  | _ :: _, _ :: _, _ => rfl

/-- an empty block before the end *is* a spurious EOF: the consumer stops early whatever it asks for
(the shape of defect D9a) -/
theorem bpDrain_spurious (post : List Bytes) (reqs : List Nat) (n : Nat) :
    bpDrain [] ([] :: post) (n :: reqs) = ([], true) := by
  simp [bpDrain, bpRead]

theorem bpDrain_cons (buf : Bytes) (bs : List Bytes) (n : Nat) (reqs : List Nat) (hb : buf ≠ []) (hn : 0 < n) :
    bpDrain buf bs (n :: reqs) =
      (buf.take n ++ (bpDrain (buf.drop n) bs reqs).1, (bpDrain (buf.drop n) bs reqs).2) := by
  match buf, hb with
  | x :: t, _ =>
    have := isEmpty_take_eq_false (List.cons_ne_nil x t) hn
    simp only [bpDrain, bpRead, this, Bool.false_eq_true, if_false]

theorem bpDrain_spec : ∀ (reqs : List Nat) (buf : Bytes) (bs : List Bytes),
    (∀ r ∈ reqs, 0 < r) → NoSpuriousEOF bs →
    (bpDrain buf bs reqs).1 <+: buf ++ bs.flatten ∧
    ((bpDrain buf bs reqs).2 = true → (bpDrain buf bs reqs).1 = buf ++ bs.flatten) := by
  intro reqs
  induction reqs with
  | nil => intro buf bs _ _; exact ⟨List.nil_prefix, fun h => nomatch h⟩
  | cons n reqs ih =>
    intro buf bs hr hb
    have hr' : ∀ r ∈ reqs, 0 < r := fun r h => hr r (List.mem_cons_of_mem _ h)
    have step : ∀ (cur : Bytes) (bs : List Bytes), cur ≠ [] → NoSpuriousEOF bs →
        (bpDrain cur bs (n :: reqs)).1 <+: cur ++ bs.flatten ∧
        ((bpDrain cur bs (n :: reqs)).2 = true → (bpDrain cur bs (n :: reqs)).1 = cur ++ bs.flatten) := by
      intro cur bs hc hb
      rw [bpDrain_cons cur bs n reqs hc (hr n List.mem_cons_self)]
      obtain ⟨h1, h2⟩ := ih (cur.drop n) bs hr' hb
      exact ⟨take_append_prefix n h1,
        fun he => by rw [h2 he, ← List.append_assoc, List.take_append_drop]⟩
    match buf, bs with
    | [], [] => exact ⟨List.nil_prefix, fun _ => rfl⟩
    | [], b :: bs' =>
      by_cases hb0 : b = []
      · have : bs' = [] := Classical.byContradiction fun h => hb.head h hb0
        subst this hb0
        rw [bpDrain_spurious]
        exact ⟨List.nil_prefix, fun _ => rfl⟩
      · rw [bpDrain_refill b bs' _ hb0, List.nil_append, List.flatten_cons]
        exact step b bs' hb0 hb.tail
    | x :: t, bs => exact step (x :: t) bs (List.cons_ne_nil x t) hb

theorem bpDrain_request_indep (reqs reqs' : List Nat) (buf : Bytes) (bs : List Bytes)
    (h : ∀ r ∈ reqs, 0 < r) (h' : ∀ r ∈ reqs', 0 < r) (hb : NoSpuriousEOF bs)
    (he : (bpDrain buf bs reqs).2 = true) (he' : (bpDrain buf bs reqs').2 = true) :
    (bpDrain buf bs reqs).1 = (bpDrain buf bs reqs').1 := by
  rw [(bpDrain_spec reqs buf bs h hb).2 he, (bpDrain_spec reqs' buf bs h' hb).2 he']

/-! ## sources and refills that can fail -/

theorem evRead_bytes {src src' : List Ev} {n : Nat} {got : Bytes} (h : evRead src n = (.bytes got, src')) :
    evHasErr src = evHasErr src' ∧ evPrefix src = got ++ evPrefix src' ∧ got.length ≤ n := by
  match src with
  | [] => cases h; exact ⟨rfl, rfl, Nat.zero_le _⟩
  | .err :: _ => cases h
  | .data c :: es =>
    simp only [evRead] at h
    split at h <;> cases h
    · exact ⟨rfl, rfl, ‹_›⟩
    · exact ⟨rfl, by simp only [evPrefix, ← List.append_assoc, List.take_append_drop], List.length_take_le _ _⟩

theorem fillBufferEv_conserves : ∀ (fuel : Nat) (src : List Ev) (n : Nat) (bs : Bytes) (src' : List Ev),
    fillBufferEv fuel src n = some (bs, src') →
    evHasErr src = evHasErr src' ∧ evPrefix src = bs ++ evPrefix src' ∧ bs.length ≤ n := by
  intro fuel src n
  fun_induction fillBufferEv fuel src n with
  | case1 | case2 => intro bs src' h; cases h; exact ⟨rfl, rfl, Nat.zero_le _⟩
  | case3 => intro bs src' h; cases h
  | case4 fuel src n hn got src1 hrd hemp =>
    intro bs src' h
    cases h
    cases List.isEmpty_iff.mp hemp
    exact evRead_bytes hrd
  | case5 => intro bs src' h; cases h
  | case6 fuel src n hn got src1 hrd hne more src2 hrec ih =>
    intro bs src' h
    cases h
    obtain ⟨h1, h2, h3⟩ := evRead_bytes hrd
    obtain ⟨i1, i2, i3⟩ := ih more src2 hrec
    exact ⟨h1.trans i1, by rw [h2, i2, List.append_assoc], by rw [List.length_append]; omega⟩

theorem bpDrainF_refill (b : Bytes) (bs : List (Option Bytes)) (reqs : List Nat) (hb : b ≠ []) :
    bpDrainF [] (some b :: bs) reqs = bpDrainF b bs reqs := by
  match b, reqs, hb with
  | _, [], _ => rfl
  | _ :: _, _ :: _, _ => rfl

theorem bpDrainF_cons (buf : Bytes) (bs : List (Option Bytes)) (n : Nat) (reqs : List Nat) (hb : buf ≠ [])
    (hn : 0 < n) :
    bpDrainF buf bs (n :: reqs) =
      (buf.take n ++ (bpDrainF (buf.drop n) bs reqs).1, (bpDrainF (buf.drop n) bs reqs).2) := by
  match buf, hb with
  | x :: t, _ =>
    have := isEmpty_take_eq_false (List.cons_ne_nil x t) hn
    simp only [bpDrainF, this, Bool.false_eq_true, if_false]

theorem bpDrainF_clean : ∀ (reqs : List Nat) (buf : Bytes) (bs : List (Option Bytes)) (out : Bytes),
    (∀ r ∈ reqs, 0 < r) → (∀ x, some x ∈ bs.dropLast → x ≠ []) →
    bpDrainF buf bs reqs = (out, some true) →
    none ∉ bs ∧ out = buf ++ (bs.filterMap id).flatten := by
  intro reqs
  induction reqs with
  | nil => intro buf bs out _ _ h; cases h
  | cons n reqs ih =>
    intro buf bs out hr hne h
    have hr' : ∀ r ∈ reqs, 0 < r := fun r h => hr r (List.mem_cons_of_mem _ h)
    have step : ∀ (cur : Bytes) (bs : List (Option Bytes)), cur ≠ [] → (∀ x, some x ∈ bs.dropLast → x ≠ []) →
        bpDrainF cur bs (n :: reqs) = (out, some true) → none ∉ bs ∧ out = cur ++ (bs.filterMap id).flatten := by
      intro cur bs hc hne h
      rw [bpDrainF_cons cur bs n reqs hc (hr n List.mem_cons_self)] at h
      obtain ⟨hout, hst⟩ := Prod.mk.inj h
      obtain ⟨h1, h2⟩ := ih (cur.drop n) bs (bpDrainF (cur.drop n) bs reqs).1 hr' hne (Prod.ext rfl hst)
      exact ⟨h1, by rw [← hout, h2, ← List.append_assoc, List.take_append_drop]⟩
    match buf, bs with
    | [], [] => cases h; exact ⟨List.not_mem_nil, rfl⟩
    | [], none :: _ => cases h
    | [], some b :: bs' =>
      have hne' : ∀ x, some x ∈ bs'.dropLast → x ≠ [] := by
        intro x hx
        cases bs' with
        | nil => cases hx
        | cons c cs => exact hne x (List.mem_cons_of_mem _ hx)
      by_cases hb0 : b = []
      · -- an empty block can only be the last one
        have : bs' = [] := by
          cases bs' with
          | nil => rfl
          | cons c cs => exact absurd hb0 (hne b List.mem_cons_self)
        subst this hb0
        simp only [bpDrainF, List.take_nil, List.isEmpty_nil, if_true] at h
        cases h
        exact ⟨by simp, rfl⟩
      · rw [bpDrainF_refill b bs' _ hb0] at h
        obtain ⟨h1, h2⟩ := step b bs' hb0 hne' h
        exact ⟨fun hm => (List.mem_cons.mp hm).elim (fun e => nomatch e) h1, h2⟩
    | x :: t, bs => exact step (x :: t) bs (List.cons_ne_nil x t) hne h

end Rpgp
