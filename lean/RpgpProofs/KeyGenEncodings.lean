import RpgpProofs.Mpi
/-!
# KeyGenEncodings — what sits on top of the MPI codec: re-padded scalars (`padKey`), EdDSA legacy
signature halves, prefixed native points
-/
namespace Rpgp.KeyGen

theorem padKey_eq_some {n : Nat} {v k : Bytes} :
    padKey n v = some k ↔ v.length ≤ n ∧ List.replicate (n - v.length) 0 ++ v = k := by
  by_cases h : v.length ≤ n <;> simp [padKey, h]

theorem padKey_too_long (n : Nat) (v : Bytes) (h : n < v.length) : padKey n v = none :=
  if_neg (by omega)

theorem padKey_length {n : Nat} {v k : Bytes} (h : padKey n v = some k) : k.length = n := by
  obtain ⟨hle, rfl⟩ := padKey_eq_some.mp h
  rw [List.length_append, List.length_replicate]; omega

theorem padKey_beNat {n : Nat} {v k : Bytes} (h : padKey n v = some k) : beNat k = beNat v := by
  obtain ⟨_, rfl⟩ := padKey_eq_some.mp h
  exact beNat_replicate_zero _ v

theorem padKey_stripZeros (n : Nat) (x : Bytes) (h : x.length = n) : padKey n (stripZeros x) = some x := by
  subst h
  rw [padKey, if_pos (stripZeros_length_le x), replicate_stripZeros]

theorem eddsaSigBytes_eq_padKey (r s : Bytes) :
    eddsaSigBytes r s = (padKey 32 r).bind fun a => (padKey 32 s).map (a ++ ·) := by
  simp only [eddsaSigBytes, padKey, Gen.eddsaSigRLimit, Gen.eddsaSigSLimit, Gen.eddsaSigHalf, Gen.eddsaSigLen,
    Nat.lt_succ_iff]
  by_cases hr : r.length ≤ 32 <;> by_cases hs : s.length ≤ 32 <;> simp [hr, hs]

theorem mpiRead_nativePointMpi (pfx : Nat) (p rest : Bytes) (h0 : pfx.toUInt8 ≠ 0) (hl : p.length < 2048) :
    mpiRead (nativePointMpi pfx p ++ rest) = some (pfx.toUInt8 :: p, rest) := by
  have hn : Normalized (pfx.toUInt8 :: p) := h0
  rw [nativePointMpi, mpiFromSlice, stripZeros_of_normalized _ hn,
    mpiRead_mpiWrite_normalized _ rest hn (by rw [List.length_cons]; omega)]

end Rpgp.KeyGen
