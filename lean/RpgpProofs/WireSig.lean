import RpgpProofs.WireEsk
/-! Signature packets of `RpgpModel/Wire.lean`: subpacket lengths, subpackets, subpacket areas, the
signature material and the three packet layouts (v2/v3, v4/v6, unknown version). -/
namespace Rpgp.Wire
open Rpgp

/-! ## subpacket lengths -/

theorem subLenSer_length (form len : Nat) (h : SubLenWF form len) :
    (subLenSer form len).length = subLenWriteLen form := by
  rcases h with ⟨rfl, _⟩ | ⟨rfl, _⟩ | ⟨rfl, _⟩
  · rfl
  · rfl
  · exact congrArg (· + 1) (be32_length len)

theorem subLen_parse_two (q m : Nat) (rest : Bytes) (hq : q < 63) (hm : m < 256) :
    subLenParse ((q + 192).toUInt8 :: m.toUInt8 :: rest) = some (2, q * 256 + 192 + m, rest) := by
  have c1 : ¬ q + 192 ≤ 191 := by omega
  have c2 : q + 192 ≤ 254 := by omega
  simp only [subLenParse, toUInt8_toNat_of_lt (q + 192) (by omega), toUInt8_toNat_of_lt m hm, Gen.subLenOneMax,
    Gen.subLenTwoMax, c1, c2, Nat.add_sub_cancel, ↓reduceIte]

theorem subLen_parse_ser (form len : Nat) (rest : Bytes) (h : SubLenWF form len) :
    subLenParse (subLenSer form len ++ rest) = some (form, len, rest) := by
  rcases h with ⟨rfl, hl⟩ | ⟨rfl, h1, h2⟩ | ⟨rfl, hl⟩
  · have e : len.toUInt8.toNat = len := toUInt8_toNat_of_lt _ (by omega)
    simp only [subLenSer, List.cons_append, List.nil_append, subLenParse, e, Gen.subLenOneMax, hl, ↓reduceIte]
  · have := subLen_parse_two ((len - 192) / 256) ((len - 192) % 256) rest
      (Nat.div_lt_of_lt_mul (by omega)) (Nat.mod_lt _ (by decide))
    rwa [Nat.add_right_comm, Nat.div_add_mod', Nat.sub_add_cancel h1] at this
  · simp only [subLenSer, Nat.reduceEqDiff, List.cons_append, subLenParse, Gen.subLenOneMax,
      Gen.subLenTwoMax, UInt8.reduceToNat, Nat.reduceLeDiff, take_append' 4 _ rest (be32_length len),
      beNat_be32 len hl, ↓reduceIte]

theorem subLen_parse_spec {b : Bytes} {form len : Nat} {r : Bytes} :
    subLenParse b = some (form, len, r) → SubLenWF form len ∧ b.length = subLenWriteLen form + r.length := by
  fun_cases subLenParse b <;> rintro ⟨⟩
  · rename_i h1
    exact ⟨Or.inl ⟨rfl, h1⟩, Nat.add_comm ..⟩
  · rename_i o h1 h2 a
    have := o.toNat_lt
    have := a.toNat_lt
    simp only [Gen.subLenOneMax, Gen.subLenTwoMax] at h1 h2
    exact ⟨Or.inr (Or.inl ⟨rfl, by omega, by omega⟩), Nat.add_comm _ 2⟩
  · rename_i ht
    obtain ⟨rfl, hl⟩ := take_eq_some ht
    exact ⟨Or.inr (Or.inr ⟨rfl, beNat_four_lt _ hl⟩), by simp [subLenWriteLen, hl]; omega⟩

theorem subLen_parse_wf {b : Bytes} {form len : Nat} {r : Bytes} (h : subLenParse b = some (form, len, r)) :
    SubLenWF form len :=
  (subLen_parse_spec h).1

theorem subLen_parse_consumed {b : Bytes} {form len : Nat} {r : Bytes} (h : subLenParse b = some (form, len, r)) :
    b.length = subLenWriteLen form + r.length :=
  (subLen_parse_spec h).2

/-! ## subpackets -/

theorem typeOctet_roundtrip (typ : Byte) (critical : Bool) (h : typ.toNat < 128) :
    let t := (typ.toNat + (if critical then 128 else 0)).toUInt8
    (t.toNat % 128).toUInt8 = typ ∧ decide (128 ≤ t.toNat) = critical := by
  cases critical
  · simp only [Bool.false_eq_true, Nat.add_zero, toNat_toUInt8, Nat.mod_eq_of_lt h, true_and, ↓reduceIte]
    exact decide_eq_false (by omega)
  · simp only [toUInt8_toNat_of_lt _ (show typ.toNat + 128 < 256 by omega), Nat.add_mod_right,
      Nat.mod_eq_of_lt h, toNat_toUInt8, true_and, ↓reduceIte]
    exact decide_eq_true (by omega)

theorem subSer_eq_some {s : Subpacket} {b : Bytes} : subSer s = some b →
    s.len = subDataWriteLen s.typ s.body + 1 ∧
      b = subLenSer s.form s.len ++ [(s.typ.toNat + (if s.critical then 128 else 0)).toUInt8] ++ s.body := by
  fun_cases subSer s <;> rintro ⟨⟩
  exact ⟨‹_›, rfl⟩

theorem sub_parse_ser (emb : Bytes → Option Bytes) (s : Subpacket) (b rest : Bytes) (hw : SubWF emb s)
    (hs : subSer s = some b) : subParse emb (b ++ rest) = some (s, rest) := by
  obtain ⟨hl, hlen, htyp, hnorm, -⟩ := hw
  obtain ⟨-, rfl⟩ := subSer_eq_some hs
  obtain ⟨h1, h2⟩ := typeOctet_roundtrip s.typ s.critical htyp
  have hne : ¬ (s.len = 0) := by omega
  have htk : take (s.len - 1) (s.body ++ rest) = some (s.body, rest) := take_append' _ _ _ (by omega)
  unfold subParse
  rw [List.append_assoc, List.append_assoc, subLen_parse_ser _ _ _ hl]
  simp only [hne, List.cons_append, List.nil_append, u8, htk, h1, hnorm, h2, ↓reduceIte]

/-- without the well-formedness assumption: what is written is as long as announced exactly when
`SubpacketData::write_len` agrees with the data's length (which `subDataWriteLen` does for every type:
the right-hand side holds by definition) -/
theorem sub_len_iff (s : Subpacket) (b : Bytes) (hl : SubLenWF s.form s.len) (hs : subSer s = some b) :
    b.length = subWriteLen s ↔ subDataWriteLen s.typ s.body = s.body.length := by
  obtain ⟨hlen, rfl⟩ := subSer_eq_some hs
  simp [subWriteLen, subLenSer_length _ _ hl]; omega

theorem sub_len (emb : Bytes → Option Bytes) (s : Subpacket) (b : Bytes) (hw : SubWF emb s) (hs : subSer s = some b) :
    b.length = subWriteLen s :=
  (sub_len_iff s b hw.1 hs).mpr hw.2.2.2.2

theorem sub_ser_some (emb : Bytes → Option Bytes) (s : Subpacket) (h : SubWF emb s) : ∃ b, subSer s = some b :=
  ⟨_, if_pos (h.2.2.2.2 ▸ h.2.1)⟩

theorem subSer_ne_nil {s : Subpacket} {a : Bytes} (h : subSer s = some a) : a ≠ [] := by
  obtain ⟨-, rfl⟩ := subSer_eq_some h
  simp

theorem boolOctet_idem (b : Byte) : boolOctet (boolOctet b) = boolOctet b := by
  unfold boolOctet; split <;> rfl

theorem normKind_spec (emb : Bytes → Option Bytes) (hemb : ∀ x y, emb x = some y → emb y = some y)
    (k : SubKind) (raw body : Bytes) (h : normKind emb k raw = some body) :
    body.length = raw.length ∧ normKind emb k body = some body := by
  -- most kinds only check the data and return it as it is: for them `h` is the claim
  have kept : raw = body → body.length = raw.length ∧ normKind emb k body = some body := by
    rintro rfl; exact ⟨rfl, h⟩
  cases k with
  | fixed n => exact kept (ite_some_eq h).2
  | atLeast n => exact kept (ite_some_eq h).2
  | even => exact kept (ite_some_eq h).2
  | any => exact kept (Option.some.inj h)
  | utf8 => simp only [normKind] at h; split at h <;> cases h; exact kept rfl
  | revKey =>
    cases raw with
    | nil => cases h
    | cons c t => exact kept (ite_some_eq h).2
  | fingerprint =>
    simp only [normKind] at h
    split at h
    · split at h
      · exact kept (ite_some_eq h).2
      · cases h
    · cases h
  | bool =>
    simp only [normKind] at h
    split at h <;> cases h
    exact ⟨rfl, congrArg (some [·]) (boolOctet_idem _)⟩
  | notationData =>
    simp only [normKind] at h
    split at h
    · rename_i f z1 z2 z3 n1 n2 v1 v2 rest
      split at h <;> cases h
      rename_i hc
      refine ⟨rfl, ?_⟩
      simp only [normKind, hc, and_self, ↓reduceIte]
      by_cases c : f.toNat = 128 <;> simp [c]
    · cases h
  | embedded =>
    simp only [normKind] at h
    split at h
    · rename_i out ho
      split at h <;> cases h
      rename_i hl
      exact ⟨hl, by simp only [normKind, hemb _ _ ho, ↓reduceIte]⟩
    · cases h

theorem sub_parse_wf (emb : Bytes → Option Bytes) (hemb : ∀ x y, emb x = some y → emb y = some y)
    {b : Bytes} {s : Subpacket} {r : Bytes} : subParse emb b = some (s, r) → SubWF emb s := by
  fun_cases subParse emb b <;> rintro ⟨⟩
  rename_i hl hne t r1 hu raw body hn ht
  have hm : t.toNat % 128 < 128 := Nat.mod_lt _ (by decide)
  obtain ⟨l1, l2⟩ := normKind_spec emb hemb _ raw body hn
  refine ⟨subLen_parse_wf hl, ?_, (toUInt8_toNat_of_lt _ (Nat.lt_trans hm (by decide))).symm ▸ hm, l2, rfl⟩
  rw [l1, (take_eq_some ht).2]
  exact (Nat.sub_add_cancel (Nat.pos_of_ne_zero hne)).symm

theorem sub_parse_consumed {emb : Bytes → Option Bytes} {b : Bytes} {s : Subpacket} {r : Bytes} :
    subParse emb b = some (s, r) → b.length = subWriteLen s + r.length := by
  fun_cases subParse emb b <;> rintro ⟨⟩
  rename_i hl hne t r1 hu raw body hn ht
  obtain rfl := u8_eq_some hu
  obtain ⟨rfl, hraw⟩ := take_eq_some ht
  rw [subLen_parse_consumed hl, ← List.cons_append, List.length_append, List.length_cons, hraw,
    Nat.sub_add_cancel (Nat.pos_of_ne_zero hne), Nat.add_left_comm, ← Nat.add_assoc]
  rfl

/-! ## subpacket areas -/

theorem areaSer_cons {s : Subpacket} {ss : List Subpacket} {b : Bytes} (h : areaSer (s :: ss) = some b) :
    ∃ a t, subSer s = some a ∧ areaSer ss = some t ∧ b = a ++ t := by
  simp only [areaSer] at h
  split at h <;> cases h
  exact ⟨_, _, ‹_›, ‹_›, rfl⟩

theorem area_parse_ser (emb : Bytes → Option Bytes) (ss : List Subpacket) : ∀ (b : Bytes) (fuel : Nat),
    (∀ s ∈ ss, SubWF emb s) → areaSer ss = some b → ss.length ≤ fuel → areaParse emb fuel b = some ss := by
  induction ss with
  | nil => rintro b fuel - ⟨⟩ -; cases fuel <;> rfl
  | cons s t ih =>
    intro b fuel hw h hf
    obtain ⟨a, tb, ha, ht, rfl⟩ := areaSer_cons h
    obtain _ | f := fuel
    · exact absurd hf (Nat.not_succ_le_zero _)
    rw [List.forall_mem_cons] at hw
    have hne : (a ++ tb).isEmpty = false := by
      cases a with
      | nil => exact absurd rfl (subSer_ne_nil ha)
      | cons => rfl
    simp only [areaParse, hne, Bool.false_eq_true, sub_parse_ser emb s a tb hw.1 ha,
      ih tb f hw.2 ht (Nat.le_of_succ_le_succ hf), ↓reduceIte]

theorem area_len (emb : Bytes → Option Bytes) (ss : List Subpacket) : ∀ (b : Bytes),
    (∀ s ∈ ss, SubWF emb s) → areaSer ss = some b → b.length = areaWriteLen ss := by
  induction ss with
  | nil => rintro b - ⟨⟩; rfl
  | cons s t ih =>
    intro b hw h
    obtain ⟨a, tb, ha, ht, rfl⟩ := areaSer_cons h
    rw [List.forall_mem_cons] at hw
    rw [List.length_append, sub_len emb s a hw.1 ha, ih tb hw.2 ht]
    rfl

theorem area_length_ge (ss : List Subpacket) (b : Bytes) (h : areaSer ss = some b) : ss.length ≤ b.length := by
  induction ss generalizing b with
  | nil => exact Nat.zero_le _
  | cons s t ih =>
    obtain ⟨a, tb, ha, ht, rfl⟩ := areaSer_cons h
    have := List.length_pos_iff.mpr (subSer_ne_nil ha)
    have := ih tb ht
    rw [List.length_append, List.length_cons]
    omega

theorem area_ser_some (emb : Bytes → Option Bytes) (ss : List Subpacket) (h : ∀ s ∈ ss, SubWF emb s) :
    ∃ b, areaSer ss = some b := by
  induction ss with
  | nil => exact ⟨[], rfl⟩
  | cons s t ih =>
    rw [List.forall_mem_cons] at h
    obtain ⟨a, ha⟩ := sub_ser_some emb s h.1
    obtain ⟨b, hb⟩ := ih h.2
    exact ⟨a ++ b, by simp only [areaSer, ha, hb]⟩

theorem area_parse_wf (emb : Bytes → Option Bytes) (hemb : ∀ x y, emb x = some y → emb y = some y)
    (fuel : Nat) (b : Bytes) (ss : List Subpacket) : areaParse emb fuel b = some ss → ∀ s ∈ ss, SubWF emb s := by
  fun_induction areaParse emb fuel b generalizing ss <;> rintro ⟨⟩
  · nofun
  · nofun
  · rename_i hs _ ht ih
    exact List.forall_mem_cons.mpr ⟨sub_parse_wf emb hemb hs, ih _ ht⟩

theorem area_parse_len (emb : Bytes → Option Bytes) (fuel : Nat) (b : Bytes) (ss : List Subpacket) :
    areaParse emb fuel b = some ss → areaWriteLen ss = b.length := by
  fun_induction areaParse emb fuel b generalizing ss <;> rintro ⟨⟩
  · rename_i he; rw [List.isEmpty_iff.mp he]; rfl
  · rename_i he; rw [List.isEmpty_iff.mp he]; rfl
  · rename_i hs _ ht ih
    rw [sub_parse_consumed hs, ← ih _ ht]
    rfl

/-- the fuel the signature parser gives is enough for what the serialiser wrote -/
theorem area_parse_ser_self (emb : Bytes → Option Bytes) (ss : List Subpacket) (b : Bytes)
    (hw : ∀ s ∈ ss, SubWF emb s) (hs : areaSer ss = some b) : areaParse emb (b.length + 1) b = some ss :=
  area_parse_ser emb ss b (b.length + 1) hw hs (Nat.le_succ_of_le (area_length_ge ss b hs))

theorem areaParseCanon_iff {emb : Bytes → Option Bytes} {raw : Bytes} {hs : List Subpacket} :
    areaParseCanon emb raw = some hs ↔ areaParse emb (raw.length + 1) raw = some hs ∧ areaSer hs = some raw := by
  unfold areaParseCanon
  constructor
  · split
    · nofun
    · split <;> rintro ⟨⟩
      exact ⟨‹_›, ‹_›⟩
  · rintro ⟨hp, hc⟩
    simp only [hp, hc, ↓reduceIte]

/-! ## signature material -/

theorem sigBytes_len (sb : SigBytes) : (sigBytesSer sb).length = sigBytesWriteLen sb := by
  cases sb with
  | mpis ms => exact mpisSer_length ms
  | native b => rfl

theorem sigBytes_parse_ser (pk : Byte) (sb : SigBytes) (h : SigBytesWF pk sb) :
    sigBytesParse pk (sigBytesSer sb) = some sb := by
  cases sb with
  | mpis ms =>
    obtain ⟨hc, hw⟩ := h
    have := mpis_parse_ser ms [] hw
    rw [List.append_nil] at this
    simp only [sigBytesParse, sigBytesSer, hc, this, List.isEmpty_nil, ↓reduceIte]
  | native b =>
    obtain ⟨hc, h16, h27⟩ := h
    by_cases c : pk.toNat = 27
    · have := h27 c ▸ take_all b
      simp only [sigBytesParse, sigBytesSer, hc, c, this, List.isEmpty_nil, Nat.reduceEqDiff, ↓reduceIte]
    · simp only [sigBytesParse, sigBytesSer, hc, h16, c, ↓reduceIte]

theorem sigBytes_parse_wf {pk : Byte} {b : Bytes} {sb : SigBytes} : sigBytesParse pk b = some sb →
    SigBytesWF pk sb := by
  fun_cases sigBytesParse pk b <;> rintro ⟨⟩
  · obtain ⟨hl, hw⟩ := mpis_parse_wf _ _ _ _ ‹_›
    exact ⟨hl ▸ ‹_›, hw⟩
  · exact ⟨‹_›, ‹_›, fun _ => (take_eq_some ‹_›).2⟩
  · exact ⟨‹_›, ‹_›, fun c => absurd c ‹_›⟩

/-! ## signature packets -/

theorem areaLen_pow (v6 : Bool) : 256 ^ areaLenOctets v6 = if v6 then 4294967296 else 65536 := by
  cases v6 <;> rfl

theorem sigSer_v4_eq_some {v6 : Bool} {typ pk hash : Byte} {hashed unhashed : List Subpacket}
    {left salt : Bytes} {sb : SigBytes} {b : Bytes}
    (h : sigSer (.v4 v6 typ pk hash hashed unhashed left salt sb) = some b) :
    ∃ ha ua, areaSer hashed = some ha ∧ areaSer unhashed = some ua ∧ salt.length < 256 ∧
      b = (if v6 then 6 else 4) :: typ :: pk :: hash ::
        beBytes (areaLenOctets v6) (areaWriteLen hashed) ++ ha ++
        beBytes (areaLenOctets v6) (areaWriteLen unhashed) ++ ua ++ left ++
        (if v6 then salt.length.toUInt8 :: salt else []) ++ sigBytesSer sb := by
  simp only [sigSer] at h
  split at h
  · obtain ⟨hc, rfl⟩ := ite_some_eq h
    exact ⟨_, _, ‹_›, ‹_›, hc.2.2, rfl⟩
  · cases h

theorem sig_len (emb : Bytes → Option Bytes) (s : Sig) (b : Bytes) (hw : SigWF emb s) (hs : sigSer s = some b) :
    b.length = sigWriteLen s := by
  cases s with
  | v3 ver typ created issuer pk hash left sb =>
    cases hs
    simp +arith only [List.length_cons, List.length_append, List.length_nil, sigBytes_len, sigWriteLen]
  | unknown ver data => cases hs; exact Nat.add_comm ..
  | v4 v6 typ pk hash hashed unhashed left salt sb =>
    obtain ⟨ha, ua, hh, hu, -, rfl⟩ := sigSer_v4_eq_some hs
    have l1 := area_len emb hashed ha hw.1 hh
    have l2 := area_len emb unhashed ua hw.2.1 hu
    cases v6 <;>
      simp +arith only [List.length_cons, List.length_append, List.length_nil, beBytes_length, sigBytes_len, l1, l2,
        sigWriteLen, areaLenOctets, Bool.false_eq_true, ↓reduceIte]

/-- the version octet of a v4 / v6 signature selects the v4 / v6 layout -/
theorem sigVersion_spec (v6 : Bool) :
    ¬ (((if v6 then 6 else 4 : Byte)).toNat = 2 ∨ ((if v6 then 6 else 4 : Byte)).toNat = 3) ∧
      (((if v6 then 6 else 4 : Byte)).toNat = 4 ∨ ((if v6 then 6 else 4 : Byte)).toNat = 6) ∧
      decide (((if v6 then 6 else 4 : Byte)).toNat = 6) = v6 := by
  cases v6 <;> decide

theorem sig_parse_ser (emb : Bytes → Option Bytes) (s : Sig) (b : Bytes) (hw : SigWF emb s)
    (hs : sigSer s = some b) : sigParse emb b = some s := by
  cases s with
  | v3 ver typ created issuer pk hash left sb =>
    obtain ⟨hv, hc, hi, hl, hsb⟩ := hw
    cases hs
    obtain ⟨l1, l2, rfl⟩ := length_two hl
    simp only [sigParse, u8, hv, ↓reduceIte, Gen.sigV3HashedLen, UInt8.reduceToNat, ne_eq, not_true_eq_false,
      List.append_assoc, take_append' 4 created _ hc, take_append' 8 issuer _ hi, List.cons_append,
      List.nil_append, sigBytes_parse_ser pk sb hsb]
  | unknown ver data =>
    obtain ⟨h2, h3, h4, h6⟩ := hw
    cases hs
    simp only [sigParse, u8, h2, h3, h4, h6, or_self, ↓reduceIte]
  | v4 v6 typ pk hash hashed unhashed left salt sb =>
    obtain ⟨hh, hu, hl, hsb, hv⟩ := hw
    obtain ⟨ha, ua, hh', hu', hs256, rfl⟩ := sigSer_v4_eq_some hs
    obtain ⟨v1, v2, v3⟩ := sigVersion_spec v6
    have l1 := area_len emb hashed ha hh hh'
    have l2 := area_len emb unhashed ua hu hu'
    have pc := areaParseCanon_iff.mpr ⟨area_parse_ser_self emb hashed ha hh hh', hh'⟩
    have p2 := area_parse_ser_self emb unhashed ua hu hu'
    have n1 : beNat (beBytes (areaLenOctets v6) ha.length) = ha.length :=
      beNat_beBytes_of_lt (by rw [areaLen_pow, l1]; cases v6 <;> exact hv.2.1)
    have n2 : beNat (beBytes (areaLenOctets v6) ua.length) = ua.length :=
      beNat_beBytes_of_lt (by rw [areaLen_pow, l2]; cases v6 <;> exact hv.2.2)
    simp only [sigParse, List.cons_append, List.append_assoc, u8, v1, v2, v3, ↓reduceIte, ← l1, ← l2,
      take_append' _ _ _ (beBytes_length _ _), n1, n2, take_append, pc, p2, take_append' 2 left _ hl]
    cases v6
    · obtain rfl : salt = [] := hv.1
      simp only [Bool.false_eq_true, ↓reduceIte, List.nil_append, sigBytes_parse_ser pk sb hsb]
    · have hsl : salt.length.toUInt8.toNat = salt.length := toUInt8_toNat_of_lt _ hs256
      simp only [↓reduceIte, List.cons_append, hsl, take_append, hv.1, sigBytes_parse_ser pk sb hsb]

theorem area_field_wf {emb : Bytes → Option Bytes} (hemb : ∀ x y, emb x = some y → emb y = some y) {v6 : Bool}
    {r hl r2 harea r3 : Bytes} {fuel : Nat} {ss : List Subpacket}
    (h1 : take (areaLenOctets v6) r = some (hl, r2)) (h2 : take (beNat hl) r2 = some (harea, r3))
    (h3 : areaParse emb fuel harea = some ss) :
    (∀ s ∈ ss, SubWF emb s) ∧ areaWriteLen ss < (if v6 then 4294967296 else 65536) := by
  refine ⟨area_parse_wf emb hemb _ _ _ h3, ?_⟩
  rw [area_parse_len emb _ _ _ h3, (take_eq_some h2).2, ← areaLen_pow, ← (take_eq_some h1).2]
  exact beNat_lt hl

theorem sig_parse_wf (emb : Bytes → Option Bytes) (hemb : ∀ x y, emb x = some y → emb y = some y)
    {b : Bytes} {s : Sig} : sigParse emb b = some s → SigWF emb s := by
  fun_cases sigParse emb b <;> rintro ⟨⟩
  · exact ⟨‹_›, (take_eq_some ‹take 4 _ = _›).2, (take_eq_some ‹take 8 _ = _›).2, rfl, sigBytes_parse_wf ‹_›⟩
  · rename_i hhl _ _ hha _ hhp _ _ hul _ _ hua _ hup _ _ hleft h6 _ _ _ _ _ _ hsl _ hsb _
    obtain ⟨w1, b1⟩ := area_field_wf hemb hhl hha (areaParseCanon_iff.mp hhp).1
    obtain ⟨w2, b2⟩ := area_field_wf hemb hul hua hup
    rw [h6] at b1 b2
    exact ⟨w1, w2, (take_eq_some hleft).2, sigBytes_parse_wf hsb, hsl, b1, b2⟩
  · rename_i hhl _ _ hha _ hhp _ _ hul _ _ hua _ hup _ _ hleft h6 _ hsb _
    obtain ⟨w1, b1⟩ := area_field_wf hemb hhl hha (areaParseCanon_iff.mp hhp).1
    obtain ⟨w2, b2⟩ := area_field_wf hemb hul hua hup
    rw [Bool.eq_false_iff.mpr h6] at b1 b2
    exact ⟨w1, w2, (take_eq_some hleft).2, sigBytes_parse_wf hsb, rfl, b1, b2⟩
  · rename_i h3 h4
    exact ⟨mt .inl h3, mt .inr h3, mt .inl h4, mt .inr h4⟩

theorem hashedArea_canonical {emb : Bytes → Option Bytes} {v typ pk hash : Byte} {r1 hl r2 harea r3 : Bytes}
    {hashed : List Subpacket} (h1 : take (areaLenOctets (decide (v.toNat = 6))) r1 = some (hl, r2))
    (h2 : take (beNat hl) r2 = some (harea, r3)) (hc : areaParseCanon emb harea = some hashed) :
    areaSer hashed = some (rawHashedArea (v :: typ :: pk :: hash :: r1)) := by
  obtain ⟨rfl, l1⟩ := take_eq_some h1
  obtain ⟨rfl, l2⟩ := take_eq_some h2
  have hw : (if v.toNat = 6 then 4 else 2) = hl.length := by
    simp only [l1, areaLenOctets, decide_eq_true_eq]
  simp only [rawHashedArea]
  rw [hw, List.take_left' rfl, List.drop_left' rfl, ← l2, List.take_left' rfl]
  exact (areaParseCanon_iff.mp hc).2

theorem sig_parse_hashed_canonical (emb : Bytes → Option Bytes) (b : Bytes) (v6 : Bool) (typ pk hash : Byte)
    (hashed unhashed : List Subpacket) (left salt : Bytes) (sb : SigBytes)
    (h : sigParse emb b = some (.v4 v6 typ pk hash hashed unhashed left salt sb)) :
    areaSer hashed = some (rawHashedArea b) := by
  revert h
  fun_cases sigParse emb b <;> rintro ⟨⟩
  · rename_i hhl _ _ hha _ _ _ _ _ _ _ _ _ _ _ _ hu hhp _ _ _ _ _
    exact u8_eq_some hu ▸ hashedArea_canonical hhl hha hhp
  · rename_i hhl _ _ hha _ _ _ _ _ _ _ _ hu hhp _ _ _
    exact u8_eq_some hu ▸ hashedArea_canonical hhl hha hhp

theorem hashSaltLen_le {h : Byte} {n : Nat} : hashSaltLen h = some n → n ≤ 32 := by
  fun_cases hashSaltLen h <;> rintro ⟨⟩ <;> decide

theorem sig_ser_some (emb : Bytes → Option Bytes) (s : Sig) (h : SigWF emb s) : ∃ b, sigSer s = some b := by
  cases s with
  | v3 => exact ⟨_, rfl⟩
  | unknown => exact ⟨_, rfl⟩
  | v4 v6 typ pk hash hashed unhashed left salt sb =>
    obtain ⟨hh, hu, -, -, hv⟩ := h
    obtain ⟨a, ha⟩ := area_ser_some emb hashed hh
    obtain ⟨b, hb⟩ := area_ser_some emb unhashed hu
    have hs : salt.length < 256 := by
      cases v6
      · rw [hv.1]; decide
      · exact Nat.lt_of_le_of_lt (hashSaltLen_le hv.1) (by decide)
    have hb12 : areaWriteLen hashed < (if v6 then 4294967296 else 65536) ∧
        areaWriteLen unhashed < (if v6 then 4294967296 else 65536) := by cases v6 <;> exact hv.2
    simp only [sigSer, ha, hb, hb12, hs, and_self, ↓reduceIte]
    exact ⟨_, rfl⟩

theorem sig_reparse (emb : Bytes → Option Bytes) (hemb : ∀ x y, emb x = some y → emb y = some y)
    {b : Bytes} {s : Sig} (h : sigParse emb b = some s) :
    ∃ w, sigSer s = some w ∧ sigParse emb w = some s := by
  have hw := sig_parse_wf emb hemb h
  obtain ⟨w, hs⟩ := sig_ser_some emb s hw
  exact ⟨w, hs, sig_parse_ser emb s w hw hs⟩

theorem sigNorm_idem : ∀ (fuel : Nat) (x y : Bytes), sigNorm fuel x = some y → sigNorm fuel y = some y := by
  intro fuel
  induction fuel with
  | zero => nofun
  | succ f ih =>
    intro x y h
    simp only [sigNorm] at h ⊢
    split at h
    · cases h
    · rename_i s hp
      rw [sig_parse_ser (sigNorm f) s y (sig_parse_wf (sigNorm f) ih hp) h]
      exact h

end Rpgp.Wire
