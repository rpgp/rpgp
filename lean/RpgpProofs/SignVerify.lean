import RpgpModel.SignVerify
import RpgpProofs.Canon
import RpgpProofs.CanonReader
/-! What each sign-side / verify-side interface of `RpgpModel/SignVerify.lean` feeds to the digest,
reduced to `canon` / identity of the payload (C06). -/
namespace Rpgp.SV
open Rpgp

/-! ## the hasher in both modes -/

/-- the bytes that stand for the document inside the pre-image: `canon` for text signatures, the
document itself otherwise (RFC 9580 §5.2.1 types 0x01 / 0x00) -/
def dataHashed (text : Bool) (d : Bytes) : Bytes := if text then canon d else d

theorem hashBufBinary_eq (seen buf : Bytes) : hashBufBinary seen buf = seen ++ buf := by
  cases buf with
  | nil => exact (List.append_nil seen).symm
  | cons => rfl

theorem foldl_hashBufBinary (cs : List Bytes) (seen : Bytes) :
    cs.foldl hashBufBinary seen = seen ++ cs.flatten := by
  induction cs generalizing seen with
  | nil => exact (List.append_nil seen).symm
  | cons c cs ih => rw [List.foldl_cons, ih, hashBufBinary_eq, List.flatten_cons, List.append_assoc]

theorem hasherFeed_false (cs : List Bytes) : hasherFeed false cs = cs.flatten := by
  rw [hasherFeed, if_neg Bool.false_ne_true, foldl_hashBufBinary, List.nil_append]

theorem hasherFeed_true (cs : List Bytes) : hasherFeed true cs = canon cs.flatten :=
  (if_pos rfl).trans (hashedText_eq_canon cs)

theorem hasherFeed_dataHashed (text : Bool) (cs : List Bytes) :
    hasherFeed text cs = dataHashed text cs.flatten := by
  cases text
  · exact hasherFeed_false cs
  · exact hasherFeed_true cs

theorem chunksOf_flatten (n : Nat) (hn : 0 < n) (d : Bytes) : (chunksOf n d).flatten = d := by
  fun_induction chunksOf n d with
  | case1 d h =>
    rcases h with h | h
    · omega
    · simp [h]
  | case2 d h ih =>
    simp only [List.flatten_cons, ih]
    exact List.take_append_drop n d

theorem chunksOf_allNonEmpty (n : Nat) (hn : 0 < n) (d : Bytes) : AllNonEmpty (chunksOf n d) := by
  fun_induction chunksOf n d with
  | case1 d h => exact fun c hc => absurd hc List.not_mem_nil
  | case2 d h ih =>
    intro c hc
    rcases List.mem_cons.mp hc with rfl | hc
    · exact fun h0 => h (List.take_eq_nil_iff.mp h0)
    · exact ih c hc

/-! ## interfaces reduced to the specification -/

/-- a configuration as the constructors build it: v4 has no salt -/
def WFCfg (c : SigCfg) : Prop := (c.ver = 4 ∧ c.salt = []) ∨ c.ver = 6

instance (c : SigCfg) : Decidable (WFCfg c) := by unfold WFCfg; exact inferInstance

theorem signAligned_verifyAligned (kv sv : Nat) (h : signAligned kv sv = true) : verifyAligned kv sv = true := by
  unfold signAligned at h
  unfold verifyAligned
  simp only [Bool.or_eq_true, Bool.and_eq_true, beq_iff_eq] at h
  rcases h with ⟨h1, h2⟩ | ⟨h1, h2⟩ <;> subst h1 <;> subst h2 <;> decide

theorem signAligned_wfver (kv sv : Nat) (h : signAligned kv sv = true) : sv = 4 ∨ sv = 6 := by
  unfold signAligned at h
  simp only [Bool.or_eq_true, Bool.and_eq_true, beq_iff_eq] at h
  rcases h with ⟨h1, _⟩ | ⟨h1, _⟩ <;> simp [h1]

theorem signConfig_eq (kv : Nat) (c : SigCfg) (src : List Bytes) :
    signConfig kv c src =
      if signAligned kv c.ver && dataSigType c.typ then some (preimage c (dataHashed c.textMode src.flatten))
      else none := by
  unfold signConfig
  rw [hasherFeed_dataHashed]

theorem signConfig_of_guards (kv : Nat) (c : SigCfg) (src : List Bytes) (hal : signAligned kv c.ver = true)
    (hty : dataSigType c.typ = true) :
    signConfig kv c src = some (preimage c (dataHashed c.textMode src.flatten)) := by
  rw [signConfig_eq, hal, hty]; rfl

theorem signConfig_some (kv : Nat) (c : SigCfg) (src : List Bytes) (p : Bytes) (h : signConfig kv c src = some p) :
    signAligned kv c.ver = true ∧ dataSigType c.typ = true ∧
      p = preimage c (dataHashed c.textMode src.flatten) := by
  rw [signConfig_eq] at h
  split at h
  · next hg => exact ⟨(Bool.and_eq_true _ _ ▸ hg).1, (Bool.and_eq_true _ _ ▸ hg).2, (Option.some.inj h).symm⟩
  · cases h

theorem verifyDetached_eq (W : Nat) (hW : 0 < W) (kv : Nat) (c : SigCfg) (src : List Bytes)
    (hsrc : AllNonEmpty src) :
    verifyDetached W kv c src =
      if verifyAligned kv c.ver && dataSigType c.typ then some (preimage c (dataHashed c.textMode src.flatten))
      else none := by
  unfold verifyDetached dataHashed
  rw [normalizedReadSrc_eq_canon W hW src hsrc]

theorem opsMatches_opsOf (c : SigCfg) (h : c.ver = 4 ∨ c.ver = 6) : opsMatches (opsOf c) c = true := by
  unfold opsMatches opsOf
  rcases h with h | h <;> simp [h]

theorem opsOf_salt (c : SigCfg) (h : WFCfg c) : (opsOf c).salt = c.salt := by
  unfold opsOf
  rcases h with ⟨h4, hs⟩ | h6
  · simp [h4, hs]
  · simp [h6]

theorem verifyInlineOps_eq (B : Nat) (hB : 0 < B) (c : SigCfg) (h : WFCfg c) (body : Bytes) :
    verifyInlineOps B (opsOf c) c body = some (preimage c (dataHashed c.textMode body)) := by
  have hv : c.ver = 4 ∨ c.ver = 6 := by rcases h with ⟨h, _⟩ | h <;> simp [h]
  unfold verifyInlineOps
  rw [opsMatches_opsOf c hv, hasherFeed_dataHashed, chunksOf_flatten B hB, opsOf_salt c h]
  simp [preimage, SigCfg.textMode, opsOf]

theorem verifyInlineSig_eq (B : Nat) (hB : 0 < B) (c : SigCfg) (body : Bytes) :
    verifyInlineSig B c body = some (preimage c (dataHashed c.textMode body)) := by
  unfold verifyInlineSig
  rw [hasherFeed_dataHashed, chunksOf_flatten B hB]
  rfl

theorem signWith_some (P : SigPrims) (c : SigCfg) (pre : Option Bytes) (s : SigPacket)
    (h : signWith P c pre = some s) : ∃ p, pre = some p ∧ s = mkSignature P c p := by
  cases pre with
  | none => cases h
  | some p => exact ⟨p, rfl, (Option.some.inj h).symm⟩

end Rpgp.SV
