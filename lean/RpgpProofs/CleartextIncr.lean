import RpgpProofs.Cleartext
/-! `read_cleartext_body` after repair D19c: searching the last line only is the same function, at
linear instead of quadratic cost (C16, C19). -/
namespace Rpgp

theorem findLast_eq_none (pat s : Bytes) (h : findLast pat s = none) : ¬ pat <:+: s := by
  induction s with
  | nil =>
    intro hi
    rw [List.infix_nil, ← List.prefix_nil, ← List.isPrefixOf_iff_prefix] at hi
    rw [findLast, if_pos hi] at h
    cases h
  | cons b r ih =>
    rw [findLast] at h
    rw [List.infix_cons_iff, ← List.isPrefixOf_iff_prefix]
    cases hr : findLast pat r with
    | some i => rw [hr] at h; cases h
    | none =>
      rw [hr] at h
      rintro (hp | hi)
      · rw [if_pos hp] at h; cases h
      · exact ih hr hi

theorem not_fiveDashes_prefix_append (o l : Bytes) (h : ¬ fiveDashes <+: o ++ [LF]) :
    ¬ fiveDashes <+: o ++ LF :: l := by
  intro h5
  rw [List.append_cons] at h5
  rcases List.prefix_or_prefix_of_prefix h5 (List.prefix_append _ l) with h' | h'
  · exact h h'
  · exact absurd (h'.subset (List.mem_append_right o List.mem_cons_self)) (by decide)

theorem findLast_append_LF (o l : Bytes) (hno : ¬ bodyEndPat <:+: o ++ [LF]) :
    findLast bodyEndPat (o ++ LF :: l) = (findLast bodyEndPat (LF :: l)).map (· + o.length) := by
  induction o with
  | nil =>
    show findLast bodyEndPat (LF :: l) = _
    cases findLast bodyEndPat (LF :: l) <;> rfl
  | cons x o ih =>
    rw [List.cons_append, List.infix_cons_iff, not_or] at hno
    rw [List.cons_append, findLast, ih hno.2]
    cases findLast bodyEndPat (LF :: l) with
    | some j => rfl
    | none =>
      have : bodyEndPat.isPrefixOf (x :: (o ++ LF :: l)) = false := by
        rw [Bool.eq_false_iff, ne_eq, List.isPrefixOf_iff_prefix, bodyEndPat, List.cons_prefix_cons]
        rintro ⟨rfl, h5⟩
        exact not_fiveDashes_prefix_append o l (fun h => hno.1 (List.cons_prefix_cons.mpr ⟨rfl, h⟩)) h5
      rw [Option.map_none, this]; rfl

theorem search_incr_eq (out l : Bytes) (hout : out = [] ∨ endsLF out) (hno : findLast bodyEndPat out = none) :
    (findLast bodyEndPat ((out ++ l).drop (out.length - 1))).map (· + (out.length - 1)) =
      findLast bodyEndPat (out ++ l) := by
  rcases hout with rfl | ⟨o, rfl⟩
  · show (findLast bodyEndPat l).map (· + 0) = findLast bodyEndPat l
    cases findLast bodyEndPat l <;> rfl
  · rw [List.length_append, List.length_singleton, Nat.add_sub_cancel, List.append_assoc, List.drop_left,
      List.singleton_append, findLast_append_LF o l (findLast_eq_none _ _ hno)]

/-- the repaired loop is the loop: on lines of which every one but possibly the last ends with a line
break (the successive results of `read_line`), from a state in which nothing has been found yet -/
theorem readBodyLoopIncr_eq (ls : List Bytes) : ∀ (out : Bytes), (out = [] ∨ endsLF out) →
    findLast bodyEndPat out = none → (∀ l ∈ ls.dropLast, endsLF l) →
    readBodyLoopIncr out ls = readBodyLoop out ls := by
  induction ls with
  | nil => intro out _ _ _; rfl
  | cons l ls ih =>
    intro out hout hno hl
    rw [readBodyLoopIncr, readBodyLoop]
    split
    · rfl
    · simp only [search_incr_eq out l hout hno]
      cases hf : findLast bodyEndPat (out ++ l) with
      | some pos => rfl
      | none =>
        cases ls with
        | nil => rfl
        | cons l2 ls2 =>
          rw [List.dropLast_cons_cons] at hl
          obtain ⟨c, hc⟩ := hl l List.mem_cons_self
          exact ih (out ++ l) (Or.inr ⟨out ++ c, by rw [hc, List.append_assoc]⟩) hf
            fun x hx => hl x (List.mem_cons_of_mem _ hx)

theorem splitInclusive_dropLast_endLF (t : Bytes) : ∀ l ∈ (splitInclusive t).dropLast, endsLF l := by
  have key : ∀ L, SV.IsLines L → ∀ l ∈ L.dropLast, endsLF l := by
    intro L h
    induction h with
    | nil => exact fun l hl => absurd hl List.not_mem_nil
    | last e _ _ => exact fun l hl => absurd hl List.not_mem_nil
    | cons l ls _ hls ih =>
      cases hls with
      | nil => exact fun l hl => absurd hl List.not_mem_nil
      | _ =>
        intro x hx
        rw [List.dropLast_cons_cons] at hx
        rcases List.mem_cons.mp hx with rfl | hx
        · exact ⟨l, rfl⟩
        · exact ih x hx
  rw [splitInclusive_eq]
  exact key _ (SV.isLines_splitIncl t)

theorem readBodyLinesCur_eq (inp : Bytes) :
    readBodyLinesCur (splitInclusive inp) = readBodyLines (splitInclusive inp) := by
  unfold readBodyLinesCur readBodyLines
  split
  · rw [readBodyLoopIncr_eq _ [] (Or.inl rfl) rfl (splitInclusive_dropLast_endLF inp)]
  · rfl

/-! ### cost of the search -/

theorem searchWorkIncr_le (ls : List Bytes) (out : Bytes) :
    searchWorkIncr out ls ≤ ls.flatten.length + ls.length := by
  induction ls generalizing out with
  | nil => exact Nat.le_refl _
  | cons l ls ih =>
    have h1 : ((out ++ l).drop (out.length - 1)).length ≤ l.length + 1 := by
      rw [List.length_drop, List.length_append, Nat.sub_le_iff_le_add, Nat.add_comm out.length, Nat.add_assoc,
        Nat.add_comm 1]
      exact Nat.add_le_add_left (Nat.le_add_of_sub_le (Nat.le_refl _)) _
    rw [searchWorkIncr, List.flatten_cons, List.length_append, List.length_cons]
    exact Nat.le_trans (Nat.add_le_add h1 (ih (out ++ l)))
      (Nat.le_of_eq (by rw [Nat.add_add_add_comm, Nat.add_comm 1]))

theorem searchWorkFull_ge (ls : List Bytes) (out : Bytes) :
    out.length * ls.length ≤ searchWorkFull out ls := by
  induction ls generalizing out with
  | nil => exact Nat.le_refl _
  | cons l ls ih =>
    have h := ih (out ++ l)
    rw [List.length_append] at h
    rw [searchWorkFull, List.length_cons, List.length_append, Nat.mul_succ, Nat.add_comm]
    exact Nat.add_le_add (Nat.le_add_right _ _)
      (Nat.le_trans (Nat.mul_le_mul_right _ (Nat.le_add_right _ _)) h)

theorem splitInclusive_length_le (t : Bytes) : (splitInclusive t).length ≤ t.length := by
  induction t using SV.lines_induction with
  | nil => exact Nat.le_refl _
  | last e hne he =>
    rw [splitInclusive_eq, SV.splitIncl_of_not_mem e hne he]
    exact List.length_pos_iff.mpr hne
  | line l r hl ih =>
    rw [splitInclusive_line l r hl, List.length_cons, List.length_append, List.length_cons]
    omega

end Rpgp
