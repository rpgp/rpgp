import RpgpModel.Armor
/-!
# The streaming parsers of the armor reader

What each small parser answers on the text it is meant for, UTF-8 validity of concatenations, and
the one property all of them share (`Stable`): an answer other than `Incomplete` is not changed
by more input.
-/
namespace Rpgp.Armor

/-- A string literal is by definition `String.ofList` of its characters, so `rw [asc_ofList]` turns
`asc "…"` into a `List.map` over the explicit characters.  To be done before `decide +kernel`: left to
itself the kernel evaluates `String.toList` on a literal by encoding it to UTF-8 and decoding it again. -/
theorem asc_ofList (l : List Char) : asc (String.ofList l) = l.map fun c => c.toNat.toUInt8 := by
  rw [asc, String.toList_ofList]

/-! ## small parsers -/

theorem tagS_append (p r : Bytes) : tagS p (p ++ r) = .ok () r := by
  induction p with
  | nil => rfl
  | cons a p ih => simp [tagS, ih]

def IsNl (nl : Bytes) : Prop := nl = [LF] ∨ nl = [CR, LF]

theorem lineEnding_nl (nl r : Bytes) (h : IsNl nl) : lineEnding (nl ++ r) = .ok () r := by
  rcases h with rfl | rfl
  · simp [lineEnding]
  · simp [lineEnding, CR, LF]

theorem splitOnSub_cons_ne (pat : Bytes) (c : Byte) (r : Bytes) (h : pat.isPrefixOf (c :: r) = false) :
    splitOnSub pat (c :: r) = (match splitOnSub pat r with
      | some (a, b) => some (c :: a, b)
      | none => none) := by
  simp only [splitOnSub, h]; rfl

theorem splitOnSub_lead (lead r : Bytes) (h : ∀ b ∈ lead, b ≠ 45) :
    splitOnSub DASH5 (lead ++ (DASH5 ++ r)) = some (lead, DASH5 ++ r) := by
  induction lead with
  | nil => rfl
  | cons c l ih =>
    have hno : DASH5.isPrefixOf (c :: (l ++ (DASH5 ++ r))) = false := by
      rw [DASH5, List.isPrefixOf, beq_eq_false_iff_ne.mpr (h c List.mem_cons_self).symm, Bool.false_and]
    rw [List.cons_append, splitOnSub_cons_ne _ _ _ hno, ih fun b hb => h b (List.mem_cons_of_mem _ hb)]

theorem splitOnSub_colon_none (p s : Bytes) (h : ∀ b ∈ s, b ≠ COLON) : splitOnSub (COLON :: p) s = none := by
  induction s with
  | nil => rfl
  | cons c r ih =>
    have hc : c ≠ COLON := h c (by simp)
    have hc' : ¬ (COLON = c) := fun e => hc e.symm
    simp [splitOnSub, List.isPrefixOf, hc', ih (fun b hb => h b (by simp [hb]))]

/-! ## `: ` inside a key -/

def noColonSp : Bytes → Bool
  | a :: b :: r => !(a == COLON && b == SP) && noColonSp (b :: r)
  | _ => true

theorem colonSp_prefix_cons (a : Byte) (s : Bytes) :
    [COLON, SP].isPrefixOf (a :: s) = (a == COLON && s.head? == some SP) := by
  rw [List.isPrefixOf, BEq.comm]
  cases s with
  | nil => rfl
  | cons b r => simp [List.isPrefixOf, BEq.comm (a := SP)]

theorem noColonSp_cons (a : Byte) (s : Bytes) :
    noColonSp (a :: s) = (!([COLON, SP].isPrefixOf (a :: s)) && noColonSp s) := by
  rw [colonSp_prefix_cons]
  cases s <;> simp [noColonSp]

theorem splitOnSub_colonSp (k rest : Bytes) (h : noColonSp k = true) :
    splitOnSub [COLON, SP] (k ++ COLON :: SP :: rest) = some (k, COLON :: SP :: rest) := by
  induction k with
  | nil => simp [splitOnSub, List.isPrefixOf]
  | cons a r ih =>
    rw [noColonSp_cons, Bool.and_eq_true, Bool.not_eq_true'] at h
    -- what follows the key begins with `:`, so no occurrence straddles its end
    have hno : [COLON, SP].isPrefixOf (a :: (r ++ COLON :: SP :: rest)) = false := by
      rw [colonSp_prefix_cons] at h ⊢
      cases r with
      | nil => simp [COLON, SP]
      | cons b r' => exact h.1
    rw [List.cons_append, splitOnSub_cons_ne _ _ _ hno, ih h.2]

/-! ## value -/

def noCrLf (s : Bytes) : Bool := s.all fun c => c != CR && c != LF

theorem noCrLf_mem (s : Bytes) (h : noCrLf s = true) : ∀ b ∈ s, b ≠ CR ∧ b ≠ LF := by
  intro b hb
  have := List.all_eq_true.mp h b hb
  simpa using this

theorem notLineEnding_value (v nl rest : Bytes) (hv : noCrLf v = true) (hnl : IsNl nl) :
    notLineEnding (v ++ nl ++ rest) = .ok v (nl ++ rest) := by
  induction v with
  | nil =>
    rcases hnl with rfl | rfl
    · simp [notLineEnding]
    · simp [notLineEnding, CR, LF]
  | cons c r ih =>
    have hc := noCrLf_mem _ hv c (by simp)
    have hr : noCrLf r = true := by
      simp only [noCrLf, List.all_cons, Bool.and_eq_true] at hv; exact hv.2
    have := ih hr
    simp only [List.cons_append, List.append_assoc] at this ⊢
    simp [notLineEnding, hc.1, hc.2, this]

theorem space0_ws (ws nl rest : Bytes) (hws : ∀ b ∈ ws, b = SP ∨ b = TAB) (hnl : IsNl nl) :
    space0 (ws ++ nl ++ rest) = .ok () (nl ++ rest) := by
  induction ws with
  | nil =>
    rcases hnl with rfl | rfl
    · simp [space0, LF, SP, TAB]
    · simp [space0, CR, SP, TAB]
  | cons c r ih =>
    have hc := hws c (by simp)
    have := ih (fun b hb => hws b (by simp [hb]))
    simp only [List.cons_append, List.append_assoc] at this ⊢
    simp [space0, hc, this]

/-! ## UTF-8 validity of concatenations -/

def u8cont (b : Byte) : Bool := decide (128 ≤ b.toNat) && decide (b.toNat ≤ 191)

theorem validUtf8_cons (b0 : Byte) (r : Bytes) : validUtf8 (b0 :: r) =
    (if b0.toNat < 128 then validUtf8 r
     else if 194 ≤ b0.toNat ∧ b0.toNat ≤ 223 then
       (match r with
        | b1 :: r' => u8cont b1 && validUtf8 r'
        | _ => false)
     else if 224 ≤ b0.toNat ∧ b0.toNat ≤ 239 then
       (match r with
        | b1 :: b2 :: r' =>
          (if b0.toNat = 224 then decide (160 ≤ b1.toNat) && decide (b1.toNat ≤ 191)
           else if b0.toNat = 237 then decide (128 ≤ b1.toNat) && decide (b1.toNat ≤ 159)
           else u8cont b1) && u8cont b2 && validUtf8 r'
        | _ => false)
     else if 240 ≤ b0.toNat ∧ b0.toNat ≤ 244 then
       (match r with
        | b1 :: b2 :: b3 :: r' =>
          (if b0.toNat = 240 then decide (144 ≤ b1.toNat) && decide (b1.toNat ≤ 191)
           else if b0.toNat = 244 then decide (128 ≤ b1.toNat) && decide (b1.toNat ≤ 143)
           else u8cont b1) && u8cont b2 && u8cont b3 && validUtf8 r'
        | _ => false)
     else false) := by
  conv => lhs; unfold validUtf8
  rfl

/-- a cut between two valid strings falls between two characters -/
theorem validUtf8_append (a b : Bytes) (ha : validUtf8 a = true) (hb : validUtf8 b = true) :
    validUtf8 (a ++ b) = true := by
  fun_induction validUtf8 a with
  | case1 => exact hb
  | case2 c r n h1 ih => rw [List.cons_append, validUtf8_cons, if_pos h1]; exact ih ha
  | case3 c cont n h1 h2 b1 r' ih =>
    rw [Bool.and_eq_true] at ha
    rw [List.cons_append, validUtf8_cons, if_neg h1, if_pos h2]
    exact Bool.and_eq_true _ _ ▸ ⟨ha.1, ih ha.2⟩
  | case5 c cont n h1 h2 h3 b1 b2 r' ih =>
    rw [Bool.and_eq_true] at ha
    rw [List.cons_append, validUtf8_cons, if_neg h1, if_neg h2, if_pos h3]
    exact Bool.and_eq_true _ _ ▸ ⟨ha.1, ih ha.2⟩
  | case7 c cont n h1 h2 h3 h4 b1 b2 b3 r' ih =>
    rw [Bool.and_eq_true] at ha
    rw [List.cons_append, validUtf8_cons, if_neg h1, if_neg h2, if_neg h3, if_pos h4]
    exact Bool.and_eq_true _ _ ▸ ⟨ha.1, ih ha.2⟩
  | case4 | case6 | case8 | case9 => cases ha

theorem validUtf8_ascii (s : Bytes) (h : ∀ b ∈ s, b.toNat < 128) : validUtf8 s = true := by
  induction s with
  | nil => rfl
  | cons c r ih =>
    rw [validUtf8_cons, if_pos (h c (by simp))]
    exact ih (fun b hb => h b (by simp [hb]))

/-! ## stability

A streaming parser that has answered `Ok` or `Error` has seen enough: the same answer comes back
on every extension of the input (an `Ok` with the extension appended to the rest).  So a parser
that consumes a text completely answers `Incomplete` on each of its proper prefixes. -/

def PR.extend {α : Type} : PR α → Bytes → PR α
  | .ok a r, x => .ok a (r ++ x)
  | y, _ => y

def Stable {α : Type} (p : Bytes → PR α) : Prop :=
  ∀ s x, p s = .inc ∨ p (s ++ x) = (p s).extend x

theorem Stable.ok_append {α : Type} {p : Bytes → PR α} (hp : Stable p) {s r : Bytes} {a : α}
    (h : p s = .ok a r) (x : Bytes) : p (s ++ x) = .ok a (r ++ x) := by
  have := (hp s x).resolve_left (by rw [h]; exact fun e => nomatch e)
  rwa [h] at this

theorem Stable.err_append {α : Type} {p : Bytes → PR α} (hp : Stable p) {s : Bytes}
    (h : p s = .err) (x : Bytes) : p (s ++ x) = .err := by
  have := (hp s x).resolve_left (by rw [h]; exact fun e => nomatch e)
  rwa [h] at this

theorem Stable.inc_of_prefix {α : Type} {p : Bytes → PR α} (hp : Stable p) {s x : Bytes} {a : α}
    (h : p (s ++ x) = .ok a []) (hx : x ≠ []) : p s = .inc := by
  cases hs : p s with
  | inc => rfl
  | ok b r =>
    rw [hp.ok_append hs] at h
    injection h with _ h
    exact absurd (List.append_eq_nil_iff.mp h).2 hx
  | err => rw [hp.err_append hs] at h; cases h

/-- sequencing, as the nested `match`es of the model do it -/
def PR.andThen {α β : Type} (a : PR α) (f : α → Bytes → PR β) : PR β :=
  match a with
  | .ok x r => f x r
  | .inc => .inc
  | .err => .err

theorem PR.andThen_ok {α β : Type} (a : α) (r : Bytes) (f : α → Bytes → PR β) : (PR.ok a r).andThen f = f a r := rfl

theorem PR.orElse_ok {α : Type} (a : α) (r : Bytes) (f : Unit → PR α) : (PR.ok a r).orElse f = .ok a r := rfl

theorem PR.orElse_err {α : Type} (f : Unit → PR α) : PR.err.orElse f = f () := rfl

theorem Stable.andThen {α β : Type} {p : Bytes → PR α} {f : α → Bytes → PR β} (hp : Stable p)
    (hf : ∀ a, Stable (f a)) : Stable fun s => (p s).andThen f := by
  intro s x
  show (p s).andThen f = .inc ∨ (p (s ++ x)).andThen f = ((p s).andThen f).extend x
  rcases hp s x with h | h
  · rw [h]; exact Or.inl rfl
  · rw [h]
    cases p s with
    | ok a r => exact hf a r x
    | inc => exact Or.inl rfl
    | err => exact Or.inr rfl

theorem Stable.orElse {α : Type} {p q : Bytes → PR α} (hp : Stable p) (hq : Stable q) :
    Stable fun s => (p s).orElse fun _ => q s := by
  intro s x
  show (p s).orElse _ = .inc ∨ (p (s ++ x)).orElse _ = ((p s).orElse _).extend x
  rcases hp s x with h | h
  · rw [h]; exact Or.inl rfl
  · rw [h]
    cases p s with
    | ok a r => exact Or.inr rfl
    | inc => exact Or.inl rfl
    | err => exact hq s x

theorem Stable.ok {α : Type} (a : α) : Stable fun s => PR.ok a s := fun _ _ => Or.inr rfl

theorem Stable.err {α : Type} : Stable fun _ => (PR.err : PR α) := fun _ _ => Or.inr rfl

theorem tagS_stable (t : Bytes) : Stable (tagS t) := by
  induction t with
  | nil => exact Stable.ok ()
  | cons a ts ih =>
    intro s x
    cases s with
    | nil => exact Or.inl rfl
    | cons c cs =>
      simp only [List.cons_append, tagS]
      split
      · exact ih cs x
      · exact Or.inr rfl

theorem lineEnding_cons (c : Byte) (r : Bytes) : lineEnding (c :: r) =
    if c = LF then .ok () r
    else if c = CR then
      match r with
      | [] => .inc
      | d :: r' => if d = LF then .ok () r' else .err
    else .err := by
  cases r <;> rfl

theorem lineEnding_stable : Stable lineEnding := by
  intro s x
  match s with
  | [] => exact Or.inl rfl
  | c :: r =>
    rw [List.cons_append, lineEnding_cons, lineEnding_cons]
    by_cases h1 : c = LF
    · rw [if_pos h1, if_pos h1]; exact Or.inr rfl
    · rw [if_neg h1, if_neg h1]
      by_cases h2 : c = CR
      · rw [if_pos h2, if_pos h2]
        match r with
        | [] => exact Or.inl rfl
        | d :: r' =>
          show (if d = LF then _ else _) = _ ∨ (if d = LF then _ else _) = PR.extend (if d = LF then _ else _) x
          by_cases h3 : d = LF
          · rw [if_pos h3, if_pos h3]; exact Or.inr rfl
          · rw [if_neg h3, if_neg h3]; exact Or.inr rfl
      · rw [if_neg h2, if_neg h2]; exact Or.inr rfl

theorem digit1_stable : Stable digit1 := by
  intro s x
  induction s with
  | nil => exact Or.inl rfl
  | cons c r ih =>
    simp only [List.cons_append, digit1]
    split
    · rcases ih with h | h
      · rw [h]; exact Or.inl rfl
      · rw [h]
        cases digit1 r with
        | ok ds rest => exact Or.inr rfl
        | inc => exact Or.inl rfl
        | err => exact Or.inr rfl
    · exact Or.inr rfl

theorem splitOnSub_some {pat s a b : Bytes} (h : splitOnSub pat s = some (a, b)) : pat <+: b ∧ s = a ++ b := by
  induction s generalizing a with
  | nil => cases h
  | cons c r ih =>
    by_cases hp : pat.isPrefixOf (c :: r) = true
    · simp only [splitOnSub, hp, if_true, Option.some.injEq, Prod.mk.injEq] at h
      obtain ⟨rfl, rfl⟩ := h
      exact ⟨List.isPrefixOf_iff_prefix.mp hp, rfl⟩
    · rw [splitOnSub_cons_ne _ _ _ (Bool.eq_false_iff.mpr hp)] at h
      cases hr : splitOnSub pat r with
      | none => simp [hr] at h
      | some ab =>
        simp only [hr, Option.some.injEq, Prod.mk.injEq] at h
        obtain ⟨rfl, rfl⟩ := h
        obtain ⟨h1, h2⟩ := ih hr
        exact ⟨h1, by rw [h2]; rfl⟩

theorem splitOnSub_append {pat s a b : Bytes} (x : Bytes) (h : splitOnSub pat s = some (a, b)) :
    splitOnSub pat (s ++ x) = some (a, b ++ x) := by
  induction s generalizing a with
  | nil => cases h
  | cons c r ih =>
    -- the pattern fits into `c :: r`, so whether it is a prefix does not depend on `x`
    have hfit : pat.isPrefixOf (c :: (r ++ x)) = pat.isPrefixOf (c :: r) := by
      obtain ⟨h1, h2⟩ := splitOnSub_some h
      have hl : pat.length ≤ (c :: r).length := by
        rw [h2, List.length_append]; exact Nat.le_trans h1.length_le (Nat.le_add_left _ _)
      rw [← List.cons_append, Bool.eq_iff_iff, List.isPrefixOf_iff_prefix, List.isPrefixOf_iff_prefix]
      exact ⟨fun hx => List.prefix_of_prefix_length_le hx (List.prefix_append _ _) hl,
        fun hx => hx.trans (List.prefix_append _ _)⟩
    by_cases hp : pat.isPrefixOf (c :: r) = true
    · simp only [splitOnSub, hp, if_true, Option.some.injEq, Prod.mk.injEq] at h
      obtain ⟨rfl, rfl⟩ := h
      simp only [List.cons_append, splitOnSub, hfit, hp, if_true]
    · have hp' := Bool.eq_false_iff.mpr hp
      rw [splitOnSub_cons_ne _ _ _ hp'] at h
      rw [List.cons_append, splitOnSub_cons_ne _ _ _ (by rw [hfit, hp'])]
      cases hr : splitOnSub pat r with
      | none => simp [hr] at h
      | some ab =>
        simp only [hr, Option.some.injEq, Prod.mk.injEq] at h
        obtain ⟨rfl, rfl⟩ := h
        rw [ih hr]

/-- `splitOnSub` as the parser it is used as: no occurrence yet is `Incomplete` -/
theorem splitOnSub_stable {α : Type} (pat : Bytes) {p : Bytes → PR α} (hp : Stable p) :
    Stable fun s => match splitOnSub pat s with
      | none => .inc
      | some (_, r) => p r := by
  intro s x
  dsimp only
  cases h : splitOnSub pat s with
  | none => exact Or.inl rfl
  | some ab => rw [splitOnSub_append x h]; exact hp ab.2 x

end Rpgp.Armor
