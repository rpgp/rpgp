import RpgpModel.Seipd
import RpgpProofs.ListSplit
/-! SEIPDv1 (CFB + MDC) decryptor: acceptance structure, round trip, streaming soundness/completeness.

Both modes are first described on an input that is already cut into its parts (prefix, body,
22 MDC octets); `ListSplit` provides the cut for an arbitrary input. -/
namespace Rpgp

theorem mdcOk_iff (sha1 : Bytes → Bytes) (pre body mdc : Bytes) (hm : mdc.length = 22) :
    mdcOk sha1 pre body mdc = true ↔
      mdc = [211, 20] ++ sha1 (pre ++ body ++ [211, 20]) := by
  match mdc, hm with
  | a :: b :: rest, hm =>
    have ea : (a = Gen.mdcTagOctet.toUInt8) = (a = 211) := rfl
    have eb : (b = Gen.mdcLenOctet.toUInt8) = (b = 20) := rfl
    simp only [mdcOk, List.head?_cons, List.drop_succ_cons, List.drop_zero, List.take_succ_cons, List.take_zero,
      Bool.and_eq_true, beq_iff_eq, Option.some.injEq, ea, eb, List.cons_append, List.nil_append, List.cons.injEq]
    constructor
    · rintro ⟨⟨rfl, rfl⟩, h3⟩; exact ⟨rfl, rfl, h3⟩
    · rintro ⟨rfl, rfl, h3⟩; exact ⟨⟨rfl, rfl⟩, h3⟩

theorem seipd1Plain_eq (sha1 : Bytes → Bytes) (pre pt : Bytes) :
    seipd1Plain sha1 pre pt = pre ++ (pt ++ ([211, 20] ++ sha1 (pre ++ pt ++ [211, 20]))) := by
  simp only [seipd1Plain, List.append_assoc]; rfl

theorem seipd1Plain_parts (sha1 : Bytes → Bytes) (hs : ∀ x, (sha1 x).length = 20) (pre pt : Bytes) :
    ∃ mdc, seipd1Plain sha1 pre pt = pre ++ (pt ++ mdc) ∧ mdc.length = 22 ∧ mdcOk sha1 pre pt mdc = true := by
  have hl : ([211, 20] ++ sha1 (pre ++ pt ++ [211, 20])).length = 22 := by rw [List.length_append, hs]; rfl
  exact ⟨_, seipd1Plain_eq sha1 pre pt, hl, (mdcOk_iff sha1 pre pt _ hl).mpr rfl⟩

/-! ## default mode -/

theorem seipd1CheckFirst_short (sha1 : Bytes → Bytes) (bs max : Nat) (dec : Bytes)
    (h : dec.length < bs + 2 + 22) : seipd1CheckFirst sha1 bs max dec = none := by
  unfold seipd1CheckFirst
  by_cases h1 : dec.length < bs + 2
  · rw [if_pos h1]
  · have h2 : (dec.drop (bs + 2)).length < Gen.mdcLen := by
      rw [List.length_drop]; show _ < 22; omega
    simp only [if_neg h1, if_pos h2, ite_self]

theorem seipd1CheckFirst_parts (sha1 : Bytes → Bytes) (bs max : Nat) (pre body mdc : Bytes)
    (hp : pre.length = bs + 2) (hm : mdc.length = 22) :
    seipd1CheckFirst sha1 bs max (pre ++ (body ++ mdc)) =
      if max < body.length + 22 then none else if mdcOk sha1 pre body mdc then some body else none := by
  have h1 : ¬ (pre ++ (body ++ mdc)).length < bs + 2 := by
    rw [List.length_append, hp]; exact Nat.not_lt.mpr (Nat.le_add_right _ _)
  have h2 : ¬ body.length + 22 < 22 := Nat.not_lt.mpr (Nat.le_add_left _ _)
  rw [seipd1CheckFirst, if_neg h1]
  simp only [List.take_left' hp, List.drop_left' hp, List.length_append, hm, Gen.mdcLen, if_neg h2,
    Nat.add_sub_cancel, List.take_left' rfl, List.drop_left' rfl]

theorem seipd1CheckFirst_accept (sha1 : Bytes → Bytes) (bs max : Nat) (dec body : Bytes)
    (h : seipd1CheckFirst sha1 bs max dec = some body) :
    ∃ pre, pre.length = bs + 2 ∧
      dec = pre ++ body ++ [211, 20] ++ sha1 (pre ++ body ++ [211, 20]) ∧ body.length + 22 ≤ max := by
  by_cases hshort : dec.length < bs + 2 + 22
  · rw [seipd1CheckFirst_short sha1 bs max dec hshort] at h; cases h
  · obtain ⟨pre, body', mdc, rfl, hp, hm⟩ := exists_append3_of_length_le dec (bs + 2) 22 (Nat.le_of_not_lt hshort)
    rw [seipd1CheckFirst_parts sha1 bs max pre body' mdc hp hm] at h
    split at h
    · cases h
    · rename_i hmax
      split at h
      · rename_i hok
        obtain rfl := Option.some.inj h
        rw [(mdcOk_iff sha1 pre body' mdc hm).mp hok]
        exact ⟨pre, hp, by simp only [List.append_assoc], Nat.le_of_not_lt hmax⟩
      · cases h

theorem seipd1CheckFirst_roundtrip (sha1 : Bytes → Bytes) (hs : ∀ x, (sha1 x).length = 20)
    (bs max : Nat) (pre pt : Bytes) (hp : pre.length = bs + 2) (hmax : pt.length + 22 ≤ max) :
    seipd1CheckFirst sha1 bs max (seipd1Plain sha1 pre pt) = some pt := by
  obtain ⟨mdc, hplain, hml, hok⟩ := seipd1Plain_parts sha1 hs pre pt
  rw [hplain, seipd1CheckFirst_parts sha1 bs max pre pt mdc hp hml, if_neg (Nat.not_lt.mpr hmax), if_pos hok]

/-! ## streaming mode -/

theorem seipd1Rounds_short (sha1 : Bytes → Bytes) (pre : Bytes) {B : Nat} (fuel : Nat) {held : Bytes} (hashed : Bytes)
    {src : Bytes} (h : (held ++ src.take (B - held.length)).length < 22) :
    seipd1Rounds sha1 pre B (fuel + 1) held hashed src = ([], false) := by
  rw [seipd1Rounds]; exact if_pos h

theorem seipd1Rounds_succ (sha1 : Bytes → Bytes) (pre : Bytes) {B : Nat} (fuel : Nat) {held : Bytes} (hashed : Bytes)
    {src avail mdc : Bytes} (hbuf : held ++ src.take (B - held.length) = avail ++ mdc) (hm : mdc.length = 22) :
    seipd1Rounds sha1 pre B (fuel + 1) held hashed src =
      if src.length < B - held.length then
        if mdcOk sha1 pre (hashed ++ avail) mdc then ([avail], true) else ([], false)
      else
        let (bl, ok) := seipd1Rounds sha1 pre B fuel mdc (hashed ++ avail) (src.drop (B - held.length))
        (avail :: bl, ok) := by
  have h1 : ¬ avail.length + 22 < 22 := Nat.not_lt.mpr (Nat.le_add_left _ _)
  have h2 : ((src.take (B - held.length)).length < B - held.length) = (src.length < B - held.length) := by
    rw [List.length_take]
    exact propext ⟨fun h => Nat.lt_of_not_le fun hle => Nat.lt_irrefl _ (Nat.min_eq_left hle ▸ h),
      fun h => Nat.lt_of_le_of_lt (Nat.min_le_right _ _) h⟩
  rw [seipd1Rounds]
  simp only [hbuf, List.length_append, hm, Gen.mdcLen, if_neg h1, Nat.add_sub_cancel, List.take_left' rfl,
    List.drop_left' rfl, h2]

/-- what a streaming run on the decrypted data `S` (after `hashed`) may have released: (a) a prefix
of `S` with at least the 22 MDC octets still withheld, and (b) if it ended cleanly, all of `S` but
an MDC that holds over everything released -/
def Withheld (sha1 : Bytes → Bytes) (pre hashed S : Bytes) (r : List Bytes × Bool) : Prop :=
  (∃ tail, S = r.1.flatten ++ tail ∧ (r.1 ≠ [] → 22 ≤ tail.length)) ∧
  (r.2 = true → ∃ mdc, S = r.1.flatten ++ mdc ∧ mdc.length = 22 ∧
      mdcOk sha1 pre (hashed ++ r.1.flatten) mdc = true)

theorem Withheld.error (sha1 : Bytes → Bytes) (pre hashed S : Bytes) : Withheld sha1 pre hashed S ([], false) :=
  ⟨⟨S, rfl, fun h => absurd rfl h⟩, Bool.noConfusion⟩

theorem seipd1Rounds_sound (sha1 : Bytes → Bytes) (pre : Bytes) (B : Nat) :
    ∀ (fuel : Nat) (held hashed src : Bytes),
    Withheld sha1 pre hashed (held ++ src) (seipd1Rounds sha1 pre B fuel held hashed src) := by
  intro fuel
  induction fuel with
  | zero => intro held hashed src; exact Withheld.error sha1 pre hashed _
  | succ fuel ih =>
    intro held hashed src
    by_cases hshort : (held ++ src.take (B - held.length)).length < 22
    · rw [seipd1Rounds_short sha1 pre fuel hashed hshort]; exact Withheld.error sha1 pre hashed _
    · obtain ⟨avail, mdc, hbuf, hm⟩ := exists_append_of_length_le _ 22 (Nat.le_of_not_lt hshort)
      have hall : held ++ src = avail ++ (mdc ++ src.drop (B - held.length)) := by
        rw [← List.append_assoc, ← hbuf, List.append_assoc, List.take_append_drop]
      rw [seipd1Rounds_succ sha1 pre fuel hashed hbuf hm]
      split
      · rename_i hlast
        rw [List.drop_eq_nil_of_le (Nat.le_of_lt hlast), List.append_nil] at hall
        split
        · rename_i hok
          refine ⟨⟨mdc, ?_, fun _ => Nat.le_of_eq hm.symm⟩, fun _ => ⟨mdc, ?_, hm, ?_⟩⟩
          all_goals simp only [List.flatten_singleton]
          · exact hall
          · exact hall
          · exact hok
        · exact Withheld.error sha1 pre hashed _
      · obtain ⟨⟨tail, ht, htl⟩, hacc⟩ := ih mdc (hashed ++ avail) (src.drop (B - held.length))
        generalize seipd1Rounds sha1 pre B fuel mdc (hashed ++ avail) (src.drop (B - held.length)) = r at ht htl hacc ⊢
        obtain ⟨bl', ok'⟩ := r
        rw [hall]
        refine ⟨⟨tail, by rw [ht]; exact (List.append_assoc _ _ _).symm, fun _ => ?_⟩, fun hokk => ?_⟩
        · -- nothing further released: the tail is what this round held back, and more
          by_cases hb : bl' = []
          · rw [hb, List.flatten_nil, List.nil_append] at ht
            rw [← ht, List.length_append, hm]; exact Nat.le_add_right _ _
          · exact htl hb
        · obtain ⟨mdc', hm1, hm2, hm3⟩ := hacc hokk
          exact ⟨mdc', by rw [hm1]; exact (List.append_assoc _ _ _).symm, hm2,
            by rw [List.flatten_cons, ← List.append_assoc]; exact hm3⟩

/-- for every buffer size `B > 22`; the code uses 8192 -/
theorem seipd1Rounds_complete (sha1 : Bytes → Bytes) (pre : Bytes) (B : Nat) (hB : 22 < B) :
    ∀ (fuel : Nat) (held hashed src X mdc : Bytes),
    held.length ≤ 22 → src.length < fuel → held ++ src = X ++ mdc → mdc.length = 22 →
    mdcOk sha1 pre (hashed ++ X) mdc = true →
    ∃ bl, seipd1Rounds sha1 pre B fuel held hashed src = (bl, true) ∧ bl.flatten = X := by
  intro fuel
  induction fuel with
  | zero => intro _ _ _ _ _ _ h; exact absurd h (Nat.not_lt_zero _)
  | succ fuel ih =>
    intro held hashed src X mdc hheld hf hall hml hok
    by_cases hlast : src.length < B - held.length
    · rw [seipd1Rounds_succ sha1 pre fuel hashed (by rw [List.take_of_length_le (Nat.le_of_lt hlast), hall]) hml,
        if_pos hlast, if_pos hok]
      exact ⟨[X], rfl, List.flatten_singleton⟩
    · -- a full buffer of `m + 22` octets: the first `m` belong to `X`
      have hlast := Nat.le_of_not_lt hlast
      obtain ⟨m, rfl⟩ := Nat.exists_eq_add_of_le' (Nat.le_of_lt hB)
      obtain ⟨n, hn⟩ := Nat.exists_eq_add_of_le (Nat.le_trans hheld (Nat.le_add_left 22 m))
      have hsub : m + 22 - held.length = n := by rw [hn, Nat.add_sub_cancel_left]
      rw [hsub] at hlast
      have hlen := congrArg List.length hall
      rw [List.length_append, List.length_append, hml] at hlen
      generalize hbuf : held ++ src.take n = buf
      have hbl : buf.length = m + 22 := by
        rw [← hbuf, List.length_append, List.length_take, Nat.min_eq_left hlast, hn]
      have hcut : buf ++ src.drop n = X ++ mdc := by
        rw [← hbuf, List.append_assoc, List.take_append_drop, hall]
      have hmX : m ≤ X.length := by
        apply Nat.le_of_add_le_add_right (b := 22)
        rw [hn, ← hlen]; exact Nat.add_le_add_left hlast _
      have hnpos : 0 < n := by omega
      obtain ⟨havail, hrest⟩ := take_drop_of_append_eq hcut (hbl ▸ Nat.le_add_right m 22) hmX
      have hmdc' : (buf.drop m).length = 22 := by rw [List.length_drop, hbl, Nat.add_sub_cancel_left]
      have hfuel : (src.drop n).length < fuel := by
        rw [List.length_drop]
        exact Nat.lt_of_lt_of_le (Nat.sub_lt (Nat.lt_of_lt_of_le hnpos hlast) hnpos) (Nat.le_of_lt_succ hf)
      obtain ⟨bl', hrec, hfl⟩ := ih (buf.drop m) (hashed ++ X.take m) (src.drop n) (X.drop m) mdc
        (Nat.le_of_eq hmdc') hfuel hrest hml
        (by rw [List.append_assoc, List.take_append_drop]; exact hok)
      rw [seipd1Rounds_succ sha1 pre fuel hashed (avail := X.take m)
        (by rw [hsub, hbuf, ← havail, List.take_append_drop]) hmdc', hsub, if_neg (Nat.not_lt.mpr hlast), hrec]
      exact ⟨X.take m :: bl', rfl, by rw [List.flatten_cons, hfl, List.take_append_drop]⟩

theorem seipd1Streaming_roundtrip (sha1 : Bytes → Bytes) (hs : ∀ x, (sha1 x).length = 20)
    (bs B : Nat) (hB : 22 < B) (pre pt : Bytes) (hp : pre.length = bs + 2) :
    ∃ bl, seipd1Streaming sha1 bs B (seipd1Plain sha1 pre pt) = (bl, true) ∧ bl.flatten = pt := by
  obtain ⟨mdc, hplain, hml, hok⟩ := seipd1Plain_parts sha1 hs pre pt
  rw [hplain, seipd1Streaming,
    if_neg (by rw [List.length_append, hp]; exact Nat.not_lt.mpr (Nat.le_add_right _ _)),
    List.take_left' hp, List.drop_left' hp]
  exact seipd1Rounds_complete sha1 pre B hB _ [] [] _ pt _ (Nat.zero_le _)
    (by rw [List.length_append (as := pre)]; omega) (List.nil_append _) hml hok

end Rpgp
