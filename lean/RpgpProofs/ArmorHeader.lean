import RpgpModel.Armor
import RpgpProofs.Bytes
import RpgpProofs.ArmorParse
/-!
# The header stage of `Dearmor` on well-formed armor text

Header lines (`Key: Value`, the exact class of keys and values), the header map, block-type names,
and the header parser on the whole section — also on every proper prefix of a section without
header lines, which is what makes the reader independent of the source's schedule there.
-/
namespace Rpgp.Armor

/-! ## well-formedness of types and header maps (decidable) -/

/-- a key the header-line grammar can carry: non-empty, one line, no `": "` inside, UTF-8 -/
def keyOk (k : Bytes) : Bool := !k.isEmpty && noCrLf k && noColonSp k && validUtf8 k

/-- a value the header-line grammar can carry: one line of UTF-8 — anything else goes, including
`": "` inside, a trailing `:`, trailing blanks, the empty string -/
def valOk (v : Bytes) : Bool := noCrLf v && validUtf8 v

/-- keys strictly increasing (what iterating a `BTreeMap` yields) -/
def pairwiseKeys : Headers → Bool
  | [] => true
  | a :: r => r.all (fun b => bytesLt a.1 b.1) && pairwiseKeys r

def WFHeaders (h : Headers) : Bool :=
  pairwiseKeys h && h.all fun kv => keyOk kv.1 && !kv.2.isEmpty && kv.2.all valOk

/-- block types `armor::write` is meant for (the cleartext type has its own `Hash:` header grammar);
part numbers must fit `usize` -/
def typeOk : BlockType → Bool
  | .cleartext => false
  | .multiPart x y => decide (x < 18446744073709551616) && decide (y < 18446744073709551616)
  | _ => true

/-! ## armor text, generalised over the tolerated variations -/

def pairLines (nl : Bytes) (ps : List (Bytes × Bytes)) : Bytes :=
  ps.flatMap fun kv => kv.1 ++ COLON :: SP :: (kv.2 ++ nl)

def pairsOf (h : Headers) : List (Bytes × Bytes) := h.flatMap fun kv => kv.2.map fun v => (kv.1, v)

/-- the header section: leading text, BEGIN line, `Key: Value` lines, separator line of blanks -/
def headText (lead nl ws : Bytes) (t : BlockType) (h : Headers) : Bytes :=
  lead ++ (DASH5 ++ (asc "BEGIN " ++ (typeName t ++ (DASH5 ++ (nl ++ (pairLines nl (pairsOf h) ++ (ws ++ nl)))))))

theorem asc_begin : asc "-----BEGIN " = DASH5 ++ asc "BEGIN " := by rw [asc_ofList, asc_ofList]; rfl

theorem asc_dash5_lf : asc "-----\n" = DASH5 ++ [LF] := by rw [asc_ofList]; rfl

theorem armorHead_eq (t : BlockType) (h : Headers) : armorHead t h = headText [] [LF] [] t h := by
  have e : asc ": " = [COLON, SP] := by rw [asc_ofList]; rfl
  simp only [armorHead, headText, pairLines, pairsOf, List.flatMap_assoc, List.flatMap_map, asc_begin, asc_dash5_lf, e,
    List.append_assoc, List.cons_append, List.nil_append]

/-! ## one header line -/

theorem kvSplit_line (k v : Bytes) (hk2 : noColonSp k = true) :
    kvSplit (k ++ COLON :: SP :: v) = (k, v) := by
  simp [kvSplit, splitOnSub_colonSp k v hk2]

theorem kvPair_line (k v nl T : Bytes) (hk : keyOk k = true) (hv : valOk v = true) (hnl : IsNl nl) :
    kvPair (k ++ COLON :: SP :: (v ++ nl ++ T)) = .ok (k, v) T := by
  simp only [keyOk, valOk, Bool.and_eq_true, Bool.not_eq_true'] at hk hv
  obtain ⟨⟨⟨hk0, hk1⟩, hk2⟩, hk3⟩ := hk
  obtain ⟨hv1, hv3⟩ := hv
  have hkne : k ≠ [] := by intro e; subst e; simp at hk0
  have hline : noCrLf (k ++ COLON :: SP :: v) = true := by
    simp only [noCrLf, List.all_append, List.all_cons, Bool.and_eq_true] at hk1 hv1 ⊢
    exact ⟨hk1, by decide, by decide, hv1⟩
  have hutf : validUtf8 (k ++ COLON :: SP :: v) = true :=
    validUtf8_append k _ hk3 (validUtf8_append [COLON, SP] v (by decide) hv3)
  have e : k ++ COLON :: SP :: (v ++ nl ++ T) = (k ++ COLON :: SP :: v) ++ nl ++ T := by simp
  rw [e]
  simp only [kvPair, notLineEnding_value _ nl T hline hnl, hutf, if_true, lineEnding_nl nl T hnl,
    kvSplit_line k v hk2]
  simp [hkne]

theorem kvPair_blank (ws nl X : Bytes) (hws : ∀ b ∈ ws, b = SP ∨ b = TAB) (hnl : IsNl nl) :
    kvPair (ws ++ nl ++ X) = .err := by
  have hline : noCrLf ws = true := by
    simp only [noCrLf, List.all_eq_true]
    intro b hb; rcases hws b hb with rfl | rfl <;> decide
  have hutf : validUtf8 ws = true :=
    validUtf8_ascii ws (fun b hb => by rcases hws b hb with rfl | rfl <;> decide)
  have hnc : ∀ b ∈ ws, b ≠ COLON := fun b hb => by rcases hws b hb with rfl | rfl <;> decide
  have hsplit : kvSplit ws = ([], []) := by
    have hlast : ws.getLast? ≠ some COLON := by
      intro h
      exact hnc COLON (List.mem_of_getLast? h) rfl
    simp [kvSplit, splitOnSub_colon_none [SP] ws hnc, hlast]
  simp only [kvPair, notLineEnding_value ws nl X hline hnl, hutf, if_true, lineEnding_nl nl X hnl, hsplit]
  simp

theorem kvPairs_lines (nl : Bytes) (hnl : IsNl nl) (Y : Bytes) (hY : kvPair Y = .err) :
    ∀ (ps : List (Bytes × Bytes)) (fuel : Nat), (∀ kv ∈ ps, keyOk kv.1 = true ∧ valOk kv.2 = true) →
      (pairLines nl ps).length ≤ fuel → kvPairs fuel (pairLines nl ps ++ Y) = (ps, Y) := by
  intro ps
  induction ps with
  | nil =>
    intro fuel _ _
    cases fuel with
    | zero => rfl
    | succ f => simp [kvPairs, pairLines, hY, PR.complete]
  | cons kv r ih =>
    intro fuel h hf
    cases fuel with
    | zero => simp [pairLines] at hf
    | succ f =>
      obtain ⟨hk, hv⟩ := h kv (by simp)
      have e : pairLines nl (kv :: r) ++ Y = kv.1 ++ COLON :: SP :: (kv.2 ++ nl ++ (pairLines nl r ++ Y)) := by
        simp [pairLines]
      rw [e]
      simp only [kvPairs, kvPair_line kv.1 kv.2 nl _ hk hv hnl, PR.complete]
      rw [ih f (fun x hx => h x (by simp [hx]))
        (by simp only [pairLines, List.flatMap_cons, List.length_append, List.length_cons] at hf ⊢; omega)]

/-! ## rebuilding the map -/

theorem bytesLt_irrefl (a : Bytes) : bytesLt a a = false := by
  induction a with
  | nil => rfl
  | cons x r ih => simp [bytesLt, ih]

theorem bytesLt_asymm (a : Bytes) : ∀ b, bytesLt a b = true → bytesLt b a = false := by
  induction a with
  | nil => intro b h; cases b <;> simp [bytesLt] at h ⊢
  | cons x r ih =>
    intro b h
    cases b with
    | nil => simp [bytesLt] at h
    | cons y s =>
      simp only [bytesLt] at h ⊢
      by_cases h1 : x < y
      · have : ¬ (y < x) := by
          intro h2; exact absurd (UInt8.lt_trans h1 h2) (UInt8.lt_irrefl x)
        simp [this, h1]
      · simp only [h1, if_false] at h
        by_cases h2 : y < x
        · simp [h2] at h
        · simp only [h2, if_false] at h
          simp only [h2, h1, if_false]
          exact ih s h

theorem hdrInsert_append (k v : Bytes) (acc tl : Headers) (h : ∀ e ∈ acc, bytesLt e.1 k = true) :
    hdrInsert k v (acc ++ tl) = acc ++ hdrInsert k v tl := by
  induction acc with
  | nil => rfl
  | cons e r ih =>
    have he := h e List.mem_cons_self
    have hne : k ≠ e.1 := by
      intro e'; rw [e', bytesLt_irrefl] at he; cases he
    rw [List.cons_append, hdrInsert, if_neg hne, bytesLt_asymm _ _ he, ih fun x hx => h x (List.mem_cons_of_mem _ hx)]
    rfl

theorem foldl_insert_values (k : Bytes) (acc : Headers) (h : ∀ e ∈ acc, bytesLt e.1 k = true) :
    ∀ (vs cur : List Bytes),
      (vs.map fun v => (k, v)).foldl (fun m kv => hdrInsert kv.1 kv.2 m) (acc ++ [(k, cur)]) = acc ++ [(k, cur ++ vs)] := by
  intro vs
  induction vs with
  | nil => intro cur; simp
  | cons v r ih =>
    intro cur
    simp only [List.map_cons, List.foldl_cons]
    rw [hdrInsert_append k v acc _ h, hdrInsert, if_pos rfl, ih (cur ++ [v])]
    simp

theorem foldl_insert_pairs :
    ∀ (h acc : Headers), pairwiseKeys (acc ++ h) = true → (∀ kv ∈ h, kv.2 ≠ []) →
      (pairsOf h).foldl (fun m kv => hdrInsert kv.1 kv.2 m) acc = acc ++ h := by
  intro h
  induction h with
  | nil => intro acc _ _; simp [pairsOf]
  | cons e r ih =>
    intro acc hs hne
    obtain ⟨k, vs⟩ := e
    have hvs : vs ≠ [] := hne (k, vs) (by simp)
    have hlt : ∀ x ∈ acc, bytesLt x.1 k = true := by
      clear ih hne hvs
      induction acc with
      | nil => intro x hx; simp at hx
      | cons a acc' ih' =>
        intro x hx
        simp only [List.cons_append, pairwiseKeys, Bool.and_eq_true, List.all_eq_true] at hs
        rcases List.mem_cons.mp hx with rfl | hx'
        · exact hs.1 (k, vs) (by simp)
        · exact ih' hs.2 x hx'
    cases vs with
    | nil => exact absurd rfl hvs
    | cons v vs' =>
      simp only [pairsOf, List.flatMap_cons, List.map_cons, List.cons_append, List.foldl_cons, List.foldl_append]
      have hnew := hdrInsert_append k v acc [] hlt
      rw [List.append_nil] at hnew
      rw [hnew, hdrInsert, foldl_insert_values k acc hlt vs' [v]]
      have := ih (acc ++ [(k, v :: vs')]) (by simpa [List.append_assoc] using hs) (fun kv hkv => hne kv (by simp [hkv]))
      simp only [pairsOf] at this
      simp only [List.singleton_append]
      rw [this]; simp

theorem WFHeaders_pairs (h : Headers) (hw : WFHeaders h = true) :
    (∀ kv ∈ pairsOf h, keyOk kv.1 = true ∧ valOk kv.2 = true) ∧ (∀ kv ∈ h, kv.2 ≠ []) ∧ pairwiseKeys h = true := by
  simp only [WFHeaders, Bool.and_eq_true, List.all_eq_true, Bool.not_eq_true'] at hw
  refine ⟨?_, ?_, hw.1⟩
  · intro kv hkv
    simp only [pairsOf, List.mem_flatMap, List.mem_map] at hkv
    obtain ⟨e, he, v, hv, rfl⟩ := hkv
    have := hw.2 e he
    exact ⟨this.1.1, this.2 v hv⟩
  · intro kv hkv hnil
    have := (hw.2 kv hkv).1.2
    simp [hnil] at this

/-! ## what the reader can return at all (the class is exact) -/

theorem notLineEnding_noCrLf (i l r : Bytes) (h : notLineEnding i = .ok l r) : noCrLf l = true := by
  fun_induction notLineEnding i generalizing l with
  | case2 | case4 => cases h; rfl
  | case6 c t h1 h2 v rest hv ih =>
    cases h
    simp only [noCrLf, List.all_cons, Bool.and_eq_true, bne_iff_ne, ne_eq]
    exact ⟨⟨h2, h1⟩, ih v hv⟩
  | case1 | case3 | case5 | case7 | case8 => cases h

theorem splitOnSub_colonSp_key : ∀ {l k rest : Bytes}, splitOnSub [COLON, SP] l = some (k, rest) →
    noColonSp k = true
  | c :: t, k, rest, h => by
    by_cases hp : [COLON, SP].isPrefixOf (c :: t) = true
    · simp only [splitOnSub, hp, if_true, Option.some.injEq, Prod.mk.injEq] at h
      rw [← h.1]; rfl
    · have hp' := Bool.eq_false_iff.mpr hp
      rw [splitOnSub_cons_ne _ _ _ hp'] at h
      cases hs : splitOnSub [COLON, SP] t with
      | none => simp [hs] at h
      | some ab =>
        simp only [hs, Option.some.injEq, Prod.mk.injEq] at h
        obtain ⟨rfl, rfl⟩ := h
        -- an occurrence at the head of `c :: ab.1` would be one at the head of `c :: t`
        have hno : [COLON, SP].isPrefixOf (c :: ab.1) = false := Bool.eq_false_iff.mpr fun hx => hp (by
          rw [(splitOnSub_some hs).2]
          exact List.isPrefixOf_iff_prefix.mpr ((List.isPrefixOf_iff_prefix.mp hx).trans (List.prefix_append _ _)))
        rw [noColonSp_cons, hno, splitOnSub_colonSp_key hs]; rfl

theorem splitOnSub_colonSp_none : ∀ (l : Bytes), splitOnSub [COLON, SP] l = none → noColonSp l = true
  | [], _ => rfl
  | c :: t, h => by
    by_cases hp : [COLON, SP].isPrefixOf (c :: t) = true
    · simp [splitOnSub, hp] at h
    · have hp' := Bool.eq_false_iff.mpr hp
      rw [splitOnSub_cons_ne _ _ _ hp'] at h
      cases hs : splitOnSub [COLON, SP] t with
      | some ab => simp [hs] at h
      | none => rw [noColonSp_cons, hp', splitOnSub_colonSp_none t hs]; rfl

theorem noColonSp_prefix : ∀ (a b : Bytes), noColonSp (a ++ b) = true → noColonSp a = true
  | [], _, _ => rfl
  | x :: r, b, h => by
    rw [List.cons_append, noColonSp_cons, Bool.and_eq_true, Bool.not_eq_true'] at h
    have hno : [COLON, SP].isPrefixOf (x :: r) = false := Bool.eq_false_iff.mpr fun hx => by
      have := List.isPrefixOf_iff_prefix.mpr ((List.isPrefixOf_iff_prefix.mp hx).trans (List.prefix_append _ b))
      rw [List.cons_append, h.1] at this; cases this
    rw [noColonSp_cons, hno, noColonSp_prefix r b h.2]; rfl

theorem noCrLf_append (a b : Bytes) : noCrLf (a ++ b) = (noCrLf a && noCrLf b) := by
  simp [noCrLf, List.all_append]

theorem kvSplit_key {line k v : Bytes} (h : kvSplit line = (k, v)) (hk : k ≠ []) :
    noColonSp k = true ∧ (line = k ++ COLON :: SP :: v ∨ line = k ++ [COLON] ∧ v = []) := by
  unfold kvSplit at h
  cases hs : splitOnSub [COLON, SP] line with
  | some ab =>
    simp only [hs, Prod.mk.injEq] at h
    obtain ⟨⟨w, hw⟩, hline⟩ := splitOnSub_some hs
    obtain ⟨rfl, rfl⟩ := h
    exact ⟨splitOnSub_colonSp_key hs, Or.inl (by rw [hline, ← hw]; rfl)⟩
  | none =>
    simp only [hs] at h
    split at h
    · next hlast =>
      obtain ⟨rfl, rfl⟩ := Prod.mk.inj h
      obtain ⟨ys, hys⟩ := List.getLast?_eq_some_iff.mp hlast
      have hline : line = line.dropLast ++ [COLON] := by rw [hys]; simp
      exact ⟨noColonSp_prefix _ [COLON] (hline ▸ splitOnSub_colonSp_none line hs), Or.inr ⟨hline, rfl⟩⟩
    · exact absurd (Prod.mk.inj h).1.symm hk

/-- **the class is exact**: whatever `key_value_pair` returns has a non-empty key without line break
and without `": "`, and a value without line break — so no other key can survive a round trip -/
theorem kvPair_returns_class (i k v r : Bytes) (h : kvPair i = .ok (k, v) r) :
    k ≠ [] ∧ noCrLf k = true ∧ noColonSp k = true ∧ noCrLf v = true := by
  unfold kvPair at h
  cases hl : notLineEnding i with
  | inc | err => simp [hl] at h
  | ok line r1 =>
    have hcr := notLineEnding_noCrLf i line r1 hl
    simp only [hl] at h
    split at h
    · cases hle : lineEnding r1 with
      | inc | err => simp [hle] at h
      | ok u rest =>
        simp only [hle] at h
        split at h
        · cases h
        · next hke =>
          have hkv : kvSplit line = (k, v) := (PR.ok.inj h).1
          have hkne : k ≠ [] := fun e => hke (by rw [hkv, e]; rfl)
          obtain ⟨hnc, hline | ⟨hline, rfl⟩⟩ := kvSplit_key hkv hkne
          · rw [hline, noCrLf_append, Bool.and_eq_true] at hcr
            exact ⟨hkne, hcr.1, hnc, by
              have : noCrLf ([COLON, SP] ++ v) = true := hcr.2
              rw [noCrLf_append, Bool.and_eq_true] at this; exact this.2⟩
          · rw [hline, noCrLf_append, Bool.and_eq_true] at hcr
            exact ⟨hkne, hcr.1, hnc, rfl⟩
    · cases h

/-! ## block-type names: `Display` then `armor_header_type` is the identity -/

/-! ### decimal numbers -/

def decStep (a : Nat) (d : Byte) : Nat := a * 10 + (d.toNat - 48)

theorem digit_props (m : Nat) (h : m < 10) :
    isDigit (48 + m).toUInt8 = true ∧ (48 + m).toUInt8.toNat - 48 = m := by
  rw [isDigit, toUInt8_toNat_of_lt _ (by omega)]
  exact ⟨by simp; omega, by omega⟩

theorem natToDecAux_succ (f n : Nat) (acc : Bytes) :
    natToDecAux (f + 1) n acc =
      if n < 10 then (48 + n % 10).toUInt8 :: acc else natToDecAux f (n / 10) ((48 + n % 10).toUInt8 :: acc) := rfl

theorem natToDecAux_spec : ∀ (f n : Nat) (acc : Bytes), n < 10 ^ f → 0 < f →
    ∃ D, natToDecAux f n acc = D ++ acc ∧ D ≠ [] ∧ (∀ d ∈ D, isDigit d = true) ∧
      ∀ a0 rest, (D ++ rest).foldl decStep a0 = rest.foldl decStep (a0 * 10 ^ D.length + n) := by
  intro f
  induction f with
  | zero => intro n acc _ h; exact absurd h (Nat.lt_irrefl 0)
  | succ f ih =>
    intro n acc hn _
    have hd := digit_props (n % 10) (Nat.mod_lt _ (by decide))
    rw [natToDecAux_succ]
    generalize (48 + n % 10).toUInt8 = dg at hd ⊢
    by_cases h10 : n < 10
    · rw [if_pos h10]
      refine ⟨[dg], rfl, List.cons_ne_nil _ _, ?_, ?_⟩
      · intro d hdm; rw [List.mem_singleton.mp hdm]; exact hd.1
      · intro a0 rest
        rw [List.singleton_append, List.foldl_cons, decStep, hd.2, Nat.mod_eq_of_lt h10, List.length_singleton, Nat.pow_one]
    · rw [if_neg h10]
      have hf : 0 < f := by
        cases f with
        | zero => exact absurd hn (by omega)
        | succ _ => exact Nat.succ_pos _
      have hn' : n / 10 < 10 ^ f := by
        rw [Nat.pow_succ] at hn
        exact Nat.div_lt_of_lt_mul (by omega)
      obtain ⟨D, hD, hne, hdig, hval⟩ := ih (n / 10) (dg :: acc) hn' hf
      refine ⟨D ++ [dg], by rw [hD, List.append_assoc]; rfl, by simp, ?_, ?_⟩
      · intro d hdm
        rcases List.mem_append.mp hdm with hdm | hdm
        · exact hdig d hdm
        · rw [List.mem_singleton.mp hdm]; exact hd.1
      · intro a0 rest
        rw [List.append_assoc, List.singleton_append, hval a0 (dg :: rest), List.foldl_cons, decStep, hd.2,
          List.length_append, List.length_singleton, Nat.pow_succ]
        congr 1
        have := Nat.div_add_mod n 10
        rw [Nat.add_mul, Nat.mul_assoc]
        omega

theorem natToDec_spec (n : Nat) :
    natToDec n ≠ [] ∧ (∀ d ∈ natToDec n, isDigit d = true) ∧ (natToDec n).foldl decStep 0 = n := by
  have hlt : n < 10 ^ (n + 1) := by
    have : n < 2 ^ n := Nat.lt_two_pow_self
    calc n < 2 ^ n := this
      _ ≤ 10 ^ n := Nat.pow_le_pow_left (by omega) n
      _ ≤ 10 ^ (n + 1) := Nat.pow_le_pow_right (by omega) (by omega)
  obtain ⟨D, hD, hne, hdig, hval⟩ := natToDecAux_spec (n + 1) n [] hlt (by omega)
  have e : natToDec n = D := by simp [natToDec, hD]
  rw [e]
  refine ⟨hne, hdig, ?_⟩
  have := hval 0 []
  simpa using this

theorem parseUsize_natToDec (n : Nat) (h : n < 18446744073709551616) : parseUsize (natToDec n) = some n := by
  have e : (natToDec n).foldl (fun a d => a * 10 + (d.toNat - 48)) 0 = n := (natToDec_spec n).2.2
  simp only [parseUsize]
  rw [e]; simp [h]

theorem digit1_digits (ds : Bytes) (c : Byte) (r : Bytes) (hne : ds ≠ []) (hd : ∀ d ∈ ds, isDigit d = true)
    (hc : isDigit c = false) : digit1 (ds ++ c :: r) = .ok ds (c :: r) := by
  induction ds with
  | nil => exact absurd rfl hne
  | cons d ds' ih =>
    have hdd := hd d (by simp)
    cases ds' with
    | nil => simp [digit1, hdd, hc]
    | cons d' ds'' =>
      have := ih (by simp) (fun x hx => hd x (by simp [hx]))
      simp only [List.cons_append] at this ⊢
      rw [digit1]
      simp only [hdd, if_true, this]

/-! ### the type parser is stable -/

theorem parseTypeTable_stable : ∀ tbl, Stable (parseTypeTable tbl)
  | [] => Stable.err
  | (name, t) :: tl => by
    intro s x
    simp only [parseTypeTable]
    rcases tagS_stable name s x with h | h
    · rw [h]; exact Or.inl rfl
    · rw [h]
      cases tagS name s with
      | ok u r => exact Or.inr rfl
      | inc => exact Or.inl rfl
      | err => exact parseTypeTable_stable tl s x

/-- `map_res`: a conversion that fails is an `Error` -/
def PR.mapRes {α β : Type} (o : Option β) (f : β → PR α) : PR α :=
  match o with
  | none => .err
  | some b => f b

theorem PR.mapRes_some {α β : Type} (b : β) (f : β → PR α) : PR.mapRes (some b) f = f b := rfl

theorem Stable.mapRes {α β : Type} (o : Option β) {f : β → Bytes → PR α} (hf : ∀ b, Stable (f b)) :
    Stable fun s => PR.mapRes o fun b => f b s := by
  cases o with
  | none => exact Stable.err
  | some b => exact hf b

theorem parseMultiPart_eq (i : Bytes) : parseMultiPart i =
    (tagS (asc "PGP MESSAGE, PART ") i).andThen fun _ r => (digit1 r).andThen fun ds r2 =>
      PR.mapRes (parseUsize ds) fun x =>
        ((tagS [SLASH] r2).andThen fun _ r3 => (digit1 r3).andThen fun ds2 r4 =>
          PR.mapRes (parseUsize ds2) fun y => .ok (.multiPart x y) r4).orElse fun _ => .ok (.multiPart x 0) r2 := by
  rw [parseMultiPart]
  cases tagS (asc "PGP MESSAGE, PART ") i with
  | inc | err => rfl
  | ok u r =>
    dsimp only [PR.andThen_ok]
    cases digit1 r with
    | inc | err => rfl
    | ok ds r2 =>
      dsimp only [PR.andThen_ok]
      cases parseUsize ds with
      | none => rfl
      | some x =>
        dsimp only [PR.mapRes_some]
        cases tagS [SLASH] r2 with
        | inc | err => rfl
        | ok u r3 =>
          dsimp only [PR.andThen_ok]
          cases digit1 r3 with
          | inc | err => rfl
          | ok ds2 r4 =>
            dsimp only [PR.andThen_ok]
            cases parseUsize ds2 <;> rfl

theorem parseMultiPart_stable : Stable parseMultiPart := by
  rw [funext parseMultiPart_eq]
  exact (tagS_stable _).andThen fun _ => digit1_stable.andThen fun ds => Stable.mapRes _ fun x =>
    ((tagS_stable _).andThen fun _ => digit1_stable.andThen fun ds2 => Stable.mapRes _ fun y => Stable.ok _).orElse
      (Stable.ok _)

theorem parseType_stable : Stable parseType :=
  (parseTypeTable_stable _).orElse (parseMultiPart_stable.orElse (parseTypeTable_stable _))

/-! ### the names -/

/-- the block types with a fixed name (all but the multi-part and cleartext ones) -/
def simpleTypes : List BlockType :=
  [.publicKey, .privateKey, .message, .signature, .file, .pubPkcs1 .rsa, .pubPkcs1 .dsa, .pubPkcs1 .ec,
   .pubPkcs8, .pubOpenssh, .privPkcs1 .rsa, .privPkcs1 .dsa, .privPkcs1 .ec, .privPkcs8, .privOpenssh]

theorem simpleTypes_ok : ∀ t ∈ simpleTypes, typeOk t = true := by decide

/-- the octets names are made of: upper-case letters, digits, blank, `,` and `/` -/
def isNameChar (b : Byte) : Bool :=
  (65 ≤ b.toNat && b.toNat ≤ 90) || isDigit b || b == SP || b == COMMA || b == SLASH

/-- the table of fixed names, by evaluation: each is read back as its type when a `-` follows (no
earlier alternative of `armor_header_type` matches a later name), and consists of name octets -/
theorem fixedNames : ∀ t ∈ BlockType.cleartext :: simpleTypes,
    let n := typeName t
    parseType (n ++ [45]) = .ok t [45] ∧ n.all isNameChar = true := by
  -- all literals into sight, each turned into the list of its characters; names and tables one after the
  -- other, since a `rw` costs in proportion to the term it works in
  unfold typeName pkcs1Name
  repeat rw [asc_ofList]
  simp only [parseType, parseMultiPart_eq]
  conv in typeTable1 => rw [typeTable1]; repeat rw [asc_ofList]
  conv in typeTable2 => rw [typeTable2]; repeat rw [asc_ofList]
  rw [asc_ofList]
  decide +kernel

/-- … and the multi-part prefix is not the beginning of one of the first two names -/
theorem multiPartTag : parseTypeTable typeTable1 (asc "PGP MESSAGE, PART ") = .err ∧
    (asc "PGP MESSAGE, PART ").all isNameChar = true := by
  rw [typeTable1]
  repeat rw [asc_ofList]
  decide +kernel

theorem multiPart_or_fixed (t : BlockType) :
    (∃ x y, t = .multiPart x y) ∨ t ∈ BlockType.cleartext :: simpleTypes := by
  cases t with
  | multiPart x y => exact Or.inl ⟨x, y, rfl⟩
  | pubPkcs1 k | privPkcs1 k => cases k <;> exact Or.inr (by decide +kernel)
  | _ => exact Or.inr (by decide +kernel)

theorem parseType_typeName (t : BlockType) (r : Bytes) (ht : typeOk t = true) :
    parseType (typeName t ++ (DASH5 ++ r)) = .ok t (DASH5 ++ r) := by
  rcases multiPart_or_fixed t with ⟨x, y, rfl⟩ | h
  · simp only [typeOk, Bool.and_eq_true, decide_eq_true_eq] at ht
    obtain ⟨hx1, hx2, _⟩ := natToDec_spec x
    obtain ⟨hy1, hy2, _⟩ := natToDec_spec y
    have e : typeName (.multiPart x y) ++ (DASH5 ++ r) =
        asc "PGP MESSAGE, PART " ++ (natToDec x ++ SLASH :: (natToDec y ++ 45 :: ([45, 45, 45, 45] ++ r))) := by
      simp only [typeName, List.append_assoc]; rfl
    rw [e, parseType, (parseTypeTable_stable typeTable1).err_append multiPartTag.1, PR.orElse_err,
      parseMultiPart_eq, tagS_append, PR.andThen_ok,
      digit1_digits (natToDec x) SLASH _ hx1 hx2 (by decide), PR.andThen_ok, parseUsize_natToDec x ht.1, PR.mapRes_some,
      tagS, if_pos rfl, tagS, PR.andThen_ok,
      digit1_digits (natToDec y) 45 _ hy1 hy2 (by decide), PR.andThen_ok, parseUsize_natToDec y ht.2, PR.mapRes_some,
      PR.orElse_ok, PR.orElse_ok]
    rfl
  · -- read back with one `-` behind it (`fixedNames`); stability adds the rest
    have := parseType_stable.ok_append (fixedNames t h).1 ([45, 45, 45, 45] ++ r)
    rwa [List.append_assoc] at this

theorem typeName_chars (t : BlockType) : ∀ b ∈ typeName t, isNameChar b = true := by
  have digit (b : Byte) (h : isDigit b = true) : isNameChar b = true := by simp [isNameChar, h]
  rcases multiPart_or_fixed t with ⟨x, y, rfl⟩ | h
  · intro b hb
    simp only [typeName, List.mem_append, List.mem_singleton] at hb
    rcases hb with ((hb | hb) | hb) | hb
    · exact List.all_eq_true.mp multiPartTag.2 b hb
    · exact digit b ((natToDec_spec x).2.1 b hb)
    · subst hb; decide
    · exact digit b ((natToDec_spec y).2.1 b hb)
  · exact List.all_eq_true.mp (fixedNames t h).2

theorem typeName_ne (t : BlockType) (c : Byte) (hc : isNameChar c = false) : ∀ b ∈ typeName t, b ≠ c :=
  fun b hb e => by rw [← e, typeName_chars t b hb] at hc; cases hc

theorem typeName_noColon (t : BlockType) : ∀ b ∈ typeName t, b ≠ COLON := typeName_ne t COLON (by decide)

theorem typeName_noLf (t : BlockType) : ∀ b ∈ typeName t, b ≠ LF := typeName_ne t LF (by decide)

/-! ## the header stage -/

theorem armorHeaderLine_eq (i : Bytes) : armorHeaderLine i =
    (tagS (asc "-----BEGIN ") i).andThen fun _ r => (parseType r).andThen fun t r2 =>
      (tagS DASH5 r2).andThen fun _ r3 => (lineEnding r3).andThen fun _ r4 => .ok t r4 := by
  -- A variable in the place of `parseType`: each `dsimp` below reduces a `match PR.ok _ r with …`, the kernel
  -- checks the reduced goal against the original, and with `match parseType r with …` at the head of one side
  -- it evaluates `parseType r` as far as the string literal of the first table entry.
  obtain ⟨p, hp⟩ : ∃ p, parseType = p := ⟨_, rfl⟩
  rw [armorHeaderLine, hp]
  cases tagS (asc "-----BEGIN ") i with
  | inc | err => rfl
  | ok u r =>
    dsimp only [PR.andThen_ok]
    cases p r with
    | inc | err => rfl
    | ok t r2 =>
      dsimp only [PR.andThen_ok]
      cases tagS DASH5 r2 with
      | inc | err => rfl
      | ok u r3 => dsimp only [PR.andThen_ok]; cases lineEnding r3 <;> rfl

theorem armorHeaderLine_ok (t : BlockType) (nl R : Bytes) (ht : typeOk t = true) (hnl : IsNl nl) :
    armorHeaderLine (DASH5 ++ (asc "BEGIN " ++ (typeName t ++ (DASH5 ++ (nl ++ R))))) = .ok t R := by
  rw [← List.append_assoc, ← asc_begin, armorHeaderLine_eq, tagS_append, PR.andThen_ok, parseType_typeName t _ ht, PR.andThen_ok,
    tagS_append, PR.andThen_ok, lineEnding_nl nl R hnl, PR.andThen_ok]

theorem armorHeaders_of_typeOk {t : BlockType} (ht : typeOk t = true) (i : Bytes) :
    armorHeaders t i = ((kvPairs i.length i).1.foldl (fun m kv => hdrInsert kv.1 kv.2 m) [], (kvPairs i.length i).2) := by
  rw [armorHeaders, if_neg fun e => by subst e; cases ht]

/-- `armor_headers` on the lines of a header map, up to a text `Y` that is not a header line -/
theorem armorHeaders_lines {t : BlockType} (ht : typeOk t = true) {nl Y : Bytes} (hnl : IsNl nl) (hY : kvPair Y = .err)
    (h : Headers) (hh : WFHeaders h = true) : armorHeaders t (pairLines nl (pairsOf h) ++ Y) = (h, Y) := by
  obtain ⟨hps, hne, hsorted⟩ := WFHeaders_pairs h hh
  rw [armorHeaders_of_typeOk ht,
    kvPairs_lines nl hnl Y hY (pairsOf h) _ hps (by rw [List.length_append]; exact Nat.le_add_right _ _),
    foldl_insert_pairs h [] hsorted hne]
  rfl

/-- `header_parser` from the first `-----` on -/
theorem headerParser_of_split {i lead r : Bytes} (h : splitOnSub DASH5 i = some (lead, r)) :
    headerParser i = (armorHeaderLine r).andThen fun t r2 => (space0 (armorHeaders t r2).2).andThen fun _ r3 =>
      (lineEnding r3).andThen fun _ r4 => .ok (t, (armorHeaders t r2).1, !lead.isEmpty) r4 := by
  -- a variable in the place of `armorHeaderLine`, as in `armorHeaderLine_eq`
  obtain ⟨line, hl⟩ : ∃ line, armorHeaderLine = line := ⟨_, rfl⟩
  rw [headerParser, h, hl]
  dsimp only
  cases line r with
  | inc | err => rfl
  | ok t r2 =>
    dsimp only [PR.andThen_ok]
    cases space0 (armorHeaders t r2).2 with
    | inc | err => rfl
    | ok u r3 => dsimp only [PR.andThen_ok]; cases lineEnding r3 <;> rfl

/-- **the header stage on well-formed armor text**: leading text without dashes, LF or CRLF line
endings, a separator line of blanks and tabs, any admissible type and header map, followed by
anything at all (the header-line parser only ever looks at one line) -/
theorem headerParser_headText (lead nl ws : Bytes) (t : BlockType) (h : Headers) (X : Bytes)
    (hlead : ∀ b ∈ lead, b ≠ 45) (hnl : IsNl nl) (hws : ∀ b ∈ ws, b = SP ∨ b = TAB)
    (ht : typeOk t = true) (hh : WFHeaders h = true) :
    headerParser (headText lead nl ws t h ++ X) = .ok (t, h, !lead.isEmpty) X := by
  simp only [headText, List.append_assoc]
  rw [← List.append_assoc ws, headerParser_of_split (splitOnSub_lead lead _ hlead), armorHeaderLine_ok t nl _ ht hnl,
    PR.andThen_ok, armorHeaders_lines ht hnl (kvPair_blank ws nl X hws hnl) h hh]
  dsimp only
  rw [space0_ws ws nl X hws hnl, PR.andThen_ok, lineEnding_nl nl X hnl, PR.andThen_ok]

/-! ### a header section without header lines, cut anywhere -/

theorem armorHeaderLine_stable : Stable armorHeaderLine := by
  rw [funext armorHeaderLine_eq]
  exact (tagS_stable _).andThen fun _ => parseType_stable.andThen fun t => (tagS_stable _).andThen fun _ =>
    lineEnding_stable.andThen fun _ => Stable.ok t

/-- the header section written for an empty header map -/
def bareHead (t : BlockType) : Bytes := headText [] [LF] [] t []

/-- on every proper prefix of such a header section the header parser answers `Incomplete`: up to
the end of the BEGIN line by stability, and then a blank line is still to come -/
theorem headerParser_bareHead_prefix (t : BlockType) (ht : typeOk t = true) {s : Bytes}
    (hs : s <+: bareHead t) (hl : s.length < (bareHead t).length) : headerParser s = .inc := by
  obtain ⟨line, hline, hsplit, hok⟩ : ∃ line, bareHead t = line ++ [LF] ∧
      splitOnSub DASH5 line = some ([], line) ∧ armorHeaderLine line = .ok t [] :=
    ⟨_, by simp [bareHead, headText, pairLines, pairsOf], splitOnSub_lead [] _ (fun _ h => nomatch h),
      armorHeaderLine_ok t [LF] [] ht (Or.inl rfl)⟩
  rw [hline] at hs hl
  rcases List.prefix_concat_iff.mp hs with rfl | ⟨x, rfl⟩
  · exact absurd hl (Nat.lt_irrefl _)
  · by_cases hx : x = []
    · -- the BEGIN line is complete, the blank line has not begun
      subst hx
      rw [List.append_nil] at hsplit hok
      rw [headerParser_of_split hsplit, hok, PR.andThen_ok, armorHeaders_of_typeOk ht]
      rfl
    · -- a variable in the place of `armorHeaderLine`, as in `armorHeaderLine_eq`
      obtain ⟨P, hP, hst⟩ : ∃ P, armorHeaderLine = P ∧ Stable P := ⟨_, rfl, armorHeaderLine_stable⟩
      rw [hP] at hok
      have hinc := (splitOnSub_stable DASH5 hst).inc_of_prefix (s := s) (x := x) (a := t) (by simp only [hsplit, hok]) hx
      cases h : splitOnSub DASH5 s with
      | none => rw [headerParser, h]
      | some lr =>
        simp only [h] at hinc
        rw [headerParser_of_split h, hP, hinc]
        rfl

/-! ## the header-line parser before commit 737e504 (kept for the regression witness only)

`key_value_pair` used to look for `":\r\n"`, then `":\n"`, then `": "` in the *whole* remaining input
(three `complete(take_until1(..))` alternatives): a value ending in `:` was read back as part of the key,
and a later `Key: ` could swallow everything before it (finding D10c). -/
namespace Pre737

/-- `complete(take_until1(pat))` -/
def takeUntil1C (pat i : Bytes) : PR Bytes :=
  match splitOnSub pat i with
  | none => .err
  | some ([], _) => .err
  | some (k, rest) => .ok k rest

def kvKey (i : Bytes) : PR Bytes :=
  match ((takeUntil1C [COLON, CR, LF] i).orElse fun _ =>
         (takeUntil1C [COLON, LF] i).orElse fun _ => takeUntil1C [COLON, SP] i) with
  | .ok k r => if validUtf8 k then .ok k r else .err
  | x => x

def kvPair (i : Bytes) : PR (Bytes × Bytes) :=
  match kvKey i with
  | .inc => .inc
  | .err => .err
  | .ok k r =>
    match tagS [COLON] r with
    | .inc => .inc
    | .err => .err
    | .ok _ r1 =>
      match tagS [SP] r1 with
      | .inc => .inc
      | .ok _ r2 =>
        match notLineEnding r2 with
        | .inc => .inc
        | .err => .err
        | .ok v r3 =>
          if validUtf8 v then
            match lineEnding r3 with
            | .inc => .inc
            | .err => .err
            | .ok _ r4 => .ok (k, v) r4
          else .err
      | .err =>
        match lineEnding r1 with
        | .inc => .inc
        | .err => .err
        | .ok _ r2 => .ok (k, []) r2

end Pre737

end Rpgp.Armor
