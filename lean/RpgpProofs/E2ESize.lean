import RpgpProofs.E2ESigned
import RpgpProofs.E2EEsk
import RpgpProps.C12
/-! E2E, the size / range conditions `WF` of a configuration, and upper bounds on the sizes of what the
builder emits, by which concrete configurations meet them (non-vacuity). -/
namespace Rpgp.E2E
open Rpgp

/-- well-formedness of a configuration / payload / reader-options triple: size limits of the wire
format and value ranges of the packet fields (`SignedWF`, `ContainerWF`, `EskWF`, `EskPktWF`), the
reader is handed the signers' keys in signer order -/
structure WF (P : Prims) (o : ReadOpts) (c : Cfg) (src : List Bytes) : Prop where
  signed : SignedWF P c src
  hashRead : 0 < o.hashRead
  verifiers : o.verifiers = verifiersOf c
  comp : ∀ S, signedStream P c src = some S → ∀ a, c.compression = some a →
    a < 256 ∧ 1 + (P.compress a S).length < 4294967296
  enc : ∀ S e, signedStream P c src = some S → c.encryption = some e →
    ContainerWF P o c.k e (compressedLayer P c S) ∧ EskWF e ∧ EskPktWF P e

theorem encodeNewLen_length_le (n : Nat) : (encodeNewLen n).length ≤ 5 := by
  unfold encodeNewLen
  split
  · exact (by decide : 1 ≤ 5)
  · split
    · exact (by decide : 2 ≤ 5)
    · rw [List.length_cons, be32_length]; decide

theorem length_take_add_drop (i : Nat) (l : Bytes) : l.length = (l.take i).length + (l.drop i).length := by
  rw [← List.length_append, List.take_append_drop]

/-- every partial chunk is non-empty and costs one length octet; the final length takes up to 5 -/
theorem emitTail_length_le (k : Nat) (body : Bytes) : (emitTail k body).length ≤ 2 * body.length + 5 := by
  fun_induction emitTail k body with
  | case1 body h =>
    rw [List.length_append, Nat.add_comm]
    exact Nat.add_le_add (Nat.le_mul_of_pos_left _ (by decide)) (encodeNewLen_length_le _)
  | case2 body h ih =>
    have ha : 0 < (body.take (2 ^ k)).length := by
      rw [List.length_take_of_le (Nat.le_of_not_lt h)]; exact Nat.pow_pos (by decide)
    rw [List.length_cons, List.length_append, length_take_add_drop (2 ^ k) body]
    omega

theorem emitPartial_length_le (tag k : Nat) (hdr body : Bytes) :
    (emitPartial tag k hdr body).length ≤ 2 * (hdr.length + body.length) + 8 := by
  simp only [emitPartial]
  split
  · have := encodeNewLen_length_le (body.length + hdr.length)
    simp only [List.length_cons, List.length_append]; omega
  · have := emitTail_length_le k (body.drop (2 ^ k - hdr.length))
    simp only [List.length_cons, List.length_append, length_take_add_drop (2 ^ k - hdr.length) body]
    omega

theorem fixedPkt_length_le (tag : Nat) (b : Bytes) : (fixedPkt tag b).length ≤ b.length + 6 := by
  have := encodeNewLen_length_le b.length
  simp only [fixedPkt, writeHeader, if_true, List.length_append, List.length_cons, encodeNewLenHdr_eq]
  omega

theorem literalPkt_length_le (c : Cfg) (payload : Bytes) : (literalPkt c payload).length ≤ 2 * payload.length + 20 := by
  unfold literalPkt
  split
  · have := fixedPkt_length_le Gen.e2eTagLiteral (litHdr c.mode ++ payload)
    simp only [List.length_append, litHdr_length] at this; omega
  · have := emitPartial_length_le Gen.e2eTagLiteral c.k (litHdr c.mode) payload
    rw [litHdr_length] at this; omega

theorem fixedPkts_length_le (tag M : Nat) (l : List (Option Bytes)) (h : ∀ b ∈ l, (b.getD []).length ≤ M) :
    ((l.map fun b => fixedPkt tag (b.getD [])).flatten).length ≤ l.length * (M + 6) := by
  induction l with
  | nil => exact Nat.zero_le _
  | cons a l ih =>
    rw [List.map_cons, List.flatten_cons, List.length_append, List.length_cons, Nat.add_mul, Nat.one_mul,
      Nat.add_comm (fixedPkt _ _).length]
    exact Nat.add_le_add (ih fun b hb => h b (List.mem_cons_of_mem _ hb))
      (Nat.le_trans (fixedPkt_length_le _ _) (Nat.add_le_add_right (h a (List.mem_cons_self ..)) 6))

/-- size of the signed stream: at most `B + 6` per signature packet, 306 per OPS packet, and twice
the payload (one length octet per partial chunk) -/
theorem signedStream_length_le (P : Prims) (c : Cfg) (src : List Bytes) (S : Bytes) (wf : SignedWF P c src)
    (hS : signedStream P c src = some S) (B : Nat)
    (hB : ∀ s ∈ c.signers, ∀ pre b, SV.signConfig s.keyVer (sigCfg c.signTyp s) src = some pre →
      Wire.sigSer (mkSig P c.signTyp s pre) = some b → b.length ≤ B) :
    S.length ≤ c.signers.length * (B + 312) + 2 * src.flatten.length + 20 := by
  obtain ⟨_, _, hSeq⟩ := signedStream_some_inv P c src S hS
  have h1 := fixedPkts_length_le Gen.e2eTagOps 300 (opsBodies c) (opsBodies_length_le c wf.ops)
  have h2 := fixedPkts_length_le Gen.e2eTagSignature B (sigBodies P c src).reverse fun sb hsb =>
    sigBodies_length_le P c src B hB sb (List.mem_reverse.mp hsb)
  have h3 := literalPkt_length_le c src.flatten
  rw [show (opsBodies c).length = c.signers.length by simp [opsBodies]] at h1
  rw [show (sigBodies P c src).reverse.length = c.signers.length by simp [sigBodies], Nat.mul_add] at h2
  rw [hSeq, List.length_append, List.length_append, Nat.mul_add]
  omega

theorem compressedLayer_length_le (P : Prims) (c : Cfg) (S : Bytes) (M : Nat)
    (hM : ∀ a, (P.compress a S).length ≤ M) (hS : S.length ≤ M) :
    (compressedLayer P c S).length ≤ 2 * M + 10 := by
  unfold compressedLayer
  cases c.compression with
  | none => simp only; omega
  | some a =>
    have := emitPartial_length_le Gen.e2eTagCompressed c.k [a.toUInt8] (P.compress a S)
    have := hM a
    simp only [List.length_singleton] at *
    omega

theorem cipherText_v1_length (P : Prims) (L : CryptoLaws P) (e : Encryption) (sym : Nat) (pre inner : Bytes)
    (hc : e.container = .v1 sym pre) : (cipherText P e inner).length = pre.length + 2 + inner.length + 22 := by
  simp only [cipherText, hc]
  rw [Sym.Seipd1.stream_eq_encrypt P.sym sym e.sessionKey pre inner Gen.seBufferSize (by decide)
    (L.cfb_online _ _ _)]
  unfold Sym.Seipd1.encrypt
  rw [(L.cfb_online _ _ _).len, Sym.Seipd1.layout_length P.sym pre inner L.sha1_len]

/-- SEIPDv2 ciphertext: plaintext + 16 per chunk + the final tag (C12) -/
theorem cipherText_v2_length (P : Prims) (L : CryptoLaws P) (e : Encryption) (sym aead cs : Nat) (salt inner : Bytes)
    (hc : e.container = .v2 sym aead cs salt) :
    (cipherText P e inner).length = inner.length + 16 * ((inner.length + 2 ^ (cs + 6) - 1) / 2 ^ (cs + 6) + 1) := by
  simp only [cipherText, hc]
  exact C12.seipd2_ciphertext_length P.sym sym aead cs salt e.sessionKey inner (fun k n ad d => L.aead_len ..)

/-! ### when the builder succeeds at the signed level -/

theorem opsPacket_facts (typ : Byte) (s : Signer) (isLast : Bool)
    (h : if s.keyVer = 6 then s.salt.length < 256 ∧ s.fp.length = 32 else s.keyId.length = 8) :
    Wire.OpsWF (opsPacket typ s isLast) ∧ ∃ b, Wire.opsSer (opsPacket typ s isLast) = some b := by
  unfold opsPacket
  by_cases h6 : s.keyVer = 6
  · rw [if_pos h6] at h ⊢
    exact ⟨h, by simp [Wire.opsSer, h.1]⟩
  · rw [if_neg h6] at h ⊢
    exact ⟨h, _, rfl⟩

theorem mkSig_bare (P : Prims) (typ : Byte) (s : Signer) (pre : Bytes) (hh : s.hashed = []) (hu : s.unhashed = [])
    (h2 : 2 ≤ (P.sym.hash s.hash.toNat pre).length)
    (hsb : Wire.SigBytesWF s.pk (P.pkSign s.key (P.sym.hash s.hash.toNat pre)))
    (hsalt : s.keyVer = 6 → Wire.hashSaltLen s.hash = some s.salt.length ∧ s.salt.length < 256) :
    (∀ emb, Wire.SigWF emb (mkSig P typ s pre)) ∧
    ∃ b, Wire.sigSer (mkSig P typ s pre) = some b ∧
      b.length ≤ 18 + s.salt.length + Wire.sigBytesWriteLen (P.pkSign s.key (P.sym.hash s.hash.toNat pre)) := by
  have hl : ((P.sym.hash s.hash.toNat pre).take 2).length = 2 := by rw [List.length_take]; exact Nat.min_eq_left h2
  have hwf : ∀ emb, Wire.SigWF emb (mkSig P typ s pre) := by
    intro emb
    have hnil : ∀ x ∈ ([] : List Wire.Subpacket), Wire.SubWF emb x := fun _ h => nomatch h
    rw [mkSig, hh, hu]
    by_cases h6 : s.keyVer = 6
    · rw [if_pos h6, h6]
      exact ⟨hnil, hnil, hl, hsb, (hsalt h6).1, by decide, by decide⟩
    · rw [if_neg h6, beq_false_of_ne h6]
      exact ⟨hnil, hnil, hl, hsb, rfl, by decide, by decide⟩
  obtain ⟨b, hb⟩ := Wire.sig_ser_some (fun _ => none) _ (hwf _)
  refine ⟨hwf, b, hb, ?_⟩
  rw [Wire.sig_len (fun _ => none) _ b (hwf _) hb, mkSig, hh, hu, Wire.sigWriteLen, hl]
  by_cases h6 : s.keyVer = 6
  · rw [if_pos h6, h6]
    simp only [Wire.areaLenOctets, Wire.areaWriteLen, beq_self_eq_true, if_true, List.map_nil, List.sum_nil]
    omega
  · rw [if_neg h6, beq_false_of_ne h6]
    exact Nat.add_le_add_right (Nat.le_add_right_of_le (by decide)) _

theorem signedStream_isSome (P : Prims) (c : Cfg) (src : List Bytes)
    (htyp : SV.dataSigType c.signTyp.toNat = true)
    (hops : ∀ s ∈ c.signers, ∀ isLast, ∃ b, Wire.opsSer (opsPacket c.signTyp s isLast) = some b)
    (hsig : ∀ s ∈ c.signers, SV.signAligned s.keyVer s.keyVer = true ∧
      ∀ pre, ∃ b, Wire.sigSer (mkSig P c.signTyp s pre) = some b) :
    ∃ S, signedStream P c src = some S := by
  have h1 : (opsBodies c).all Option.isSome = true := by
    rw [List.all_eq_true]
    intro ob hob
    obtain ⟨si, hsi, rfl⟩ := List.mem_map.mp hob
    obtain ⟨b, hb⟩ := hops si.1 (List.fst_mem_of_mem_zipIdx hsi) (si.2 + 1 == c.signers.length)
    rw [hb]; rfl
  have h2 : (sigBodies P c src).all Option.isSome = true := by
    rw [List.all_eq_true]
    intro sb hsb
    obtain ⟨s, hs, rfl⟩ := List.mem_map.mp hsb
    obtain ⟨hal, hser⟩ := hsig s hs
    have hg : (SV.signAligned s.keyVer (sigCfg c.signTyp s).ver && SV.dataSigType (sigCfg c.signTyp s).typ) = true := by
      rw [Bool.and_eq_true]; exact ⟨hal, htyp⟩
    rw [SV.signConfig_eq, if_pos hg]
    obtain ⟨b, hb⟩ := hser (SV.preimage (sigCfg c.signTyp s) (SV.dataHashed (sigCfg c.signTyp s).textMode src.flatten))
    simp only [hb]; rfl
  unfold signedStream
  rw [h1, h2]
  exact ⟨_, rfl⟩

end Rpgp.E2E
