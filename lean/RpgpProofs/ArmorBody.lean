import RpgpProofs.ArmorB64
/-!
# The body stage of `Dearmor`: `Base64Reader` → token buffer → `Base64Decoder`

The base64 part as the reader tolerates it (`BodyText`: CR / LF anywhere between the symbols), what
one `Base64Reader::read` takes from it, and the decoder loop for every data length and every buffer
capacity `4q`, `q ≥ 2`, up to the point where it hands over to the footer parser.
-/
namespace Rpgp.Armor

/-! ## the symbols of the base64 part -/

def isBodySym (c : Byte) : Bool := isB64Sym c || c == EQS

/-- the reader's token filter (`is_base64_token` minus CR/LF) is the alphabet plus `=`, octet by octet -/
theorem isB64Token_eq_isBodySym : ∀ c : Byte, isB64Token c = isBodySym c := by
  apply byte_forall
  decide +kernel

theorem isBodySym_ne {c x : Byte} (h : isBodySym c = true) (hx : isBodySym x = false) : c ≠ x :=
  fun e => by rw [e, hx] at h; cases h

theorem bodySym_facts (c : Byte) (h : isBodySym c = true) :
    isB64Token c = true ∧ c ≠ CR ∧ c ≠ LF ∧ c ≠ COLON ∧ c ≠ 45 :=
  ⟨by rw [isB64Token_eq_isBodySym, h], isBodySym_ne h (by decide), isBodySym_ne h (by decide),
    isBodySym_ne h (by decide), isBodySym_ne h (by decide)⟩

theorem isB64Sym_bodySym (c : Byte) (h : isB64Sym c = true) : isBodySym c = true := by simp [isBodySym, h]

theorem b64enc_bodySyms (d : Bytes) : ∀ c ∈ b64enc d, isBodySym c = true := by
  intro c hc
  rcases b64enc_chars d c hc with h | h
  · exact isB64Sym_bodySym c h
  · subst h; decide

/-! ## body text: tokens with CR / LF anywhere between them -/

inductive BodyText : Bytes → Bytes → Prop where
  | nil : BodyText [] []
  | tok (c : Byte) (B T : Bytes) : isBodySym c = true → BodyText B T → BodyText (c :: B) (c :: T)
  | nl (c : Byte) (B T : Bytes) : (c = CR ∨ c = LF) → BodyText B T → BodyText (c :: B) T

theorem BodyText.append {B1 T1 B2 T2 : Bytes} (h1 : BodyText B1 T1) (h2 : BodyText B2 T2) :
    BodyText (B1 ++ B2) (T1 ++ T2) := by
  induction h1 with
  | nil => simpa using h2
  | tok c B T hc _ ih => exact BodyText.tok c _ _ hc ih
  | nl c B T hc _ ih => exact BodyText.nl c _ _ hc ih

theorem BodyText.noColon {B T : Bytes} (h : BodyText B T) : ∀ b ∈ B, b ≠ COLON := by
  induction h with
  | nil => intro b hb; simp at hb
  | tok c B T hc _ ih =>
    intro b hb
    rcases List.mem_cons.mp hb with rfl | hb
    · exact (bodySym_facts _ hc).2.2.2.1
    · exact ih b hb
  | nl c B T hc _ ih =>
    intro b hb
    rcases List.mem_cons.mp hb with rfl | hb
    · rcases hc with rfl | rfl <;> decide
    · exact ih b hb

theorem BodyText.of_tokens (T : Bytes) (h : ∀ c ∈ T, isBodySym c = true) : BodyText T T := by
  induction T with
  | nil => exact BodyText.nil
  | cons c r ih => exact BodyText.tok c r r (h c (by simp)) (ih (fun x hx => h x (by simp [hx])))

theorem BodyText.of_newlines (N : Bytes) (h : ∀ c ∈ N, c = CR ∨ c = LF) : BodyText N [] := by
  induction N with
  | nil => exact BodyText.nil
  | cons c r ih => exact BodyText.nl c r [] (h c (by simp)) (ih (fun x hx => h x (by simp [hx])))

theorem BodyText.length_le {B T : Bytes} (h : BodyText B T) : T.length ≤ B.length := by
  induction h with
  | nil => exact Nat.le_refl _
  | tok c B T _ _ ih => exact Nat.succ_le_succ ih
  | nl c B T _ _ ih => exact Nat.le_succ_of_le ih

theorem BodyText.data_length_le {B d : Bytes} (h : BodyText B (b64enc d)) : d.length ≤ B.length := by
  have h1 := h.length_le
  have h2 := b64enc_length d
  omega

theorem BodyText.wrapAux (w : Nat) (T : Bytes) (h : ∀ c ∈ T, isBodySym c = true) :
    ∀ col, BodyText (wrapAux w col T) T := by
  induction T with
  | nil =>
    intro col
    simp only [Rpgp.Armor.wrapAux]
    split
    · exact BodyText.nil
    · exact BodyText.nl LF [] [] (Or.inr rfl) BodyText.nil
  | cons c r ih =>
    intro col
    have hc := h c (by simp)
    have hr := ih (fun x hx => h x (by simp [hx]))
    simp only [Rpgp.Armor.wrapAux]
    split
    · exact BodyText.tok c _ _ hc (BodyText.nl LF _ _ (Or.inr rfl) (hr 0))
    · exact BodyText.tok c _ _ hc (hr (col + 1))

theorem armorBody_bodyText (d : Bytes) : BodyText (armorBody d) (b64enc d) :=
  BodyText.wrapAux _ _ (b64enc_bodySyms d) 0

theorem BodyText.toCrlf {B T : Bytes} (h : BodyText B T) : BodyText (toCrlf B) T := by
  induction h with
  | nil => exact BodyText.nil
  | tok c B T hc _ ih =>
    have := (bodySym_facts _ hc).2.2.1
    simp only [Rpgp.Armor.toCrlf, this, if_false]
    exact BodyText.tok c _ _ hc ih
  | nl c B T hc _ ih =>
    simp only [Rpgp.Armor.toCrlf]
    split
    · exact BodyText.nl CR _ _ (Or.inl rfl) (BodyText.nl LF _ _ (Or.inr rfl) ih)
    · exact BodyText.nl c _ _ hc ih

/-! ## `Base64Reader::read` -/

theorem b64Fill_zero (raw : Bytes) : b64Fill 0 raw = ([], raw) := by cases raw <;> rfl

theorem b64Fill_tok {c : Byte} (hc : isBodySym c = true) (n : Nat) (r : Bytes) :
    b64Fill (n + 1) (c :: r) = (c :: (b64Fill n r).1, (b64Fill n r).2) := by
  have hf := bodySym_facts c hc
  have hnl : ¬ (c = CR ∨ c = LF) := fun h => h.elim hf.2.1 hf.2.2.1
  rw [b64Fill, if_neg hnl, if_pos hf.1]

theorem b64Fill_nl {c : Byte} (hc : c = CR ∨ c = LF) (n : Nat) (r : Bytes) :
    b64Fill (n + 1) (c :: r) = b64Fill (n + 1) r := by
  rw [b64Fill, if_pos hc]

/-- the reader stops at the `-` of the footer line -/
theorem b64Fill_dash (n : Nat) (S' : Bytes) : b64Fill (n + 1) (45 :: S') = ([], 45 :: S') := by
  rw [b64Fill, if_neg (by decide), if_neg (by decide)]

theorem b64Fill_nls_dash (nls S' : Bytes) (h : ∀ c ∈ nls, c = CR ∨ c = LF) (k : Nat) :
    b64Fill (k + 1) (nls ++ 45 :: S') = ([], 45 :: S') := by
  induction nls with
  | nil => exact b64Fill_dash k S'
  | cons c r ih =>
    rw [List.cons_append, b64Fill_nl (h c (by simp))]
    exact ih (fun x hx => h x (by simp [hx]))

theorem b64Fill_body_le {B T : Bytes} (h : BodyText B T) : ∀ (n : Nat) (R : Bytes), n ≤ T.length →
    ∃ B', BodyText B' (T.drop n) ∧ b64Fill n (B ++ R) = (T.take n, B' ++ R) := by
  induction h with
  | nil =>
    intro n R hn
    have : n = 0 := by simpa using hn
    subst this
    exact ⟨[], BodyText.nil, b64Fill_zero _⟩
  | tok c B T hc hB ih =>
    intro n R hn
    cases n with
    | zero => exact ⟨c :: B, BodyText.tok c B T hc hB, b64Fill_zero _⟩
    | succ n =>
      obtain ⟨B', h1, h2⟩ := ih n R (Nat.le_of_succ_le_succ hn)
      exact ⟨B', h1, by rw [List.cons_append, b64Fill_tok hc, h2]; rfl⟩
  | nl c B T hc hB ih =>
    intro n R hn
    cases n with
    | zero => exact ⟨c :: B, BodyText.nl c B T hc hB, b64Fill_zero _⟩
    | succ n =>
      obtain ⟨B', h1, h2⟩ := ih (n + 1) R hn
      exact ⟨B', h1, by rw [List.cons_append, b64Fill_nl hc, h2]⟩

theorem b64Fill_body_gt {B T : Bytes} (h : BodyText B T) (k : Nat) (R : Bytes) :
    b64Fill (T.length + k + 1) (B ++ R) = (T ++ (b64Fill (k + 1) R).1, (b64Fill (k + 1) R).2) := by
  induction h with
  | nil => rw [List.length_nil, Nat.zero_add]; rfl
  | tok c B T hc _ ih => rw [List.length_cons, Nat.add_right_comm _ 1 k, List.cons_append, b64Fill_tok hc, ih]; rfl
  | nl c B T hc _ ih => rw [List.cons_append, b64Fill_nl hc, ih]

theorem b64Fill_tokens_le (e R : Bytes) (he : ∀ c ∈ e, isBodySym c = true) (k : Nat) (hk : k ≤ e.length) :
    b64Fill k (e ++ R) = (e.take k, e.drop k ++ R) := by
  induction e generalizing k with
  | nil =>
    have : k = 0 := by simpa using hk
    subst this; exact b64Fill_zero _
  | cons c r ih =>
    cases k with
    | zero => exact b64Fill_zero _
    | succ k =>
      rw [List.cons_append, b64Fill_tok (he c (by simp)),
        ih (fun x hx => he x (by simp [hx])) k (Nat.le_of_succ_le_succ hk)]
      rfl

/-! ## `try_decode_engine_slice` -/

theorem tryDecode_enc (d rest : Bytes) (m : Nat) (hm : (b64enc d).length = 4 * m) :
    tryDecode m (b64enc d ++ rest) = (4 * m, d) := by
  cases m with
  | zero =>
    rw [b64enc_eq_nil d (List.eq_nil_of_length_eq_zero hm)]
    rfl
  | succ m' =>
    have : (b64enc d ++ rest).take (4 * (m' + 1)) = b64enc d := List.take_left' hm
    simp only [tryDecode, this, b64dec_b64enc]

theorem tryDecode_skip_eqs (d : Bytes) (x y z : Byte) (s : Bytes) (m : Nat) (hm : (b64enc d).length = 4 * m) :
    tryDecode (m + 1) (b64enc d ++ EQS :: x :: y :: z :: s) = tryDecode m (b64enc d ++ EQS :: x :: y :: z :: s) := by
  have : (b64enc d ++ EQS :: x :: y :: z :: s).take (4 * (m + 1)) = b64enc d ++ [EQS, x, y, z] := by
    rw [Nat.mul_add_one, ← hm, List.take_length_add_append]
    rfl
  simp only [tryDecode, this, b64dec_eqs_quantum x y z [] (b64enc d) (by rw [hm, Nat.mul_mod_right])]

/-- tokens that follow the data in the buffer: fewer than two quanta, a whole one beginning with `=` -/
structure Epilogue (e : Bytes) : Prop where
  syms : ∀ c ∈ e, isBodySym c = true
  short : e.length < 8
  eqs : 4 ≤ e.length → ∃ x y z s, e = EQS :: x :: y :: z :: s

/-- the data is decoded and an epilogue behind it is left alone -/
theorem tryDecode_data (d : Bytes) {e : Bytes} (he : Epilogue e) :
    tryDecode ((b64enc d ++ e).length / 4) (b64enc d ++ e) = ((b64enc d).length, d) := by
  have hlen := b64enc_length d
  generalize (d.length + 2) / 3 = m at hlen
  rw [List.length_append, hlen, Nat.mul_add_div (by decide)]
  by_cases h4 : 4 ≤ e.length
  · rw [Nat.div_eq_of_lt_le (k := 1) h4 he.short]
    obtain ⟨x, y, z, s, rfl⟩ := he.eqs h4
    rw [tryDecode_skip_eqs d x y z s m hlen, tryDecode_enc d _ m hlen]
  · rw [Nat.div_eq_of_lt (Nat.lt_of_not_le h4), Nat.add_zero, tryDecode_enc d e m hlen]

theorem tryDecode_epilogue {e : Bytes} (he : Epilogue e) : tryDecode (e.length / 4) e = (0, []) :=
  tryDecode_data [] he

theorem Epilogue.nil : Epilogue [] :=
  ⟨fun _ h => (nomatch h), Nat.zero_lt_succ 7, fun h => (nomatch h)⟩

theorem Epilogue.take4 {e : Bytes} (he : Epilogue e) (h4 : 4 ≤ e.length) : Epilogue (e.take 4) := by
  obtain ⟨x, y, z, s, rfl⟩ := he.eqs h4
  exact ⟨fun c hc => he.syms c (List.mem_of_mem_take hc), by simp, fun _ => ⟨x, y, z, [], rfl⟩⟩

/-! ## the decoder loop -/

/-- decoded octets in front of what the rest of the loop returns -/
def prepend (o : Bytes) (r : Bytes × Bytes × Bytes) : Bytes × Bytes × Bytes := (o ++ r.1, r.2.1, r.2.2)

theorem decodeBody_succ (cap f : Nat) (buf : Bytes) (endc : Nat) (raw : Bytes) :
    decodeBody cap (f + 1) buf endc raw =
      (let fill := if buf.length < 4 then b64Fill (cap - endc) raw else ([], raw)
       let buf1 := buf ++ fill.1
       let dec := tryDecode (buf1.length / 4) buf1
       if buf1.isEmpty then ([], [], fill.2)
       else if dec.2.isEmpty then ([], buf1, fill.2)
       else prepend dec.2 (decodeBody cap f (buf1.drop dec.1)
         (if (buf1.drop dec.1).isEmpty then 0 else endc + fill.1.length) fill.2)) := rfl

/-- one `Base64Decoder::read` into an empty buffer, given what the reader delivers and what of it decodes -/
theorem decodeBody_read {cap f k : Nat} {raw toks raw' o : Bytes} (hfill : b64Fill cap raw = (toks, raw'))
    (hdec : tryDecode (toks.length / 4) toks = (k, o)) :
    decodeBody cap (f + 1) [] 0 raw =
      if o = [] then ([], toks, raw')
      else prepend o (decodeBody cap f (toks.drop k) (if (toks.drop k).isEmpty then 0 else toks.length) raw') := by
  rw [decodeBody_succ]
  simp only [List.length_nil, Nat.sub_zero, hfill, List.nil_append, hdec, Nat.zero_add,
    List.isEmpty_iff, show (0 : Nat) < 4 by decide, if_true]
  by_cases ht : toks = []
  · subst ht
    cases hdec
    rfl
  · by_cases ho : o = [] <;> simp only [ht, ho, if_true, if_false]

/-- nothing more can be read and nothing in the buffer decodes: the read returns 0 -/
theorem decodeBody_stall {cap f endc : Nat} {buf raw : Bytes}
    (hfill : (if buf.length < 4 then b64Fill (cap - endc) raw else ([], raw)) = ([], raw))
    (hdec : (tryDecode (buf.length / 4) buf).2 = []) :
    decodeBody cap (f + 1) buf endc raw = ([], buf, raw) := by
  rw [decodeBody_succ]
  simp only [hfill, List.append_nil, hdec, List.isEmpty_nil, if_true]
  by_cases hb : buf = []
  · subst hb; rfl
  · simp only [List.isEmpty_iff, hb, if_false]

/-- the buffer holds the epilogue, the reader is at the footer's `-`: the read returns 0 -/
theorem decodeBody_stop_dash {e : Bytes} (he : Epilogue e) (cap f endc : Nat) (S' : Bytes) :
    decodeBody cap (f + 1) e endc (45 :: S') = ([], e, 45 :: S') := by
  refine decodeBody_stall ?_ (congrArg Prod.snd (tryDecode_epilogue he))
  split
  · cases cap - endc with
    | zero => rfl
    | succ n => exact b64Fill_dash n S'
  · rfl

/-- the buffer holds a whole quantum of the epilogue: the read returns 0 without asking the reader -/
theorem decodeBody_stop_full {e : Bytes} (he : Epilogue e) (h4 : 4 ≤ e.length) (cap f endc : Nat) (raw : Bytes) :
    decodeBody cap (f + 1) e endc raw = ([], e, raw) :=
  decodeBody_stall (if_neg (Nat.not_lt.mpr h4)) (congrArg Prod.snd (tryDecode_epilogue he))

/-- a buffer filled exactly by the encoding of `d` is decoded and the loop continues with an empty buffer -/
theorem decodeBody_peel {cap : Nat} {d T B : Bytes} (R : Bytes) (f : Nat) (hcap : (b64enc d).length = cap) (hd : d ≠ [])
    (hB : BodyText B (b64enc d ++ T)) :
    ∃ B', BodyText B' T ∧ decodeBody cap (f + 1) [] 0 (B ++ R) = prepend d (decodeBody cap f [] 0 (B' ++ R)) := by
  subst hcap
  obtain ⟨B', hB', hfill⟩ := b64Fill_body_le hB (b64enc d).length R
    (by rw [List.length_append]; exact Nat.le_add_right _ _)
  rw [List.take_left] at hfill
  rw [List.drop_left] at hB'
  have hdec := tryDecode_data d Epilogue.nil
  rw [List.append_nil] at hdec
  exact ⟨B', hB', by rw [decodeBody_read hfill hdec, if_neg hd, List.drop_length]; rfl⟩

/-! ### buffer capacity `4q`, `m` quanta of data, epilogue length `L` -/

theorem quanta_le {n q : Nat} (h : n < 3 * q) : (n + 2) / 3 ≤ q :=
  -- `n + 2 < 3 * q + 3`
  Nat.le_of_lt_succ (Nat.div_lt_of_lt_mul (Nat.lt_succ_of_lt (Nat.add_lt_add_right h 2)))

theorem b64enc_length_mul3 {d : Bytes} {q : Nat} (h : d.length = 3 * q) : (b64enc d).length = 4 * q := by
  rw [b64enc_length, h, Nat.mul_add_div (by decide)]; rfl

/-- where the data and an epilogue end in the buffer: both fit with room to spare, or the data fills
it, or it is full after the first quantum of the epilogue -/
theorem tail_cases {m q L : Nat} (hq : 2 ≤ q) (hm : m ≤ q) (hL : L < 8) :
    4 * m + L < 4 * q ∨ m ≠ 0 ∧ (m = q ∨ q = m + 1 ∧ 4 ≤ L) := by omega

section tail
variable {e nls : Bytes} (S' : Bytes) (he : Epilogue e) (hn : ∀ c ∈ nls, c = CR ∨ c = LF)

include he hn in
/-- tokens, epilogue and room to spare: the reader delivers both and runs into the `-` -/
theorem b64Fill_fit (cap : Nat) {T B : Bytes} (hB : BodyText B T) (hfit : (T ++ e).length < cap) :
    b64Fill cap (B ++ (e ++ (nls ++ 45 :: S'))) = (T ++ e, 45 :: S') := by
  obtain ⟨k, rfl⟩ := Nat.exists_eq_add_of_lt hfit
  rw [← List.append_assoc, b64Fill_body_gt (hB.append (BodyText.of_tokens e he.syms)), b64Fill_nls_dash nls S' hn,
    List.append_nil]

include he hn in
/-- only the epilogue is left: one read, which returns 0 -/
theorem decodeBody_fit_nil (cap f : Nat) {B : Bytes} (hB : BodyText B []) (hfit : e.length < cap) :
    decodeBody cap (f + 1) [] 0 (B ++ (e ++ (nls ++ 45 :: S'))) = ([], e, 45 :: S') := by
  rw [decodeBody_read (b64Fill_fit S' he hn cap hB hfit) (tryDecode_epilogue he), if_pos rfl]
  rfl

include he hn in
/-- data, epilogue and room to spare in one buffer: the data is decoded, the epilogue stays in the
buffer -/
theorem decodeBody_fit (cap : Nat) (d B : Bytes) (f : Nat) (hB : BodyText B (b64enc d))
    (hfit : (b64enc d ++ e).length < cap) :
    decodeBody cap (f + 2) [] 0 (B ++ (e ++ (nls ++ 45 :: S'))) = (d, e, 45 :: S') := by
  by_cases hd : d = []
  · subst hd
    exact decodeBody_fit_nil S' he hn cap (f + 1) hB hfit
  · rw [decodeBody_read (b64Fill_fit S' he hn cap hB hfit) (tryDecode_data d he), if_neg hd, List.drop_left,
      decodeBody_stop_dash he]
    simp [prepend]

include he hn in
/-- **the end of the body**: fewer data than one buffer holds, then the epilogue, line breaks and the
footer's `-`.  The data comes out; the epilogue is left in the buffer — or its first quantum, when
the buffer was full at that point -/
theorem decodeBody_tail (q : Nat) (hq : 2 ≤ q) (d B : Bytes) (f : Nat) (hd : d.length < 3 * q)
    (hB : BodyText B (b64enc d)) :
    decodeBody (4 * q) (f + 2) [] 0 (B ++ (e ++ (nls ++ 45 :: S'))) = (d, e, 45 :: S') ∨
    4 ≤ e.length ∧
      decodeBody (4 * q) (f + 2) [] 0 (B ++ (e ++ (nls ++ 45 :: S'))) = (d, e.take 4, e.drop 4 ++ (nls ++ 45 :: S')) := by
  -- `m` quanta of data, at most `q`; then all that matters is where `4 * m + e.length` lies
  obtain ⟨m, hlen, hm0, hmq⟩ : ∃ m, (b64enc d).length = 4 * m ∧ (d = [] → m = 0) ∧ m ≤ q :=
    ⟨_, b64enc_length d, fun h => by subst h; rfl, quanta_le hd⟩
  rcases tail_cases hq hmq he.short with hA | ⟨hm1, hBC⟩
  · exact Or.inl (decodeBody_fit S' he hn (4 * q) d B f hB (by rw [List.length_append, hlen]; exact hA))
  · have hne : d ≠ [] := fun h => hm1 (hm0 h)
    rcases hBC with rfl | ⟨rfl, h4⟩
    · -- the data fills the buffer; the epilogue is read by the next fill
      obtain ⟨B', hB', hstep⟩ :=
        decodeBody_peel (T := []) (e ++ (nls ++ 45 :: S')) (f + 1) hlen hne (by rwa [List.append_nil])
      refine Or.inl ?_
      rw [hstep, decodeBody_fit_nil S' he hn (4 * m) f hB' (Nat.lt_of_lt_of_le he.short (Nat.mul_le_mul_left 4 hq))]
      simp [prepend]
    · -- the buffer is full after the first quantum of the epilogue
      rw [Nat.mul_add_one, ← hlen]
      have hfill : b64Fill ((b64enc d).length + 4) (B ++ (e ++ (nls ++ 45 :: S'))) =
          (b64enc d ++ e.take 4, e.drop 4 ++ (nls ++ 45 :: S')) := by
        rw [b64Fill_body_gt hB 3, b64Fill_tokens_le e _ he.syms 4 h4]
      refine Or.inr ⟨h4, ?_⟩
      rw [decodeBody_read hfill (tryDecode_data d (he.take4 h4)), if_neg hne, List.drop_left,
        decodeBody_stop_full (he.take4 h4) (Nat.le_of_eq (List.length_take_of_le h4).symm)]
      simp [prepend]

include he hn in
theorem decodeBody_body (q : Nat) (hq : 2 ≤ q) : ∀ (fuel : Nat) (d B : Bytes),
    BodyText B (b64enc d) → d.length + 2 ≤ fuel →
    decodeBody (4 * q) fuel [] 0 (B ++ (e ++ (nls ++ 45 :: S'))) = (d, e, 45 :: S') ∨
    4 ≤ e.length ∧
      decodeBody (4 * q) fuel [] 0 (B ++ (e ++ (nls ++ 45 :: S'))) = (d, e.take 4, e.drop 4 ++ (nls ++ 45 :: S')) := by
  intro fuel
  induction fuel with
  | zero => intro d B _ hf; exact absurd hf (Nat.not_succ_le_zero _)
  | succ f ih =>
    intro d B hB hf
    by_cases hbig : 3 * q ≤ d.length
    · -- a full buffer of `4q` tokens inside the body
      have hl1 : (d.take (3 * q)).length = 3 * q := List.length_take_of_le hbig
      have henc : b64enc d = b64enc (d.take (3 * q)) ++ b64enc (d.drop (3 * q)) := by
        conv => lhs; rw [← List.take_append_drop (3 * q) d]
        exact b64enc_append _ _ (by rw [hl1, Nat.mul_mod_right])
      have hne : d.take (3 * q) ≠ [] := fun h => by rw [h, List.length_nil] at hl1; omega
      obtain ⟨B', hB', hstep⟩ := decodeBody_peel (e ++ (nls ++ 45 :: S')) f (b64enc_length_mul3 hl1) hne (henc ▸ hB)
      rw [hstep]
      rcases ih (d.drop (3 * q)) B' hB' (by rw [List.length_drop]; omega) with h | ⟨h4, h⟩
      · exact Or.inl (by rw [h]; simp [prepend])
      · exact Or.inr ⟨h4, by rw [h]; simp [prepend]⟩
    · obtain ⟨f', rfl⟩ : ∃ f', f = f' + 1 :=
        Nat.exists_eq_add_of_le' (Nat.le_of_succ_le_succ (Nat.le_trans (Nat.le_add_left 2 _) hf))
      exact decodeBody_tail S' he hn q hq d B f' (Nat.lt_of_not_le hbig) hB

end tail

end Rpgp.Armor
