import RpgpProofs.WireMpi
/-! Key packets of `RpgpModel/Wire.lean`: the public part (v2/v3, v4, v6) and the S2K section of the
secret part. -/
namespace Rpgp.Wire
open Rpgp

/-! ## public-key material and the public part -/

theorem pubParamsSer_length (pp : PubParams) (h : ∀ k, pp = .x25519 k → k.length = 32) :
    (pubParamsSer pp).length = pubParamsWriteLen pp := by
  cases pp with
  | x25519 k => exact h k rfl
  | _ => simp only [pubParamsSer, pubParamsWriteLen, List.length_append, mpiSer_length]

theorem keyAlgModelled_of_for {alg : Byte} {pp : PubParams} (h : pubParamsFor alg pp) : keyAlgModelled alg = true := by
  cases pp with
  | blob d => exact h.elim
  | unknown d => exact h.1
  | rsa n e => rcases h.1 with a | a | a <;> simp [keyAlgModelled, a]
  | elgamal p g y => rcases h.1 with a | a <;> simp [keyAlgModelled, a]
  | x25519 key => simp [keyAlgModelled, h.1]

theorem pubParams_parse_ser (trust : Bool) (alg : Byte) (len : Option Nat) (pp : PubParams) (rest : Bytes)
    (h : pubParamsFor alg pp)
    (hu : ∀ d, pp = .unknown d → (len = none ∧ rest = []) ∨ len = some d.length) :
    pubParamsParse trust alg len (pubParamsSer pp ++ rest) = some (pp, rest) := by
  have hm := keyAlgModelled_of_for h
  cases pp with
  | blob d => exact h.elim
  | unknown d =>
    obtain ⟨-, h1, h2, h3⟩ := h
    rcases hu d rfl with ⟨rfl, rfl⟩ | rfl
    · simp [pubParamsParse, pubParamsSer, hm, h1, h2, h3]
    · simp [pubParamsParse, pubParamsSer, hm, h1, h2, h3, take_append]
  | rsa n e =>
    obtain ⟨ha, hn, he, hadm⟩ := h
    simp only [pubParamsParse, pubParamsSer, hm, Bool.not_true, Bool.false_eq_true, ha,
      mpisParse, List.append_assoc, mpi_parse_ser n _ hn, mpi_parse_ser e _ he, hadm, ↓reduceIte]
  | elgamal p g y =>
    obtain ⟨ha, hp, hg, hy⟩ := h
    have h1 : ¬ (alg.toNat = 1 ∨ alg.toNat = 2 ∨ alg.toNat = 3) := by omega
    simp only [pubParamsParse, pubParamsSer, hm, Bool.not_true, Bool.false_eq_true, h1, ha,
      mpisParse, List.append_assoc, mpi_parse_ser p _ hp, mpi_parse_ser g _ hg, mpi_parse_ser y _ hy, ↓reduceIte]
  | x25519 k =>
    obtain ⟨ha, hk⟩ := h
    simp [pubParamsParse, pubParamsSer, hm, ha, take_append' 32 k rest hk]

theorem isV3_of_4 {v : Byte} (h : v.toNat = 4) : isV3 v = false := by simp [isV3, h]
theorem isV3_of_6 {v : Byte} (h : v.toNat = 6) : isV3 v = false := by simp [isV3, h]
theorem isV6_of_4 {v : Byte} (h : v.toNat = 4) : isV6 v = false := by simp [isV6, h]
theorem isV6_of_6 {v : Byte} (h : v.toNat = 6) : isV6 v = true := by simp [isV6, h]

theorem pubKeySer_length (secret : Bool) (k : PubKey) (h : PubKeyWF secret k) :
    (pubKeySer k).length = pubKeyWriteLen k := by
  obtain ⟨hc, hp, hv⟩ := h
  have hl := pubParamsSer_length k.params (by intro x hx; rw [hx] at hp; exact hp.2)
  rcases hv with ⟨h3, he, _⟩ | ⟨h4, he⟩ | ⟨h6, he, _⟩
  · simp +arith [pubKeySer, pubKeyWriteLen, h3, hc, he, hl]
  · simp +arith [pubKeySer, pubKeyWriteLen, isV3_of_4 h4, isV6_of_4 h4, hc, hl]
  · simp +arith [pubKeySer, pubKeyWriteLen, isV3_of_6 h6, isV6_of_6 h6, hc, hl, be32_length]

theorem pubKey_parse_ser (trust secret : Bool) (k : PubKey) (rest : Bytes) (h : PubKeyWF secret k)
    (hu : k.version.toNat ≠ 6 → ∀ d, k.params = .unknown d → rest = []) :
    pubKeyParse trust secret (pubKeySer k ++ rest) = some (k, rest) := by
  obtain ⟨ver, created, exp, alg, pp⟩ := k
  obtain ⟨hc, hp, hv⟩ := h
  simp only at hc hp hv hu
  rcases hv with ⟨h3, he, ha⟩ | ⟨h4, rfl⟩ | ⟨h6, rfl, hlt, hne⟩
  · have hne6 : ver.toNat ≠ 6 := by simp [isV3] at h3; omega
    have hpp := pubParams_parse_ser trust alg none pp rest hp fun d hd => Or.inl ⟨rfl, hu hne6 d hd⟩
    simp only [pubKeySer, h3, List.cons_append, List.append_assoc, pubKeyParse, pubKeyParseWith, u8,
      take_append' 4 created _ hc, take_append' 2 exp _ he, List.nil_append, ha, hpp, ↓reduceIte]
  · have hpp := pubParams_parse_ser trust alg none pp rest hp fun d hd => Or.inl ⟨rfl, hu (by omega) d hd⟩
    simp only [pubKeySer, isV3_of_4 h4, isV6_of_4 h4, Bool.false_eq_true, List.cons_append,
      List.append_assoc, pubKeyParse, pubKeyParseWith, u8, h4, take_append' 4 created _ hc,
      List.nil_append, hpp, ↓reduceIte]
  · have hl := pubParamsSer_length pp (by intro x hx; rw [hx] at hp; exact hp.2)
    have hpp := pubParams_parse_ser trust alg (some (pubParamsWriteLen pp)) pp [] hp
      (by intro d hd; right; rw [hd]; rfl)
    rw [List.append_nil] at hpp
    have htk : (pubParamsSer pp ++ rest).take (pubParamsWriteLen pp) = pubParamsSer pp := by
      rw [← hl, List.take_left]
    have hdr : (pubParamsSer pp ++ rest).drop (pubParamsWriteLen pp) = rest := by
      rw [← hl, List.drop_left]
    have hnz := hne (Or.inr (by decide))
    simp only [pubKeySer, isV3_of_6 h6, isV6_of_6 h6, Bool.false_eq_true, List.cons_append,
      List.append_assoc, pubKeyParse, pubKeyParseWith, u8, h6, take_append' 4 created _ hc, List.nil_append,
      take_append' 4 (be32 _) _ (be32_length _), beNat_be32 _ hlt, htk, hdr, hpp, hnz,
      show pubLenExact = true by decide, ↓reduceIte]
    simp [hl]

theorem keyBodyModelled_ser (secret : Bool) (k : PubKey) (t : Bytes) (h : PubKeyWF secret k) :
    keyBodyModelled (pubKeySer k ++ t) = true := by
  obtain ⟨hc, hp, hv⟩ := h
  have hm := keyAlgModelled_of_for hp
  rcases hv with ⟨h3, _, _⟩ | ⟨h4, _⟩ | ⟨h6, _, _⟩
  · have : ¬ (k.version.toNat = 4 ∨ k.version.toNat = 6) := by simp [isV3] at h3; omega
    simp only [pubKeySer, h3, List.cons_append, keyBodyModelled, this, ↓reduceIte]
  · simp only [pubKeySer, isV3_of_4 h4, isV6_of_4 h4, Bool.false_eq_true, List.cons_append,
      List.append_assoc, keyBodyModelled, h4, true_or, List.drop_left' hc, hm, ↓reduceIte]
  · simp only [pubKeySer, isV3_of_6 h6, isV6_of_6 h6, Bool.false_eq_true, List.cons_append,
      List.append_assoc, keyBodyModelled, h6, or_true, List.drop_left' hc, hm, ↓reduceIte]

/-! ## secret-key S2K section -/

theorem s2kLen_eq {k : S2k} {n : Nat} (hw : S2kWF k) (h : s2kLen k = some n) :
    s2kWriteLen k = n ∧ n ≤ 20 ∧ k.isOther = false := by
  cases k with
  | simple _ => cases h; exact ⟨rfl, by decide, rfl⟩
  | salted _ s => cases h; exact ⟨congrArg (2 + ·) hw, by decide, rfl⟩
  | iterated _ s _ => cases h; exact ⟨congrArg (2 + · + 1) hw, by decide, rfl⟩
  | argon2 s _ _ _ => cases h; exact ⟨congrArg (1 + · + 3) hw, by decide, rfl⟩
  | other => cases h

theorem secretFields_length {v6 : Bool} {p : S2kParams} {f : Bytes} (d : Bytes) (hp : p ≠ .unprotected)
    (h : secretFields v6 p = some f) :
    secretWriteLen v6 ⟨p, d⟩ = 1 + (if v6 then 1 else 0) + f.length + d.length := by
  cases p with
  | unprotected => exact absurd rfl hp
  | legacyCfb sym iv => cases h; simp +arith [secretWriteLen]
  | malleableCfb sym k iv => cases h; simp +arith [secretWriteLen, s2kSer_length]
  | aead sym mode k nonce =>
    cases v6
    · cases h; simp +arith [secretWriteLen, s2kSer_length]
    · obtain ⟨l, -, rfl⟩ := Option.map_eq_some_iff.mp h; simp +arith [secretWriteLen, s2kSer_length]
  | cfb sym k iv =>
    cases v6
    · cases h; simp +arith [secretWriteLen, s2kSer_length]
    · obtain ⟨l, -, rfl⟩ := Option.map_eq_some_iff.mp h; simp +arith [secretWriteLen, s2kSer_length]

theorem secret_len (v6 : Bool) (s : Secret) (b : Bytes) (h : secretSer v6 s = some b) :
    b.length = secretWriteLen v6 s := by
  revert h
  fun_cases secretSer v6 s <;> rintro ⟨⟩
  · rename_i hp; simp +arith [secretWriteLen, hp]
  · rename_i f hv _ hp hf; subst hv; rw [secretFields_length s.data hp hf]; simp +arith
  · rename_i f hv hp hf; rw [secretFields_length s.data hp hf]; simp +arith [hv]

theorem s2kInSecret_v4 (k : S2k) (rest : Bytes) (hw : S2kWF k) (ho : k.isOther = true → rest = []) :
    s2kInSecret false (s2kSer k ++ rest) = some (k, rest) :=
  s2k_parse_ser k rest hw ho

theorem s2kInSecret_v6 (k : S2k) (l : Nat) (rest : Bytes) (hw : S2kWF k) (hl : s2kLen k = some l) :
    s2kInSecret true (l.toUInt8 :: (s2kSer k ++ rest)) = some (k, rest) := by
  obtain ⟨_, hle, hno⟩ := s2kLen_eq hw hl
  have h1 : l.toUInt8.toNat = l := toUInt8_toNat_of_lt l (by omega)
  simp only [s2kInSecret, u8, s2k_parse_ser k rest hw (by simp [hno]), hl, h1, if_true]

theorem secretProtected_ser {v6 : Bool} {p : S2kParams} {f : Bytes} (d : Bytes) (hw : SecretWF v6 ⟨p, d⟩)
    (hp : p ≠ .unprotected) (hf : secretFields v6 p = some f) :
    secretProtected v6 (usageOctet p) (f ++ d) = some ⟨p, d⟩ := by
  cases p with
  | unprotected => exact absurd rfl hp
  | legacyCfb sym iv =>
    obtain ⟨-, -, h2, h3⟩ := hw
    cases hf
    have : sym.toNat < 253 := h2
    have c1 : ¬ sym.toNat = Gen.usageAead := by simp only [Gen.usageAead]; omega
    have c2 : ¬ sym.toNat = Gen.usageCfb := by simp only [Gen.usageCfb]; omega
    have c3 : ¬ sym.toNat = Gen.usageMalleableCfb := by simp only [Gen.usageMalleableCfb]; omega
    simp only [secretProtected, usageOctet, c1, c2, c3, take_append' _ _ d h3, ↓reduceIte]
  | aead sym mode k nonce =>
    obtain ⟨hk, hn, -, ho⟩ := hw
    cases v6
    · cases hf
      have := s2kInSecret_v4 k (nonce ++ d) hk fun hh => List.append_eq_nil_iff.mpr (ho hh)
      simp [secretProtected, usageOctet, Gen.usageAead, this, take_append' _ nonce d hn]
    · obtain ⟨l, hl, rfl⟩ := Option.map_eq_some_iff.mp hf
      simp [secretProtected, usageOctet, Gen.usageAead, s2kInSecret_v6 k l _ hk hl, take_append' _ nonce d hn]
  | cfb sym k iv =>
    obtain ⟨hk, hn, -, ho⟩ := hw
    cases v6
    · cases hf
      have := s2kInSecret_v4 k (iv ++ d) hk fun hh => List.append_eq_nil_iff.mpr (ho hh)
      simp [secretProtected, usageOctet, Gen.usageAead, Gen.usageCfb, u8, this, take_append' _ iv d hn]
    · obtain ⟨l, hl, rfl⟩ := Option.map_eq_some_iff.mp hf
      simp [secretProtected, usageOctet, Gen.usageAead, Gen.usageCfb, u8, s2kInSecret_v6 k l _ hk hl,
        take_append' _ iv d hn]
  | malleableCfb sym k iv =>
    obtain ⟨-, hk, hn, ho⟩ := hw
    cases hf
    have := s2k_parse_ser k (iv ++ d) hk fun hh => List.append_eq_nil_iff.mpr (ho hh)
    simp [secretProtected, usageOctet, Gen.usageAead, Gen.usageCfb, Gen.usageMalleableCfb, u8, this,
      take_append' _ iv d hn]

theorem secretWF_usage {v6 : Bool} {p : S2kParams} {f d : Bytes} (hw : SecretWF v6 ⟨p, d⟩)
    (hp : p ≠ .unprotected) (hf : secretFields v6 p = some f) :
    (usageOctet p).toNat ≠ 0 ∧ (v6 = true → f ≠ [] ∧
      ((usageOctet p).toNat = Gen.usageAead ∨ (usageOctet p).toNat = Gen.usageCfb)) := by
  cases p with
  | unprotected => exact absurd rfl hp
  | legacyCfb sym iv => exact ⟨Nat.ne_of_gt hw.2.1, fun h => absurd hw.1 (by simp [h])⟩
  | malleableCfb sym k iv => exact ⟨Nat.succ_ne_zero _, fun h => absurd hw.1 (by simp [h])⟩
  | aead sym mode k nonce =>
    refine ⟨Nat.succ_ne_zero _, fun h => ⟨?_, Or.inl rfl⟩⟩
    subst h
    obtain ⟨l, -, rfl⟩ := Option.map_eq_some_iff.mp hf
    nofun
  | cfb sym k iv =>
    refine ⟨Nat.succ_ne_zero _, fun h => ⟨?_, Or.inr rfl⟩⟩
    subst h
    obtain ⟨l, -, rfl⟩ := Option.map_eq_some_iff.mp hf
    nofun

theorem secret_parse_ser (v6 : Bool) (s : Secret) (b : Bytes) (hw : SecretWF v6 s)
    (h : secretSer v6 s = some b) : secretParseChecked v6 b = some s := by
  obtain ⟨p, d⟩ := s
  revert h
  fun_cases secretSer v6 ⟨p, d⟩ <;> rintro ⟨⟩
  · rename_i hp; cases (hp : p = _); cases v6 <;> rfl
  · rename_i f hv hl hp hf
    subst hv
    obtain ⟨h0, hu⟩ := secretWF_usage hw hp hf
    have hc : ¬ f.length.toUInt8.toNat = 0 := by
      have := List.length_pos_iff.mpr (hu rfl).1
      rw [toUInt8_toNat_of_lt _ (by omega)]; omega
    simp only [secretParseChecked, secretParse, List.cons_append, u8, h0, secretCount, hc,
      secretProtected_ser d hw hp hf, if_pos (Or.inr (hu rfl).2), ↓reduceIte]
  · rename_i f hv hp hf
    obtain rfl : v6 = false := by simpa using hv
    simp only [secretParseChecked, secretParse, List.cons_append, u8, (secretWF_usage hw hp hf).1, secretCount,
      Bool.false_eq_true, secretProtected_ser d hw hp hf, ↓reduceIte]

/-- the specifier and the IV / nonce behind it: what `SecretWF` asks of the three layouts that have
both (usage 255 reads the specifier as `s2kInSecret false` does) -/
theorem s2k_iv_wf {v6 : Bool} {b r iv r' : Bytes} {k : S2k} {n : Nat} (hn : take n r = some (iv, r')) :
    s2kInSecret v6 b = some (k, r) →
    S2kWF k ∧ iv.length = n ∧ (v6 = true → (s2kLen k).isSome) ∧ (k.isOther = true → iv = [] ∧ r' = []) := by
  fun_cases s2kInSecret v6 b
  · nofun
  · nofun
  · nofun
  · rintro ⟨⟩
    rename_i hl hk
    exact ⟨s2k_parse_wf hk, (take_eq_some hn).2, fun _ => by rw [hl]; rfl, fun ho => take_nil (s2k_parse_other hk ho ▸ hn)⟩
  · nofun
  · rename_i hv
    exact fun hk => ⟨s2k_parse_wf hk, (take_eq_some hn).2, fun h6 => absurd h6 hv,
      fun ho => take_nil (s2k_parse_other hk ho ▸ hn)⟩

theorem secretProtected_wf {v6 : Bool} {u : Byte} {r : Bytes} {s : Secret} (hu0 : u.toNat ≠ 0) :
    secretProtected v6 u r = some s →
    usageOctet s.params = u ∧
      ((v6 = true → u.toNat = Gen.usageAead ∨ u.toNat = Gen.usageCfb) → SecretWF v6 s) := by
  fun_cases secretProtected v6 u r <;> rintro ⟨⟩
  · rename_i hua _ _ _ _ _ hk _ _ hn
    exact ⟨UInt8.toNat_inj.mp hua.symm, fun _ => s2k_iv_wf hn hk⟩
  · rename_i _ huc _ _ _ _ hk _ _ hn _
    exact ⟨UInt8.toNat_inj.mp huc.symm, fun _ => s2k_iv_wf hn hk⟩
  · rename_i hua huc hum _ _ _ _ hk _ _ hn _
    obtain ⟨w1, w2, -, w3⟩ := s2k_iv_wf (v6 := false) hn hk
    exact ⟨UInt8.toNat_inj.mp hum.symm, fun hv => ⟨Bool.eq_false_iff.mpr fun h6 => (hv h6).elim hua huc, w1, w2, w3⟩⟩
  · rename_i hua huc hum _ _ hn
    refine ⟨rfl, fun hv => ⟨Bool.eq_false_iff.mpr fun h6 => (hv h6).elim hua huc, Nat.pos_of_ne_zero hu0, ?_,
      (take_eq_some hn).2⟩⟩
    have := u.toNat_lt
    simp only [Gen.usageAead, Gen.usageCfb, Gen.usageMalleableCfb] at hua huc hum ⊢
    omega

theorem secretParse_wf {v6 : Bool} {b : Bytes} {s : Secret} : secretParse v6 b = some s →
    (v6 = true → (usageOctet s.params).toNat = 0 ∨ (usageOctet s.params).toNat = Gen.usageAead ∨
      (usageOctet s.params).toNat = Gen.usageCfb) → SecretWF v6 s := by
  fun_cases secretParse v6 b
  · nofun
  · rintro ⟨⟩ -; trivial
  · nofun
  · rename_i hu0 _ _
    intro hp
    obtain ⟨hoct, hw⟩ := secretProtected_wf hu0 hp
    rw [hoct]
    exact fun hv => hw fun h6 => (hv h6).resolve_left hu0

theorem secret_parse_wf {v6 : Bool} {b : Bytes} {s : Secret} : secretParseChecked v6 b = some s →
    SecretWF v6 s := by
  fun_cases secretParseChecked v6 b <;> rintro ⟨⟩
  · exact secretParse_wf ‹_› fun _ => ‹_›
  · exact secretParse_wf ‹_› fun h6 => absurd h6 ‹_›

end Rpgp.Wire
