import RpgpProofs.E2ESize
import RpgpModel.E2EToy
/-! E2E, non-vacuity: the toy primitives of `RpgpModel/E2EToy.lean` satisfy the laws, and the two concrete
configurations satisfy `WF` for every payload length up to 10⁶ and are accepted by the builder.  Facts
that do not depend on the payload are closed terms over the toy primitives and are evaluated. -/
namespace Rpgp.E2E.Toy
open Rpgp Rpgp.E2E

/-! ### the primitives -/

theorem cfbEnc_eq (alg : Nat) (key iv x : Bytes) : prims.sym.cfbEnc alg key iv x = x.map (· + key.headD 1) := rfl

theorem cfbDec_eq (alg : Nat) (key iv x : Bytes) : prims.cfbDec alg key iv x = x.map (· - key.headD 1) := rfl

theorem aead_eq (s m : Nat) (k n ad p : Bytes) :
    prims.sym.aead s m k n ad p = p ++ List.replicate 16 (bsum k + n.getLastD 0) := rfl

theorem aeadOpen_eq (s m : Nat) (k n ad c : Bytes) :
    prims.aeadOpen s m k n ad c =
      if 16 ≤ c.length ∧ c.drop (c.length - 16) = List.replicate 16 (bsum k + n.getLastD 0)
      then some (c.take (c.length - 16)) else none := rfl

theorem hash_length (alg : Nat) (x : Bytes) : (prims.sym.hash alg x).length = 23 + min 2 x.length := by
  show ((bsum x :: x.length.toUInt8 :: alg.toUInt8 :: x.take 2) ++ List.replicate 20 7).length = _
  simp only [List.length_append, List.length_cons, List.length_take, List.length_replicate]
  omega

theorem toy_crypto : CryptoLaws prims where
  cfb_dec_enc := by
    intro alg key iv x
    rw [cfbEnc_eq, cfbDec_eq, List.map_map]
    conv => rhs; rw [← List.map_id x]
    exact List.map_congr_left fun b _ => UInt8.add_sub_cancel ..
  cfb_online := fun alg key iv => ⟨fun x => List.length_map ..,
    fun a b => by rw [cfbEnc_eq, cfbEnc_eq, List.map_append, List.take_left' (List.length_map ..)]⟩
  sha1_len := by intro x; rw [hash_length]; omega
  aead_len := by intro s m k n ad p; rw [aead_eq, List.length_append, List.length_replicate]
  aead_open_seal := by
    intro s m k n ad p
    have hl : (p ++ List.replicate 16 (bsum k + n.getLastD 0)).length - 16 = p.length := by
      rw [List.length_append, List.length_replicate, Nat.add_sub_cancel]
    rw [aead_eq, aeadOpen_eq, hl, List.drop_left' rfl, List.take_left' rfl,
      if_pos ⟨by rw [List.length_append, List.length_replicate]; exact Nat.le_add_left ..,  rfl⟩]
  aead_open_len := by
    intro s m k n ad c p h
    rw [aeadOpen_eq] at h
    split at h
    · rename_i hc
      rw [← Option.some.inj h, List.length_take_of_le (Nat.sub_le ..), Nat.sub_add_cancel hc.1]
    · cases h

theorem toy_laws : Laws prims :=
  ⟨toy_crypto, fun _ _ => rfl, fun _ _ => beq_self_eq_true _⟩

/-- the toy public-key scheme is "raw decryption, then C18's plausibility tail" -/
theorem toy_pkLaw (j : Nat) : PkLaw prims j false :=
  pkLaw_of_raw prims j
    (fun vals => match vals with | .other (j' :: data) => if j' = j.toUInt8 then some data else none | _ => none)
    (by
      intro vals v6
      cases vals with
      | other k =>
        cases k with
        | nil => rfl
        | cons j' data =>
          show (if j' = j.toUInt8 then _ else none) = Option.bind (if j' = j.toUInt8 then some data else none) _
          split <;> rfl
      | _ => rfl)
    (fun d v6 => if_pos rfl)

/-! ### the signed level -/

theorem payload_length (n : Nat) : (payload n).length = n := by simp [payload]

theorem flatten_payload (n : Nat) : [payload n].flatten = payload n := by simp

theorem signer_facts (typ : Byte) (s : Signer) (hs : s ∈ [s4, s6]) :
    SV.signAligned s.keyVer s.keyVer = true ∧
    (∀ isLast, Wire.OpsWF (opsPacket typ s isLast) ∧ ∃ b, Wire.opsSer (opsPacket typ s isLast) = some b) ∧
    ∀ pre, (∀ emb, Wire.SigWF emb (mkSig prims typ s pre)) ∧
      ∃ b, Wire.sigSer (mkSig prims typ s pre) = some b ∧ b.length ≤ 100 := by
  have hbare : s.hashed = [] ∧ s.unhashed = [] ∧ s.pk = 28 ∧ s.hash = 8 ∧ s.salt.length ≤ 16 ∧
      SV.signAligned s.keyVer s.keyVer = true ∧
      (if s.keyVer = 6 then s.salt.length < 256 ∧ s.fp.length = 32 else s.keyId.length = 8) ∧
      (s.keyVer = 6 → Wire.hashSaltLen s.hash = some s.salt.length ∧ s.salt.length < 256) := by
    simp only [List.mem_cons, List.not_mem_nil, or_false] at hs
    rcases hs with rfl | rfl <;> decide +kernel
  obtain ⟨hh, hu, hpk, hhash, hsl, hal, hops, hsalt⟩ := hbare
  refine ⟨hal, fun isLast => opsPacket_facts typ s isLast hops, fun pre => ?_⟩
  have hlen := hash_length s.hash.toNat pre
  obtain ⟨hwf, b, hb, hbl⟩ := mkSig_bare prims typ s pre hh hu (by omega)
    (by rw [hpk]; exact ⟨by decide, by decide, fun h => absurd h (by decide)⟩) hsalt
  refine ⟨hwf, b, hb, ?_⟩
  have : Wire.sigBytesWriteLen (prims.pkSign s.key (prims.sym.hash s.hash.toNat pre)) =
      (prims.sym.hash s.hash.toNat pre).length + 1 := rfl
  omega

theorem signedWF (c : Cfg) (n : Nat) (hn : n ≤ 1000000) (hk : c.k = 9) (hsig : c.signers = [s4, s6]) :
    SignedWF prims c [payload n] where
  k := by rw [hk]; decide
  litLen := by rw [flatten_payload, payload_length, litHdr_length]; omega
  ops := fun s hs l => ((signer_facts c.signTyp s (hsig ▸ hs)).2.1 l).1
  sig := by
    intro s hs pre _
    obtain ⟨h2, b, hb, hbl⟩ := (signer_facts c.signTyp s (hsig ▸ hs)).2.2 pre
    refine ⟨h2, fun b' hb' => ?_⟩
    rw [hb] at hb'
    rw [← Option.some.inj hb']
    omega

theorem signedStream_some (c : Cfg) (src : List Bytes) (hsig : c.signers = [s4, s6])
    (ht : SV.dataSigType c.signTyp.toNat = true) : ∃ S, signedStream prims c src = some S :=
  signedStream_isSome prims c src ht
    (fun s hs l => ((signer_facts c.signTyp s (hsig ▸ hs)).2.1 l).2)
    (fun s hs => ⟨(signer_facts c.signTyp s (hsig ▸ hs)).1, fun pre =>
      let ⟨_, b, hb, _⟩ := (signer_facts c.signTyp s (hsig ▸ hs)).2.2 pre; ⟨b, hb⟩⟩)

theorem signed_small (c : Cfg) (n : Nat) (hn : n ≤ 1000000) (hk : c.k = 9) (hsig : c.signers = [s4, s6])
    (S : Bytes) (hS : signedStream prims c [payload n] = some S) : S.length ≤ 2000844 := by
  have := signedStream_length_le prims c [payload n] S (signedWF c n hn hk hsig) hS 100 (by
    intro s hs pre b _ hb
    obtain ⟨_, b', hb', hbl⟩ := (signer_facts c.signTyp s (hsig ▸ hs)).2.2 pre
    rw [hb] at hb'
    rw [Option.some.inj hb']
    exact hbl)
  rw [hsig, flatten_payload, payload_length] at this
  simp only [List.length_cons, List.length_nil] at this
  omega

theorem inner_small (c : Cfg) (n : Nat) (hn : n ≤ 1000000) (hk : c.k = 9) (hsig : c.signers = [s4, s6])
    (S : Bytes) (hS : signedStream prims c [payload n] = some S) : (compressedLayer prims c S).length ≤ 4001698 := by
  have h := signed_small c n hn hk hsig S hS
  have := compressedLayer_length_le prims c S 2000844 (fun _ => h) h
  omega

/-! ### the session-key packets -/

/-- every ESK body of a concrete `Encryption` is short: a check that can be evaluated -/
theorem eskPktWF_len (e : Encryption)
    (h : (eskBodies prims e).all (fun tb => decide ((tb.2.getD []).length < 4294967296)) = true) :
    ∀ tb ∈ eskBodies prims e, ∀ b, tb.2 = some b → b.length < 4294967296 := by
  intro tb htb b hb
  have := List.all_eq_true.mp h tb htb
  rw [hb] at this
  exact of_decide_eq_true this

theorem eskWF_V1 : EskWF encV1 where
  sym := by decide
  pw := by
    intro r hr
    obtain rfl := List.mem_singleton.mp hr
    exact ⟨by decide, fun _ _ _ _ h => Container.noConfusion h⟩

theorem eskWF_V2 : EskWF encV2 where
  sym := by decide
  pw := by
    intro r hr
    obtain rfl := List.mem_singleton.mp hr
    refine ⟨by decide, fun _ _ _ _ h => ?_⟩
    obtain ⟨_, rfl, _, _⟩ := Container.v2.inj h
    decide

theorem eskPktWF_V1 : EskPktWF prims encV1 where
  pk := by
    intro r hr
    obtain rfl := List.mem_singleton.mp hr
    exact ⟨rfl, (by decide : Wire.pkeskAlgClass 19 = .rest)⟩
  len := eskPktWF_len encV1 (by decide +kernel)

theorem eskPktWF_V2 : EskPktWF prims encV2 where
  pk := by
    intro r hr
    obtain rfl := List.mem_singleton.mp hr
    exact ⟨by decide, (by decide : Wire.pkeskAlgClass 19 = .rest)⟩
  len := eskPktWF_len encV2 (by decide +kernel)

theorem eskBodies_V1 : (eskBodies prims encV1).all (fun tb => tb.2.isSome) = true := by decide +kernel

theorem eskBodies_V2 : (eskBodies prims encV2).all (fun tb => tb.2.isSome) = true := by decide +kernel

/-! ### the two configurations -/

theorem wf_A (n : Nat) (hn : n ≤ 1000000) : WF prims opts cfgA [payload n] where
  signed := signedWF cfgA n hn rfl rfl
  hashRead := by decide
  verifiers := by decide
  comp := by
    intro S hS a ha
    obtain rfl : 1 = a := Option.some.inj ha
    have := signed_small cfgA n hn rfl rfl S hS
    exact ⟨by decide, by show 1 + S.length < _; omega⟩
  enc := by
    intro S e hS he
    obtain rfl : encV2 = e := Option.some.inj he
    have hin := inner_small cfgA n hn rfl rfl S hS
    refine ⟨⟨by decide, ?_, fun _ _ h => Container.noConfusion h, ?_⟩, eskWF_V2, eskPktWF_V2⟩
    · rw [cipherText_v2_length prims toy_crypto encV2 7 2 0 (List.replicate 32 8) _ rfl]
      have e64 : 2 ^ (0 + 6) = 64 := by decide
      rw [e64]
      show 36 + _ < _
      omega
    · intro sy ae cs sa h
      obtain ⟨rfl, rfl, rfl, rfl⟩ := Container.v2.inj h
      decide

theorem wf_B (n : Nat) (hn : n ≤ 1000000) : WF prims opts cfgB [payload n] where
  signed := signedWF cfgB n hn rfl rfl
  hashRead := by decide
  verifiers := by decide
  comp := by
    intro S hS a ha
    obtain rfl : 1 = a := Option.some.inj ha
    have := signed_small cfgB n hn rfl rfl S hS
    exact ⟨by decide, by show 1 + S.length < _; omega⟩
  enc := by
    intro S e hS he
    obtain rfl : encV1 = e := Option.some.inj he
    have hin := inner_small cfgB n hn rfl rfl S hS
    refine ⟨⟨by decide, ?_, ?_, fun _ _ _ _ h => Container.noConfusion h⟩, eskWF_V1, eskPktWF_V1⟩
    · rw [cipherText_v1_length prims toy_crypto encV1 7 (List.replicate 16 3) _ rfl]
      show 1 + (16 + 2 + _ + 22) < _
      omega
    · intro sy pre h
      obtain ⟨rfl, rfl⟩ := Container.v1.inj h
      refine ⟨by decide, ?_⟩
      show _ ≤ 1073741824
      omega

theorem build_some (c : Cfg) (e : Encryption) (n : Nat) (hsig : c.signers = [s4, s6])
    (ht : SV.dataSigType c.signTyp.toNat = true) (hm : c.mode = 98) (he : c.encryption = some e)
    (hk : sessionKeyOk e = true) (hesk : (eskBodies prims e).all (fun tb => tb.2.isSome) = true) :
    ∃ m, buildFull prims c [payload n] = some m := by
  obtain ⟨S, hS⟩ := signedStream_some c [payload n] hsig ht
  have hok : srcOk prims c.mode [payload n] = true := by rw [hm]; rfl
  unfold buildFull buildBinary
  simp only [hok, hS, he, hk, hesk, Bool.not_true, Bool.false_eq_true, if_false, if_true, Option.map_some]
  exact ⟨_, rfl⟩

theorem build_A (n : Nat) : ∃ m, buildFull prims cfgA [payload n] = some m :=
  build_some cfgA encV2 n rfl (by decide) rfl rfl (by decide) eskBodies_V2

theorem build_B (n : Nat) : ∃ m, buildFull prims cfgB [payload n] = some m :=
  build_some cfgB encV1 n rfl (by decide) rfl rfl (by decide) eskBodies_V1

theorem expected_eq (c : Cfg) (n : Nat) (hm : c.mode = 98) (hsig : c.signers = [s4, s6]) :
    expected c [payload n] =
      { payload := payload n, litMeta := ⟨0x62, [], [0, 0, 0, 0]⟩, verified := [true, true] } := by
  unfold expected
  rw [flatten_payload, hm, hsig]
  rfl

end Rpgp.E2E.Toy
