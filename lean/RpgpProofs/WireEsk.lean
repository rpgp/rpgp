import RpgpProofs.WireKey
/-! Session-key packets (PKESK, SKESK), one-pass signatures and the data packets (literal, SEIPD) of
`RpgpModel/Wire.lean`. -/
namespace Rpgp.Wire
open Rpgp

/-! ## public-key encrypted session keys -/

theorem pkeskVals_len (v : PkeskVals) (b : Bytes) (h : pkeskValsSer v = some b) :
    b.length = pkeskValsWriteLen v := by
  revert h
  fun_cases pkeskValsSer v <;> rintro ⟨⟩ <;> simp +arith [pkeskValsWriteLen, mpiSer_length]

theorem xdh_parse_ser {w v3 : Bool} {eph esk : Bytes} {sym : Option Byte} {b : Bytes}
    (he : eph.length = if w then 56 else 32) (hs : sym.isSome = v3)
    (hl : if v3 then esk.length + 1 < 256 else (0 < esk.length ∧ esk.length < 256))
    (h : pkeskValsSer (.xdh w eph sym esk) = some b) : xdhParse w v3 b = some (.xdh w eph sym esk, []) := by
  cases sym with
  | none =>
    obtain rfl : v3 = false := hs.symm
    obtain ⟨-, rfl⟩ := ite_some_eq h
    have e1 : esk.length.toUInt8.toNat = esk.length := toUInt8_toNat_of_lt _ hl.2
    simp only [xdhParse, take_append' _ eph _ he, u8, e1, Nat.ne_of_gt hl.1, Bool.false_eq_true, take_all, ↓reduceIte]
  | some a =>
    obtain rfl : v3 = true := hs.symm
    have hl : esk.length + 1 < 256 := hl
    obtain ⟨-, rfl⟩ := ite_some_eq h
    have e1 : (esk.length + 1).toUInt8.toNat = esk.length + 1 := toUInt8_toNat_of_lt _ hl
    simp only [xdhParse, take_append' _ eph _ he, u8, e1, Nat.succ_ne_zero,
      Nat.add_sub_cancel, take_all, ↓reduceIte]

theorem pkeskVals_parse_ser (alg : Byte) (v3 : Bool) (v : PkeskVals) (b : Bytes) (hw : PkeskValsWF alg v3 v)
    (h : pkeskValsSer v = some b) : pkeskValsParse alg v3 b = some (v, []) := by
  cases v with
  | rsa m =>
    obtain ⟨hc, hm⟩ := hw
    cases h
    simp only [pkeskValsParse, hc, mpi_parse_ser_nil m hm]
  | elgamal x y =>
    obtain ⟨hc, hx, hy⟩ := hw
    cases h
    simp only [pkeskValsParse, hc, mpisParse, mpi_parse_ser x _ hx, mpi_parse_ser_nil y hy]
  | ecdh pt esk =>
    obtain ⟨hc, hp, hl⟩ := hw
    obtain ⟨-, rfl⟩ := ite_some_eq h
    have e1 : esk.length.toUInt8.toNat = esk.length := toUInt8_toNat_of_lt _ hl
    simp only [pkeskValsParse, hc, mpi_parse_ser pt _ hp, u8, e1, take_all]
  | other k =>
    cases h
    have hc : pkeskAlgClass alg = .rest := hw
    simp only [pkeskValsParse, hc]
  | xdh w eph sym esk =>
    obtain ⟨hc, he, hs, hl⟩ := hw
    cases w <;> simp only [pkeskValsParse, hc, Bool.false_eq_true, ↓reduceIte] <;>
      exact xdh_parse_ser he hs hl h

theorem pkesk_len (p : Pkesk) (b : Bytes) (h : pkeskSer p = some b) : b.length = pkeskWriteLen p := by
  cases p with
  | other ver data => cases h; exact Nat.add_comm ..
  | v3 id alg vals =>
    obtain ⟨v, hv, rfl⟩ := Option.map_eq_some_iff.mp h
    simp +arith [pkeskWriteLen, pkeskVals_len vals v hv]
  | v6 fp alg vals =>
    obtain _ | ⟨kv, f⟩ := fp <;> obtain ⟨v, hv, rfl⟩ := Option.map_eq_some_iff.mp h <;>
      simp +arith [pkeskWriteLen, pkeskVals_len vals v hv]

theorem fpLenNew_le {kv : Byte} {n : Nat} : fpLenNew kv = some n → n ≤ 32 := by
  fun_cases fpLenNew kv <;> rintro ⟨⟩ <;> decide

theorem pkesk_parse_ser (p : Pkesk) (b : Bytes) (hw : PkeskWF p) (h : pkeskSer p = some b) :
    pkeskParse b = some p := by
  cases p with
  | other ver data =>
    obtain ⟨h3, h6⟩ := hw
    cases h
    simp only [pkeskParse, u8, h3, h6, ↓reduceIte]
  | v3 id alg vals =>
    obtain ⟨hi, hv⟩ := hw
    obtain ⟨v, hvs, rfl⟩ := Option.map_eq_some_iff.mp h
    simp [pkeskParse, u8, take_append' 8 id _ hi, pkeskVals_parse_ser alg true vals v hv hvs]
  | v6 fp alg vals =>
    obtain _ | ⟨kv, f⟩ := fp <;> obtain ⟨v, hvs, rfl⟩ := Option.map_eq_some_iff.mp h
    · simp [pkeskParse, u8, pkeskVals_parse_ser alg false vals v hw hvs]
    · obtain ⟨hf, hv⟩ := hw
      have hle := fpLenNew_le hf
      have e1 : (f.length + 1).toUInt8.toNat = f.length + 1 := toUInt8_toNat_of_lt _ (by omega)
      simp only [pkeskParse, List.cons_append, u8, e1, Nat.succ_ne_zero, Nat.add_sub_cancel, take_append, hf,
        pkeskVals_parse_ser alg false vals v hv hvs, List.isEmpty_nil, ↓reduceIte]
      rfl

/-! ## symmetric-key encrypted session keys -/

theorem skesk_len (s : Skesk) (b : Bytes) (h : skeskSer s = some b) : b.length = skeskWriteLen s := by
  revert h
  fun_cases skeskSer s <;> rintro ⟨⟩ <;> simp +arith [skeskWriteLen, s2kSer_length]

theorem skesk_parse_ser (s : Skesk) (b : Bytes) (hw : SkeskWF s) (h : skeskSer s = some b) :
    skeskParse b = some s := by
  cases s with
  | v4 sym k esk =>
    obtain ⟨hk, ho⟩ := hw
    cases h
    simp [skeskParse, u8, s2k_parse_ser k esk hk ho]
  | v5 sym k iv esk =>
    obtain ⟨hk, ho, hi, he⟩ := hw
    cases h
    simp [skeskParse, u8, s2k_parse_ser k _ hk (by simp [ho]), take_append' _ iv esk hi, ← he, take_all]
  | v6 sym a k iv esk =>
    obtain ⟨hk, ha, hi, he, hl⟩ := hw
    obtain ⟨-, rfl⟩ := ite_some_eq h
    have e1 : (s2kWriteLen k).toUInt8.toNat = s2kWriteLen k := toUInt8_toNat_of_lt _ (by omega)
    have h1 : (s2kSer k ++ (iv ++ esk)).take (s2kWriteLen k) = s2kSer k := by rw [← s2kSer_length, List.take_left]
    have h2 : (s2kSer k ++ (iv ++ esk)).drop (s2kWriteLen k) = iv ++ esk := by rw [← s2kSer_length, List.drop_left]
    have h3 : s2kParse (s2kSer k) = some (k, []) := by simpa using s2k_parse_ser k [] hk (by simp)
    have h4 : ¬ esk.length < 16 := by omega
    have h5 : ¬ Gen.wireSkesk6FieldsMax < 3 + s2kWriteLen k + iv.length := by simp only [Gen.wireSkesk6FieldsMax]; omega
    simp [skeskParse, u8, e1, h1, h2, h3, take_append' _ iv esk hi, ha, h4, h5]
  | other ver data =>
    obtain ⟨h4, h5, h6⟩ := hw
    cases h
    simp only [skeskParse, u8, h4, h5, h6, ↓reduceIte]

theorem skesk_parse_wf {b : Bytes} {s : Skesk} : skeskParse b = some s → SkeskWF s := by
  fun_cases skeskParse b <;> rintro ⟨⟩
  · exact ⟨s2k_parse_wf ‹_›, s2k_parse_other ‹_›⟩
  · rename_i hk _ _ hiv _ _ hesk _ _
    refine ⟨s2k_parse_wf hk, Bool.eq_false_iff.mpr fun ho => ?_, (take_eq_some hiv).2, (take_eq_some hesk).2⟩
    -- an unknown specifier would have left nothing for the nonce
    obtain rfl := s2k_parse_other hk ho
    cases hiv
  · exact ⟨s2k_parse_wf ‹_›, by simpa using ‹¬ (!_) = true›, (take_eq_some ‹_›).2, Nat.not_lt.mp ‹_›,
      Nat.lt_succ_of_le (Nat.not_lt.mp ‹_›)⟩
  · exact ⟨‹_›, ‹_›, ‹_›⟩

theorem skesk_ser_some (s : Skesk) (h : SkeskWF s) : ∃ w, skeskSer s = some w := by
  cases s with
  | v6 sym a k iv esk => exact ⟨_, if_pos h.2.2.2.2⟩
  | _ => exact ⟨_, rfl⟩

/-! ## one-pass signatures -/

theorem splitLast_append (d : Bytes) (l : Byte) : splitLast (d ++ [l]) = some (d, l) := by
  induction d with
  | nil => rfl
  | cons x t ih =>
    cases t with
    | nil => rfl
    | cons y t' => simp only [List.cons_append] at ih ⊢; simp only [splitLast, ih]

theorem splitLast_some {b d : Bytes} {l : Byte} (h : splitLast b = some (d, l)) : b = d ++ [l] := by
  revert h
  fun_induction splitLast b generalizing d <;> rintro ⟨⟩
  · rfl
  · rename_i ih hr; rw [ih hr]; rfl

theorem ops_len (o : Ops) (b : Bytes) (h : opsSer o = some b) : b.length = opsWriteLen o := by
  revert h
  fun_cases opsSer o <;> rintro ⟨⟩ <;> simp +arith [opsWriteLen]

theorem ops_parse_ser (o : Ops) (b : Bytes) (hw : OpsWF o) (h : opsSer o = some b) : opsParse b = some o := by
  cases o with
  | v3 t hh p id l =>
    cases h
    simp [opsParse, take_append' 8 id [l] hw]
  | v6 t hh p salt fp l =>
    obtain ⟨hs, hf⟩ := hw
    obtain ⟨-, rfl⟩ := ite_some_eq h
    have e1 : salt.length.toUInt8.toNat = salt.length := toUInt8_toNat_of_lt _ hs
    simp [opsParse, u8, e1, take_append, take_append' 32 fp [l] hf]
  | unknown v t hh p d l =>
    obtain ⟨h3, h6⟩ := hw
    cases h
    simp [opsParse, h3, h6, splitLast_append]

theorem ops_parse_wf {b : Bytes} {o : Ops} : opsParse b = some o → OpsWF o := by
  fun_cases opsParse b <;> rintro ⟨⟩
  · exact (take_eq_some ‹take 8 _ = _›).2
  · exact ⟨(take_eq_some ‹take (UInt8.toNat _) _ = _›).2 ▸ UInt8.toNat_lt _, (take_eq_some ‹take 32 _ = _›).2⟩
  · exact ⟨‹_›, ‹_›⟩

theorem ops_ser_some (o : Ops) (h : OpsWF o) : ∃ w, opsSer o = some w := by
  cases o with
  | v6 t hh p salt fp l => exact ⟨_, if_pos h.1⟩
  | _ => exact ⟨_, rfl⟩

/-! ## literal data, SEIPD -/

theorem literal_len (l : Literal) (b : Bytes) (h : literalSer l = some b) : b.length = literalWriteLen l := by
  revert h
  fun_cases literalSer l <;> rintro ⟨⟩
  simp +arith [literalWriteLen]

theorem literal_parse_ser (l : Literal) (b : Bytes) (hw : LiteralWF l) (h : literalSer l = some b) :
    literalParse b = some l := by
  obtain ⟨hn, hc⟩ := hw
  obtain ⟨-, rfl⟩ := ite_some_eq h
  have e1 : l.name.length.toUInt8.toNat = l.name.length := toUInt8_toNat_of_lt _ hn
  simp [literalParse, e1, take_append, take_append' 4 l.created l.data hc]

theorem literal_parse_wf {b : Bytes} {l : Literal} : literalParse b = some l → LiteralWF l := by
  fun_cases literalParse b <;> rintro ⟨⟩
  exact ⟨(take_eq_some ‹take (UInt8.toNat _) _ = _›).2 ▸ UInt8.toNat_lt _, (take_eq_some ‹take 4 _ = _›).2⟩

theorem literal_ser_some (l : Literal) (h : LiteralWF l) : ∃ w, literalSer l = some w :=
  ⟨_, if_pos h.1⟩

theorem seipd_len (s : Seipd) : (seipdSer s).length = seipdWriteLen s := by
  cases s <;> simp +arith [seipdSer, seipdWriteLen]

theorem seipd_parse_ser (s : Seipd) (hw : SeipdWF s) : seipdParse (seipdSer s) = some s := by
  cases s with
  | v1 d => rfl
  | v2 sym a c salt d =>
    obtain ⟨hc, hs⟩ := hw
    simp [seipdSer, seipdParse, Nat.not_lt.mpr hc, take_append' 32 salt d hs]

theorem seipd_parse_wf {b : Bytes} {s : Seipd} : seipdParse b = some s → SeipdWF s := by
  fun_cases seipdParse b <;> rintro ⟨⟩
  · trivial
  · exact ⟨Nat.not_lt.mp ‹_›, (take_eq_some ‹take 32 _ = _›).2⟩

end Rpgp.Wire
