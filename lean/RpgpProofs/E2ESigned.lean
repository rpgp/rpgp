import RpgpModel.E2E
import RpgpProofs.Message
import RpgpProofs.SignVerify
import RpgpProofs.Wire
import RpgpProofs.Utf8
import RpgpProofs.Canon
/-! E2E, the signed / literal level: `readSigned (signedStream …)`, the optional compression layer
around it, and the literal header and `Utf8` check on their own.  Uses C05 (`Wire.*_parse_ser`), C06
(`SV.signConfig_some`, `SV.verifyInlineOps_eq`) and the packet splitting of `Message.lean`. -/
namespace Rpgp.E2E
open Rpgp

/-- the verification keys of the signers, in signer order (what the caller hands to `verify_nested`) -/
def verifiersOf (c : Cfg) : List Verifier := c.signers.map fun s => ⟨s.key, s.keyVer⟩

/-- well-formedness of the signed level for one payload: chunk exponent in range, every packet below
the 2³² limit of the wire format, the OPS / signature values inside the ranges their parsers accept
(C05's `OpsWF`, `SigWF`: key id 8 octets, fingerprint 32, salt of the hash's size, well-formed
subpackets, `signed_hash_value` two octets, signature values in the algorithm's shape) -/
structure SignedWF (P : Prims) (c : Cfg) (src : List Bytes) : Prop where
  k : 9 ≤ c.k ∧ c.k ≤ 30
  litLen : (litHdr c.mode).length + src.flatten.length < 4294967296
  ops : ∀ s ∈ c.signers, ∀ isLast, Wire.OpsWF (opsPacket c.signTyp s isLast)
  sig : ∀ s ∈ c.signers, ∀ pre, SV.signConfig s.keyVer (sigCfg c.signTyp s) src = some pre →
    (∀ emb, Wire.SigWF emb (mkSig P c.signTyp s pre)) ∧
    ∀ b, Wire.sigSer (mkSig P c.signTyp s pre) = some b → b.length < 4294967296

/-- what the property demands of the reader: payload, literal header as the builder wrote it (mode,
empty file name, zero date), every signer's key verified -/
def expected (c : Cfg) (src : List Bytes) : Result :=
  { payload := src.flatten, litMeta := ⟨c.mode, [], be32 0⟩,
    verified := List.replicate c.signers.length true }

/-! ### the literal packet -/

theorem litHdr_length (m : Byte) : (litHdr m).length = 6 := rfl

theorem framedAs_literalPkt (c : Cfg) (payload : Bytes) (hk : 9 ≤ c.k ∧ c.k ≤ 30)
    (hlen : (litHdr c.mode).length + payload.length < 4294967296) :
    FramedAs Gen.e2eTagLiteral (litHdr c.mode ++ payload) (literalPkt c payload) := by
  unfold literalPkt
  by_cases hkl : c.knownLen
  · rw [if_pos hkl]
    exact framedAs_fixedPkt Gen.e2eTagLiteral (by decide) _ (by simpa using hlen)
  · rw [if_neg hkl]
    exact framedAs_emitPartial Gen.e2eTagLiteral c.k (litHdr c.mode) payload (by decide) hk
      (le_two_pow_of_le_512 (by rw [litHdr_length]; decide) hk.1) hlen

theorem literalParse_litHdr (m : Byte) (payload : Bytes) :
    Wire.literalParse (litHdr m ++ payload) = some ⟨m, [], be32 0, payload⟩ :=
  Wire.literal_parse_ser ⟨m, [], be32 0, payload⟩ _ ⟨Nat.zero_lt_succ _, rfl⟩ (by simp [Wire.literalSer, litHdr])

theorem readSigned_of_split (P : Prims) (o : ReadOpts) (S : Bytes) (ops sigs : List Bytes) (body : Bytes)
    (lit : Wire.Literal)
    (hsplit : splitPackets (S.length + 1) S =
      some (ops.map (fun b => (Gen.e2eTagOps, b)) ++ (Gen.e2eTagLiteral, body) :: sigs.map fun b => (Gen.e2eTagSignature, b)))
    (hlen : sigs.length = ops.length) (hlit : Wire.literalParse body = some lit) :
    readSigned P o S =
      some { payload := lit.data, litMeta := ⟨lit.mode, lit.name, lit.created⟩,
             verified := o.verifiers.map fun v =>
               ((ops.map Wire.opsParse).zip (sigs.reverse.map fun b => Wire.sigParse (Wire.embFor b) b)).any
                 fun os => verifyExplicit P o.hashRead v os.1 os.2 lit.data } := by
  obtain ⟨htw, hdw⟩ := takeWhile_all (fun p : Nat × Bytes => p.1 == Gen.e2eTagOps)
    (ops.map fun b => (Gen.e2eTagOps, b)) (sigs.map fun b => (Gen.e2eTagSignature, b))
    (by intro p hp; obtain ⟨b, _, rfl⟩ := List.mem_map.mp hp; rfl)
    (Gen.e2eTagLiteral, body) (by decide : (Gen.e2eTagLiteral == Gen.e2eTagOps) = false)
  have hcond : ¬ (Gen.e2eTagLiteral ≠ Gen.e2eTagLiteral ∨
      (sigs.map fun b => (Gen.e2eTagSignature, b)).any (fun p => p.1 != Gen.e2eTagSignature) = true ∨
      (sigs.map fun b => (Gen.e2eTagSignature, b)).length ≠ (ops.map fun b => (Gen.e2eTagOps, b)).length) := by
    simp [hlen]
  unfold readSigned
  simp only [hsplit, htw, hdw, if_neg hcond, hlit, ← List.map_reverse, List.map_map, Function.comp_def]

theorem readSigned_literal_any (P : Prims) (o : ReadOpts) (mode : Byte) (name created data : Bytes)
    (hn : name.length < 256) (hc : created.length = 4)
    (hl : 2 + name.length + 4 + data.length < 4294967296) :
    readSigned P o (fixedPkt Gen.e2eTagLiteral (mode :: name.length.toUInt8 :: name ++ created ++ data)) =
      some { payload := data, litMeta := ⟨mode, name, created⟩, verified := o.verifiers.map fun _ => false } := by
  generalize hbody : mode :: name.length.toUInt8 :: name ++ created ++ data = body
  have hparse : Wire.literalParse body = some ⟨mode, name, created, data⟩ :=
    Wire.literal_parse_ser _ _ ⟨hn, hc⟩ (by simp [Wire.literalSer, hn, ← hbody])
  have hb : body.length < 4294967296 := by
    rw [← hbody]; simp only [List.length_cons, List.length_append]; omega
  have hsplit := splitPackets_around id id ([] : List (Nat × Bytes)) ([] : List (Nat × Bytes)) _ body Gen.e2eTagLiteral
    nofun nofun (framedAs_fixedPkt Gen.e2eTagLiteral (by decide) body hb) (fixedPkt Gen.e2eTagLiteral body)
    (List.append_nil _).symm
  rw [readSigned_of_split P o _ [] [] body _ hsplit rfl hparse]
  rfl

/-! ### the `Utf8` literal check (builder side only) -/

/-- `LiteralDataGenerator::new` for a `Utf8` literal accepts the source — however it is delivered —
exactly when the whole text is valid UTF-8 and every LF is preceded by CR -/
theorem srcOk_utf8_iff (P : Prims) (LV : VutLaws P.vut) (hnil : P.vut [] = 0) (mode : Byte)
    (hm : mode.toNat = Gen.e2eModeUtf8) (src : List Bytes) :
    srcOk P mode src = true ↔ (P.vut src.flatten = src.flatten.length ∧ canon src.flatten = src.flatten) := by
  unfold srcOk
  rw [if_pos hm, Bool.and_eq_true, utf8Check_chunk_independent P.vut LV hnil, crlfCheck_iff]

theorem srcOk_other (P : Prims) (mode : Byte) (hm : mode.toNat ≠ Gen.e2eModeUtf8) (src : List Bytes) :
    srcOk P mode src = true := by
  unfold srcOk; rw [if_neg hm]

theorem buildFull_none_of_srcOk_false (P : Prims) (c : Cfg) (src : List Bytes) (h : srcOk P c.mode src = false) :
    buildFull P c src = none := by
  unfold buildFull buildBinary
  simp [h]

theorem mem_zipIdx_of_mem {α : Type} (l : List α) (x : α) (hx : x ∈ l) : ∃ i, (x, i) ∈ l.zipIdx :=
  let ⟨i, hi⟩ := List.mem_iff_getElem?.mp hx
  ⟨i, List.mk_mem_zipIdx_iff_getElem?.mpr hi⟩

theorem zipIdx_map_fst_comp {α β : Type} (f : α → β) (l : List α) (k : Nat) :
    (l.zipIdx k).map (fun si => f si.1) = l.map f := by
  rw [show (fun si : α × Nat => f si.1) = f ∘ Prod.fst from rfl, ← List.map_map, List.zipIdx_map_fst]

theorem all_isSome_map_getD {α : Type} [Inhabited α] (l : List (Option α)) (d : α)
    (h : l.all Option.isSome = true) : l = (l.map (·.getD d)).map some := by
  induction l with
  | nil => rfl
  | cons a l ih =>
    simp only [List.all_cons, Bool.and_eq_true] at h
    cases a with
    | none => simp at h
    | some x =>
      simp only [List.map_cons, Option.getD_some]
      rw [← ih h.2]

/-! ### one signer's pair verifies -/

theorem opsOfWire_opsPacket (typ : Byte) (s : Signer) (isLast : Bool) :
    opsOfWire (opsPacket typ s isLast) = some (SV.opsOf (sigCfg typ s)) := by
  unfold opsPacket SV.opsOf sigCfg
  by_cases h6 : s.keyVer = 6 <;> simp [h6, opsOfWire]

theorem cfgOfSig_mkSig (P : Prims) (typ : Byte) (s : Signer) (pre : Bytes) (hv : s.keyVer = 4 ∨ s.keyVer = 6) :
    cfgOfSig (mkSig P typ s pre) =
      some (sigCfg typ s, (P.sym.hash s.hash.toNat pre).take 2, P.pkSign s.key (P.sym.hash s.hash.toNat pre)) := by
  unfold mkSig cfgOfSig sigCfg
  rcases hv with h | h <;> simp [h]

/-- what a signer whose `SignatureHasher::sign` succeeded tells: the guards held (so the key is v4 or
v6 and the configuration is one C06 speaks about), and the pre-image is C06's -/
theorem signConfig_some_inv (typ : Byte) (s : Signer) (src : List Bytes) (pre : Bytes)
    (h : SV.signConfig s.keyVer (sigCfg typ s) src = some pre) :
    SV.signAligned s.keyVer s.keyVer = true ∧ SV.dataSigType typ.toNat = true ∧
      pre = SV.preimage (sigCfg typ s) (SV.dataHashed (sigCfg typ s).textMode src.flatten) ∧
      (s.keyVer = 4 ∨ s.keyVer = 6) ∧ SV.WFCfg (sigCfg typ s) := by
  obtain ⟨hal, hty, hp⟩ := SV.signConfig_some s.keyVer (sigCfg typ s) src pre h
  have hv : s.keyVer = 4 ∨ s.keyVer = 6 := SV.signAligned_wfver _ _ hal
  refine ⟨hal, hty, hp, hv, ?_⟩
  unfold SV.WFCfg sigCfg
  rcases hv with h | h <;> simp [h]

/-- the pair (OPS of signer `s`, signature of signer `s`) verifies under `s`'s key: the reader's hash
slot, built from the OPS packet and finished with the signature packet's fields, is the pre-image
the signer's hasher was fed (C06), so `signed_hash_value` and the public-key check pass -/
theorem verifyExplicit_own (P : Prims) (LV : ∀ key d, P.pkVerify key d (P.pkSign key d) = true)
    (B : Nat) (hB : 0 < B) (typ : Byte) (s : Signer) (isLast : Bool) (src : List Bytes) (pre : Bytes)
    (hpre : SV.signConfig s.keyVer (sigCfg typ s) src = some pre) :
    verifyExplicit P B ⟨s.key, s.keyVer⟩ (some (opsPacket typ s isLast)) (some (mkSig P typ s pre)) src.flatten = true := by
  obtain ⟨hal, hty, hp, hv, hwf⟩ := signConfig_some_inv typ s src pre hpre
  unfold verifyExplicit
  simp only [opsOfWire_opsPacket, cfgOfSig_mkSig P typ s pre hv]
  rw [SV.verifyInlineOps_eq B hB _ hwf, ← hp]
  have hver : (sigCfg typ s).ver = s.keyVer := rfl
  have hh : (sigCfg typ s).hash = s.hash.toNat := rfl
  have htyp : (sigCfg typ s).typ = typ.toNat := rfl
  simp only [htyp, hty, hver, SV.signAligned_verifyAligned _ _ hal, hh, LV, beq_self_eq_true, Bool.and_self]

/-! ### the stream `OPS.. literal SIG..` -/

theorem signedStream_some_inv (P : Prims) (c : Cfg) (src : List Bytes) (S : Bytes)
    (h : signedStream P c src = some S) :
    (opsBodies c).all Option.isSome = true ∧ (sigBodies P c src).all Option.isSome = true ∧
    S = (((opsBodies c).map fun b => fixedPkt Gen.e2eTagOps (b.getD [])).flatten ++
      literalPkt c src.flatten ++
      ((sigBodies P c src).reverse.map fun b => fixedPkt Gen.e2eTagSignature (b.getD [])).flatten) := by
  unfold signedStream at h
  by_cases hc : ((opsBodies c).all Option.isSome && (sigBodies P c src).all Option.isSome) = true
  · rw [if_pos hc] at h
    simp only [Bool.and_eq_true] at hc
    exact ⟨hc.1, hc.2, (Option.some.inj h).symm⟩
  · rw [if_neg hc] at h; cases h

/-- a well-formed OPS body of the builder: 13 octets (v3) or at most 5 + 1 + 255 + 32 (v6) -/
theorem opsBody_length_le (typ : Byte) (sg : Signer) (isLast : Bool) (b : Bytes)
    (hw : Wire.OpsWF (opsPacket typ sg isLast)) (h : Wire.opsSer (opsPacket typ sg isLast) = some b) :
    b.length ≤ 300 := by
  rw [Wire.ops_len _ b h]
  unfold opsPacket at hw ⊢
  by_cases h6 : sg.keyVer = 6
  · rw [if_pos h6] at hw ⊢
    simp only [Wire.OpsWF] at hw
    simp only [Wire.opsWriteLen]; omega
  · rw [if_neg h6] at hw ⊢
    simp only [Wire.OpsWF] at hw
    simp only [Wire.opsWriteLen]; omega

theorem opsBodies_length_le (c : Cfg) (hw : ∀ s ∈ c.signers, ∀ isLast, Wire.OpsWF (opsPacket c.signTyp s isLast)) :
    ∀ ob ∈ opsBodies c, (ob.getD []).length ≤ 300 := by
  intro ob hob
  obtain ⟨si, hsi, rfl⟩ := List.mem_map.mp hob
  cases hb : Wire.opsSer (opsPacket c.signTyp si.1 (si.2 + 1 == c.signers.length)) with
  | none => exact Nat.zero_le _
  | some b => exact opsBody_length_le _ _ _ b (hw si.1 (List.fst_mem_of_mem_zipIdx hsi) _) hb

theorem sigBodies_length_le (P : Prims) (c : Cfg) (src : List Bytes) (B : Nat)
    (hB : ∀ s ∈ c.signers, ∀ pre b, SV.signConfig s.keyVer (sigCfg c.signTyp s) src = some pre →
      Wire.sigSer (mkSig P c.signTyp s pre) = some b → b.length ≤ B) :
    ∀ sb ∈ sigBodies P c src, (sb.getD []).length ≤ B := by
  intro sb hsb
  obtain ⟨sg, hsg, rfl⟩ := List.mem_map.mp hsb
  cases hp : SV.signConfig sg.keyVer (sigCfg c.signTyp sg) src with
  | none => exact Nat.zero_le _
  | some pre =>
    cases hb : Wire.sigSer (mkSig P c.signTyp sg pre) with
    | none => simp [hb]
    | some b => simpa [hb] using hB sg hsg pre b hp hb

theorem splitPackets_signedStream (P : Prims) (c : Cfg) (src : List Bytes) (S : Bytes) (wf : SignedWF P c src)
    (hS : signedStream P c src = some S) :
    splitPackets (S.length + 1) S =
      some ((((opsBodies c).map (·.getD [])).map fun b => (Gen.e2eTagOps, b)) ++
        (Gen.e2eTagLiteral, litHdr c.mode ++ src.flatten) ::
          ((sigBodies P c src).reverse.map (·.getD [])).map fun b => (Gen.e2eTagSignature, b)) := by
  obtain ⟨_, _, hSeq⟩ := signedStream_some_inv P c src S hS
  refine splitPackets_around (fun b => (Gen.e2eTagOps, b)) (fun b => (Gen.e2eTagSignature, b)) _ _
    (literalPkt c src.flatten) (litHdr c.mode ++ src.flatten) Gen.e2eTagLiteral ?_ ?_
    (framedAs_literalPkt c _ wf.k wf.litLen) S (by rw [hSeq, List.map_map, List.map_map]; rfl)
  · intro b hb
    obtain ⟨ob, hob, rfl⟩ := List.mem_map.mp hb
    exact ⟨(by decide : Gen.e2eTagOps < 64), Nat.lt_of_le_of_lt (opsBodies_length_le c wf.ops ob hob) (by decide)⟩
  · intro b hb
    obtain ⟨sb, hsb, rfl⟩ := List.mem_map.mp hb
    exact ⟨(by decide : Gen.e2eTagSignature < 64), Nat.lt_succ_of_le (sigBodies_length_le P c src 4294967295
      (fun s hs pre b hpre hb => Nat.le_of_lt_succ ((wf.sig s hs pre hpre).2 b hb)) sb (List.mem_reverse.mp hsb))⟩

theorem deframe_signedStream_head (P : Prims) (c : Cfg) (src : List Bytes) (S : Bytes)
    (wf : SignedWF P c src) (hS : signedStream P c src = some S) :
    ∃ h b r, deframe S = .ok (h, b, r) ∧ (h.tag = Gen.e2eTagOps ∨ h.tag = Gen.e2eTagLiteral) := by
  have hsplit := splitPackets_signedStream P c src S wf hS
  cases hob : opsBodies c with
  | nil =>
    rw [hob] at hsplit
    obtain ⟨h, r, hd, ht⟩ := splitPackets_head _ _ _ _ hsplit
    exact ⟨h, _, r, hd, Or.inr ht⟩
  | cons ob rest =>
    rw [hob] at hsplit
    obtain ⟨h, r, hd, ht⟩ := splitPackets_head _ _ _ _ hsplit
    exact ⟨h, _, r, hd, Or.inl ht⟩

/-- the pre-image signer `sg` hashed (`[]` when the guards of `SignatureHasher::sign` refuse) -/
def preOf (c : Cfg) (src : List Bytes) (sg : Signer) : Bytes :=
  (SV.signConfig sg.keyVer (sigCfg c.signTyp sg) src).getD []

theorem sigBodies_facts (P : Prims) (c : Cfg) (src : List Bytes)
    (hall : (sigBodies P c src).all Option.isSome = true) (sg : Signer) (hs : sg ∈ c.signers) :
    SV.signConfig sg.keyVer (sigCfg c.signTyp sg) src = some (preOf c src sg) ∧
    ∃ b, Wire.sigSer (mkSig P c.signTyp sg (preOf c src sg)) = some b := by
  have hmem : (match SV.signConfig sg.keyVer (sigCfg c.signTyp sg) src with
      | none => none
      | some pre => Wire.sigSer (mkSig P c.signTyp sg pre)) ∈ sigBodies P c src :=
    List.mem_map.mpr ⟨sg, hs, rfl⟩
  have hsome := (List.all_eq_true.mp hall) _ hmem
  unfold preOf
  cases hp : SV.signConfig sg.keyVer (sigCfg c.signTyp sg) src with
  | none => rw [hp] at hsome; cases hsome
  | some pre =>
    rw [hp] at hsome
    exact ⟨rfl, Option.isSome_iff_exists.mp hsome⟩

theorem opsBodies_facts (c : Cfg) (hall : (opsBodies c).all Option.isSome = true)
    (si : Signer × Nat) (hs : si ∈ c.signers.zipIdx) :
    ∃ b, Wire.opsSer (opsPacket c.signTyp si.1 (si.2 + 1 == c.signers.length)) = some b :=
  Option.isSome_iff_exists.mp ((List.all_eq_true.mp hall) _ (List.mem_map.mpr ⟨si, hs, rfl⟩))

theorem readSigned_signedStream (P : Prims) (LV : ∀ key d, P.pkVerify key d (P.pkSign key d) = true)
    (o : ReadOpts) (hB : 0 < o.hashRead) (c : Cfg) (src : List Bytes) (S : Bytes) (wf : SignedWF P c src)
    (hS : signedStream P c src = some S) (ho : o.verifiers = verifiersOf c) :
    readSigned P o S = some (expected c src) := by
  obtain ⟨hopsA, hsigA, _⟩ := signedStream_some_inv P c src S hS
  have hopsF := opsBodies_facts c hopsA
  have hsigF := sigBodies_facts P c src hsigA
  let opsOf : Signer × Nat → Wire.Ops := fun si => opsPacket c.signTyp si.1 (si.2 + 1 == c.signers.length)
  let sigOf : Signer → Wire.Sig := fun sg => mkSig P c.signTyp sg (preOf c src sg)
  rw [readSigned_of_split P o S _ _ _ _ (splitPackets_signedStream P c src S wf hS) (by simp [opsBodies, sigBodies])
    (literalParse_litHdr c.mode src.flatten)]
  simp only [expected, Option.some.injEq, Result.mk.injEq, true_and]
  have hopsP : ((opsBodies c).map (·.getD [])).map Wire.opsParse = c.signers.zipIdx.map fun si => some (opsOf si) := by
    simp only [opsBodies, List.map_map, Function.comp_def]
    apply List.map_congr_left
    intro si hsi
    obtain ⟨b', hb'⟩ := hopsF si hsi
    simp only [opsOf, hb', Option.getD_some]
    exact Wire.ops_parse_ser _ _ (wf.ops si.1 (List.fst_mem_of_mem_zipIdx hsi) _) hb'
  have hsigP : ((sigBodies P c src).reverse.map (·.getD [])).reverse.map (fun b => Wire.sigParse (Wire.embFor b) b) =
      c.signers.zipIdx.map fun si => some (sigOf si.1) := by
    rw [← List.map_reverse, List.reverse_reverse, zipIdx_map_fst_comp (fun sg => some (sigOf sg)) c.signers 0]
    simp only [sigBodies, List.map_map, Function.comp_def]
    apply List.map_congr_left
    intro sg hsg
    obtain ⟨h1, b', hb'⟩ := hsigF sg hsg
    simp only [sigOf, h1, hb', Option.getD_some]
    exact Wire.sig_parse_ser _ _ _ ((wf.sig sg hsg _ h1).1 _) hb'
  rw [hopsP, hsigP, List.zip_map', ho]
  -- every presented key verifies the index of its own signer
  rw [List.eq_replicate_iff]
  refine ⟨by simp [verifiersOf], ?_⟩
  intro b hb
  obtain ⟨v, hv, rfl⟩ := List.mem_map.mp hb
  obtain ⟨sg, hsg, rfl⟩ := List.mem_map.mp hv
  obtain ⟨i, hi⟩ := mem_zipIdx_of_mem c.signers sg hsg
  rw [List.any_eq_true]
  exact ⟨(some (opsOf (sg, i)), some (sigOf sg)), List.mem_map.mpr ⟨(sg, i), hi, rfl⟩,
    verifyExplicit_own P LV o.hashRead hB c.signTyp sg _ src _ (hsigF sg hsg).1⟩

/-! ### the optional compression layer -/

theorem deframe_compressedLayer (P : Prims) (c : Cfg) (S : Bytes) (hk : 9 ≤ c.k ∧ c.k ≤ 30) (a : Nat)
    (hc : c.compression = some a) (hl : 1 + (P.compress a S).length < 4294967296) :
    ∃ h, deframe (compressedLayer P c S) = .ok (h, a.toUInt8 :: P.compress a S, []) ∧ h.tag = Gen.e2eTagCompressed := by
  obtain ⟨h, hd, htag⟩ := framedAs_compressedPkt c.k a (P.compress a S) hk hl []
  rw [List.append_nil] at hd
  refine ⟨h, ?_, htag⟩
  simp only [compressedLayer, hc]
  exact hd

/-- any algorithm octet, `decompress ∘ compress = id` as a law; without compression the first packet is
an OPS or literal packet, so `is_compressed()` is false and the reader goes straight to the signed level -/
theorem readInner_compressedLayer (P : Prims) (LC : ∀ a x, P.decompress a (P.compress a x) = some x)
    (o : ReadOpts) (c : Cfg) (src : List Bytes) (S : Bytes) (wf : SignedWF P c src)
    (hS : signedStream P c src = some S)
    (hcomp : ∀ a, c.compression = some a → a < 256 ∧ 1 + (P.compress a S).length < 4294967296) :
    readInner P o (compressedLayer P c S) = readSigned P o S := by
  unfold readInner
  cases hc : c.compression with
  | none =>
    obtain ⟨h, b, r, hd, ht⟩ := deframe_signedStream_head P c src S wf hS
    have hne : h.tag ≠ Gen.e2eTagCompressed := by rcases ht with ht | ht <;> rw [ht] <;> decide
    simp only [compressedLayer, hc, hd, hne, if_false]
  | some a =>
    obtain ⟨ha, hl⟩ := hcomp a hc
    obtain ⟨h, hd, htag⟩ := deframe_compressedLayer P c S wf.k a hc hl
    simp only [hd, htag, if_true, toUInt8_toNat_of_lt a ha, LC]

/-- an unencrypted message starts with an OPS, literal or compressed data packet, so the top-level
parser hands it on as it is -/
theorem parseTop_compressedLayer (P : Prims) (c : Cfg) (src : List Bytes) (S : Bytes) (wf : SignedWF P c src)
    (hS : signedStream P c src = some S)
    (hcomp : ∀ a, c.compression = some a → a < 256 ∧ 1 + (P.compress a S).length < 4294967296) :
    parseTop (compressedLayer P c S) = some (.plain (compressedLayer P c S)) := by
  have hhead : ∃ h b r, deframe (compressedLayer P c S) = .ok (h, b, r) ∧
      (isEskTag h.tag || h.tag == Gen.e2eTagSeipd) = false := by
    cases hc : c.compression with
    | none =>
      obtain ⟨h, b, r, hd, ht⟩ := deframe_signedStream_head P c src S wf hS
      exact ⟨h, b, r, by simpa only [compressedLayer, hc] using hd, by rcases ht with ht | ht <;> rw [ht] <;> decide⟩
    | some a =>
      obtain ⟨h, hd, htag⟩ := deframe_compressedLayer P c S wf.k a hc (hcomp a hc).2
      exact ⟨h, _, _, hd, by rw [htag]; decide⟩
  obtain ⟨h, b, r, hd, ht⟩ := hhead
  unfold parseTop
  simp only [hd, ht, Bool.not_false, if_true]

end Rpgp.E2E
