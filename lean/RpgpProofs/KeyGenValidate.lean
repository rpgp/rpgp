import RpgpModel.KeyGen
/-!
# KeyGenValidate — `SecretKeyParamsBuilder::validate` and its parts as closed decisions

A stage is either a guard `if c then .error e else rest` — `guard_eq_ok` turns a chain of them into
the conjunction of the negated conditions without a case split (only `pubKeyNewCheck_panic`, which
asks about an `.error` result, splits them) — or a call
`match stage with | .error e => .error e | .ok () => rest`, taken by a case on the stage's result.
-/
namespace Rpgp.KeyGen

theorem guard_eq_ok {ε α : Type} {c : Prop} [Decidable c] {e : ε} {x : Except ε α} {a : α} :
    (if c then .error e else x) = .ok a ↔ ¬ c ∧ x = .ok a := by
  by_cases h : c <;> simp [h]

theorem validateKeytype_ok_iff (k : KeyType) (sign auth : Option Bool) (enc : EncCaps) :
    validateKeytype (some k) sign enc auth = .ok () ↔
      (sign = some true → k.canSign = true) ∧ (enc ≠ .none → k.canEncrypt = true) ∧
      (auth = some true → k.canSign = true) ∧ (∀ b, k = .rsa b → Gen.rsaMinBits ≤ b) ∧
      (∀ c, k = .ecdsa c → Gen.ecdsaValidateCurveMask.testBit c.idx = true) := by
  simp only [validateKeytype, guard_eq_ok, not_and, Decidable.not_not]
  refine and_congr_right' (and_congr_right' (and_congr_right' ?_))
  cases k <;> simp

theorem validateVersions_ok_iff (v : Option Nat) (subs : List SubParams) :
    validateVersions v subs = .ok () ↔ ∀ s ∈ subs, (s.version = 6 ↔ v = some 6) := by
  induction subs with
  | nil => simp [validateVersions]
  | cons s r ih =>
    simp only [validateVersions, List.forall_mem_cons, ← ih]
    split <;> rw [guard_eq_ok] <;> simp [*]

theorem validateSubs_ok_iff (subs : List SubParams) :
    validateSubs subs = .ok () ↔
      ∀ s ∈ subs, validateKeytype (some s.keyType) (some s.canSign) s.canEncrypt (some s.canAuth) = .ok () := by
  induction subs with
  | nil => simp [validateSubs]
  | cons s r ih =>
    simp only [validateSubs, List.forall_mem_cons, ← ih]
    cases validateKeytype (some s.keyType) (some s.canSign) s.canEncrypt (some s.canAuth) <;> simp

theorem unconstructible_eq_false_iff (v : Nat) : unconstructible v = false ↔ v = 2 ∨ v = 3 ∨ v = 4 ∨ v = 6 := by
  simp only [unconstructible, Bool.not_eq_false', Bool.or_eq_true, beq_iff_eq, or_assoc]

theorem validate_ok_iff (b : Builder) :
    validate b = .ok () ↔
      unconstructible b.effVersion = false ∧ (∀ s ∈ b.subkeys, unconstructible s.version = false) ∧
      validateVersions b.version b.subkeys = .ok () ∧
      validateKeytype b.keyType b.canSign (b.canEncrypt.getD .none) b.canAuth = .ok () ∧
      (∀ s ∈ b.subkeys, validateKeytype (some s.keyType) (some s.canSign) s.canEncrypt (some s.canAuth) = .ok ()) ∧
      (b.effVersion = 4 → b.primaryUid ≠ none) := by
  simp only [validate, guard_eq_ok, ← validateSubs_ok_iff, Bool.not_eq_true, List.any_eq_false]
  refine and_congr_right' (and_congr_right' ?_)
  cases validateVersions b.version b.subkeys with
  | error e => exact ⟨nofun, fun h => nomatch h.1⟩
  | ok u =>
  cases validateKeytype b.keyType b.canSign (b.canEncrypt.getD .none) b.canAuth with
  | error e => exact ⟨nofun, fun h => nomatch h.2.1⟩
  | ok u =>
  cases validateSubs b.subkeys with
  | error e => exact ⟨nofun, fun h => nomatch h.2.2.1⟩
  | ok u => simp

theorem pubKeyNewCheck_panic {v : Nat} {k : KeyType} (h : pubKeyNewCheck v k = .error .panicKeyVersion) :
    ¬ (v = 2 ∨ v = 3 ∨ v = 4 ∨ v = 6) := by
  intro hv
  simp only [pubKeyNewCheck, hv, not_true_eq_false, ↓reduceIte] at h
  split at h
  · cases h
  · split at h <;> cases h

end Rpgp.KeyGen
