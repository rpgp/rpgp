import RpgpModel.SecretKey
import RpgpProofs.Bytes
/-!
# SecretKey — lemmas for C08

Every model function is characterised once and used through that characterisation: the usage octet
table, the wire form (`parse_ser_encrypted`), `unlock` by one `iff` per `S2kParams` variant, `protect`
inverted per variant, `lock` as its admission checks followed by `protect` (`lock_eq`).  `Laws`
(functional laws of the primitives) and the idealised security predicates are *hypotheses* of
theorems — nothing here is an axiom; the toy primitives (`toyPrims`) and the ideal ones
(`idealPrims`) show that they can be met, and serve for the concrete witnesses.
-/
namespace Rpgp.SK
open Rpgp

/-! ## usage octet ↔ variant -/

theorem usageOfOctet_eq (o : Nat) : usageOfOctet o =
    if o = 0 then .unprotected else if o ≤ 252 then .legacyCfb else if o = 253 then .aead
    else if o = 254 then .cfb else .malleableCfb := by
  -- `rw`, not `simp only`: the constants also sit inside the `Decidable` instances of the `if`s
  rw [usageOfOctet, Gen.rdUsageUnprotected, Gen.rdUsageLegacyMin, Gen.rdUsageLegacyMax,
    Gen.rdUsageAead, Gen.rdUsageCfb]
  by_cases h0 : o = 0
  · rw [if_pos h0, if_pos h0]
  · rw [if_neg h0, if_neg h0]
    by_cases h1 : o ≤ 252
    · rw [if_pos h1, if_pos ⟨by omega, h1⟩]
    · rw [if_neg h1, if_neg fun h => h1 h.2]

theorem usageOfOctet_legacy (o : Nat) (h1 : 1 ≤ o) (h2 : o ≤ 252) : usageOfOctet o = .legacyCfb := by
  rw [usageOfOctet_eq, if_neg (by omega), if_pos h2]

theorem usageOfOctet_wr : usageOfOctet Gen.wrUsageAead.toUInt8.toNat = .aead ∧
    usageOfOctet Gen.wrUsageCfb.toUInt8.toNat = .cfb ∧
    usageOfOctet Gen.wrUsageMalleable.toUInt8.toNat = .malleableCfb := by decide

theorem armBuilds_eq (v : Variant) : armBuilds v = v := by cases v <;> rfl

theorem readVariant_eq (o : Nat) : readVariant o = usageOfOctet o := armBuilds_eq _

theorem writeOctet_usageOfOctet (o : Nat) (h : o < 256) : writeOctet (usageOfOctet o) o = o := by
  have : o = 0 ∨ (1 ≤ o ∧ o ≤ 252) ∨ o = 253 ∨ o = 254 ∨ o = 255 := by omega
  rcases this with rfl | ⟨h1, h2⟩ | rfl | rfl | rfl
  · rfl
  · rw [usageOfOctet_legacy o h1 h2]; rfl
  all_goals rfl

theorem v6UsageAllowed_iff (id : Nat) : v6UsageAllowed id = true ↔ id = 0 ∨ id = 253 ∨ id = 254 := by
  simp [v6UsageAllowed, Gen.v6UsageAllowedA, Gen.v6UsageAllowedB, Gen.v6UsageAllowedC, or_assoc]

theorem usageAdmitted_eq (ver o : Nat) (h : o < 256) :
    usageAdmitted ver o = if ver = Gen.keyVersionV6 then v6UsageAllowed o else true := by
  rw [usageAdmitted, readVariant_eq, writeOctet_usageOfOctet o h]

/-! ## S2K specifier codec -/

theorem takeN_append (n : Nat) (a b : Bytes) (h : a.length = n) : takeN n (a ++ b) = some (a, b) := by
  subst h; simp [takeN]

theorem takeN_some {n : Nat} {bs a b : Bytes} (h : takeN n bs = some (a, b)) : bs = a ++ b ∧ a.length = n := by
  obtain ⟨hn, h⟩ := Option.ite_none_right_eq_some.mp h
  cases h
  exact ⟨(List.take_append_drop n bs).symm, List.length_take_of_le hn⟩

/-- the S2K kinds whose length is known (everything but the opaque reserved / private / unknown) -/
def S2k.Known : S2k → Prop
  | .simple _ | .salted _ _ | .iterated _ _ _ | .argon2 _ _ _ _ => True
  | _ => False

theorem s2k_parse_ser (s : S2k) (hk : s.Known) (hw : s.WF) (rest : Bytes) :
    S2k.parse (s.ser ++ rest) = some (s, rest) := by
  cases s with
  | simple h => rfl
  | salted h salt =>
    simp [S2k.ser, S2k.id, S2k.parse, Gen.s2kIdSalted, Gen.s2kRdSimple, Gen.s2kRdSalted,
      takeN_append Gen.s2kRdSaltedSalt salt rest hw]
  | iterated h salt c =>
    simp [S2k.ser, S2k.id, S2k.parse, Gen.s2kIdIterated, Gen.s2kRdSimple, Gen.s2kRdSalted, Gen.s2kRdReserved,
      Gen.s2kRdIterated, takeN_append Gen.s2kRdIteratedSalt salt (c :: rest) hw]
  | argon2 salt t p m =>
    simp [S2k.ser, S2k.id, S2k.parse, Gen.s2kIdArgon2, Gen.s2kRdSimple, Gen.s2kRdSalted, Gen.s2kRdReserved,
      Gen.s2kRdIterated, Gen.s2kRdArgon2, takeN_append Gen.s2kRdArgon2Salt salt (t :: p :: m :: rest) hw]
  | reserved u | priv t u | other t u => exact hk.elim

theorem known_len (s : S2k) (hk : s.Known) : ∃ n, s.len = some n ∧ n < 256 := by
  cases s with
  | simple | salted | iterated | argon2 => exact ⟨_, rfl, by decide⟩
  | reserved | priv | other => exact hk.elim

/-! ## wire form of a locked key's secret part -/

/-- what `parse_secret_fields` makes of parameters it reads back (the arm for usage 255
constructs the variant extracted from the source) -/
def Params.asParsed : Params → Params
  | .malleableCfb sym s2k iv =>
    if armBuilds .malleableCfb = .malleableCfb then .malleableCfb sym s2k iv else .cfb sym s2k iv
  | p => p

/-- parameters in the shape the wire format can carry for key version `ver` -/
def Params.WireWF (ver : Byte) : Params → Prop
  | .unprotected => False
  | .legacyCfb sym iv =>
    isV6 ver = false ∧ 1 ≤ sym.toNat ∧ sym.toNat ≤ 252 ∧ iv.length = Gen.c08SymBlockSize sym.toNat
  | .aead _ mode s2k nonce => s2k.Known ∧ s2k.WF ∧ nonce.length = Gen.c08AeadNonceSize mode.toNat
  | .cfb sym s2k iv => s2k.Known ∧ s2k.WF ∧ iv.length = Gen.c08SymBlockSize sym.toNat
  | .malleableCfb sym s2k iv => s2k.Known ∧ s2k.WF ∧ iv.length = Gen.c08SymBlockSize sym.toNat

theorem asParsed_eq (p : Params) : p.asParsed = p := by
  cases p <;> simp only [Params.asParsed, armBuilds_eq, if_true]

section
variable {Mat : Type} (A : KeyAlg Mat) (ver : Byte)

theorem parseSecret_of_fields {bs : Bytes} {s : Secret Mat} (h : parseSecretFields A ver bs = some s)
    (ha : isV6 ver = true → v6UsageAllowed s.usageId = true) : parseSecret A ver bs = some s := by
  simp only [parseSecret, h]
  cases hv : isV6 ver
  · rfl
  · simp only [ha hv]; rfl

theorem serEncrypted_some {p : Params} {data bytes : Bytes} (hs : serEncrypted ver p data = some bytes) :
    ∃ f l, p.fields ver = some f ∧ (f ≠ [] → l ≠ 0) ∧
      bytes = p.usageOctet.toUInt8 :: ((if isV6 ver then [l] else []) ++ (f ++ data)) := by
  unfold serEncrypted at hs
  split at hs; · cases hs
  rename_i f hf
  cases hv : isV6 ver <;> simp only [hv, if_true] at hs
  · cases hs; exact ⟨f, 1, hf, fun _ => by decide, rfl⟩
  · obtain ⟨hle, hs⟩ := Option.ite_none_right_eq_some.mp hs
    cases hs
    exact ⟨f, _, hf, fun hne => toUInt8_ne_zero _ (List.length_pos_iff.mpr hne) hle, rfl⟩

variable {o l sym mode : Byte} {s2k : S2k} {iv nonce data f : Bytes}

theorem readSymS2kIv_nolen (hk : s2k.Known) (hwf : s2k.WF) (hiv : iv.length = Gen.c08SymBlockSize sym.toNat) :
    readSymS2kIv false (sym :: (s2k.ser ++ (iv ++ data))) = some (sym, s2k, iv, data) := by
  simp [readSymS2kIv, s2k_parse_ser s2k hk hwf, takeN_append _ iv data hiv]

theorem readSymS2kIv_len (hk : s2k.Known) (hwf : s2k.WF) (hiv : iv.length = Gen.c08SymBlockSize sym.toNat)
    {n : Nat} (hlen : s2k.len = some n) {lb : Byte} (hlb : lb.toNat = n) :
    readSymS2kIv true (sym :: lb :: (s2k.ser ++ (iv ++ data))) = some (sym, s2k, iv, data) := by
  simp [readSymS2kIv, s2k_parse_ser s2k hk hwf, takeN_append _ iv data hiv, hlen, hlb]

/-! `parseSecretFields` on what `serEncrypted` wrote, variant by variant.  The usage octet `o` and the
v6 count octet `l` stay variables: the parser wants `usageOfOctet o` and `l ≠ 0`, nothing else. -/

theorem fields_legacy (hw : (Params.legacyCfb sym iv).WireWF ver)
    (hf : (Params.legacyCfb sym iv).fields ver = some f) :
    parseSecretFields A ver (sym :: ((if isV6 ver then [l] else []) ++ (f ++ data))) =
      some (.encrypted (.legacyCfb sym iv) data) := by
  obtain ⟨hv, h1, h2, hiv⟩ := hw
  cases hf
  simp [parseSecretFields, hv, usageOfOctet_legacy _ h1 h2, takeN_append _ iv data hiv]

theorem fields_aead (ho : usageOfOctet o.toNat = .aead) (hw : (Params.aead sym mode s2k nonce).WireWF ver)
    (hf : (Params.aead sym mode s2k nonce).fields ver = some f) (hl : f ≠ [] → l ≠ 0) :
    parseSecretFields A ver (o :: ((if isV6 ver then [l] else []) ++ (f ++ data))) =
      some (.encrypted (.aead sym mode s2k nonce) data) := by
  obtain ⟨hk, hwf, hn⟩ := hw
  obtain ⟨n, hlen, hn256⟩ := known_len s2k hk
  cases hv : isV6 ver <;>
    simp only [Params.fields, hv, hlen, if_true, Bool.false_eq_true, if_false, Option.some.injEq] at hf <;>
    subst hf
  · simp [parseSecretFields, hv, ho, s2k_parse_ser s2k hk hwf, takeN_append _ nonce data hn]
  · simp [parseSecretFields, hv, ho, hl (List.cons_ne_nil _ _), s2k_parse_ser s2k hk hwf,
      takeN_append _ nonce data hn, hlen, toUInt8_toNat_of_lt n hn256]

theorem fields_cfb (ho : usageOfOctet o.toNat = .cfb) (hw : (Params.cfb sym s2k iv).WireWF ver)
    (hf : (Params.cfb sym s2k iv).fields ver = some f) (hl : f ≠ [] → l ≠ 0) :
    parseSecretFields A ver (o :: ((if isV6 ver then [l] else []) ++ (f ++ data))) =
      some (.encrypted (.cfb sym s2k iv) data) := by
  obtain ⟨hk, hwf, hiv⟩ := hw
  obtain ⟨n, hlen, hn⟩ := known_len s2k hk
  cases hv : isV6 ver <;>
    simp only [Params.fields, hv, hlen, if_true, Bool.false_eq_true, if_false, Option.some.injEq] at hf <;>
    subst hf
  · simp [parseSecretFields, hv, ho, readSymS2kIv_nolen hk hwf hiv]
  · simp [parseSecretFields, hv, ho, hl (List.cons_ne_nil _ _),
      readSymS2kIv_len hk hwf hiv hlen (toUInt8_toNat_of_lt n hn)]

theorem fields_malleable (ho : usageOfOctet o.toNat = .malleableCfb)
    (hw : (Params.malleableCfb sym s2k iv).WireWF ver)
    (hf : (Params.malleableCfb sym s2k iv).fields ver = some f) (hl : f ≠ [] → l ≠ 0) :
    parseSecretFields A ver (o :: ((if isV6 ver then [l] else []) ++ (f ++ data))) =
      some (.encrypted (.malleableCfb sym s2k iv) data) := by
  obtain ⟨hk, hwf, hiv⟩ := hw
  cases hf
  cases hv : isV6 ver <;>
    simp [parseSecretFields, hv, ho, armBuilds_eq, hl (List.cons_ne_nil _ _), readSymS2kIv_nolen hk hwf hiv]

theorem parse_ser_encrypted (p : Params) (data bytes : Bytes) (hw : p.WireWF ver)
    (hadm : isV6 ver = true → v6UsageAllowed p.usageOctet = true)
    (hs : serEncrypted ver p data = some bytes) : parseSecret A ver bytes = some (.encrypted p data) := by
  obtain ⟨f, l, hf, hl, rfl⟩ := serEncrypted_some ver hs
  refine parseSecret_of_fields A ver ?_ hadm
  cases p with
  | unprotected => exact hw.elim
  | legacyCfb sym iv =>
    rw [show (Params.legacyCfb sym iv).usageOctet.toUInt8 = sym from toNat_toUInt8 sym]
    exact fields_legacy A ver hw hf
  | aead => exact fields_aead A ver usageOfOctet_wr.1 hw hf hl
  | cfb => exact fields_cfb A ver usageOfOctet_wr.2.1 hw hf hl
  | malleableCfb => exact fields_malleable A ver usageOfOctet_wr.2.2 hw hf hl

/-! ## the 16-bit checksum of the plain material -/

theorem sum16_lt (bs : Bytes) : sum16 bs < 65536 := Nat.mod_lt _ (by decide)

theorem two_le_length_append_be16 (x : Bytes) (n : Nat) : 2 ≤ (x ++ be16 n).length := by
  rw [List.length_append, be16_length]; exact Nat.le_add_left _ _

/-- the repair of D8e is present in the tree the model was generated from -/
theorem fixD8e_on : Gen.fixD8eChecksumOverStoredOctets = 1 := rfl

theorem parseCk_eq_stored (bs : Bytes) : parseCk A ver bs = parseCkStored A ver bs := if_pos fixD8e_on

theorem parseCkStored_iff (hv : isV3V4 ver = true) (pt : Bytes) (m : Mat) :
    parseCkStored A ver pt = some m ↔
      ∃ mat a b, pt = mat ++ [a, b] ∧ A.parse mat = some (m, []) ∧ a.toNat * 256 + b.toNat = sum16 mat := by
  have h2 : Gen.plainChecksumLen = 2 := rfl
  simp only [parseCkStored, hv, if_true, h2]
  constructor
  · intro h
    obtain ⟨-, h⟩ := Option.ite_none_left_eq_some.mp h
    split at h
    · rename_i m0 a b hparse hdrop
      obtain ⟨hsum, h⟩ := Option.ite_none_right_eq_some.mp h
      cases h
      exact ⟨_, a, b, by rw [← hdrop, List.take_append_drop], hparse, hsum⟩
    · cases h
  · rintro ⟨mat, a, b, rfl, hp, hs⟩
    have hl : ¬ (mat ++ [a, b]).length < 2 := by simp
    have ht : (mat ++ [a, b]).length - 2 = mat.length := by simp
    simp only [hl, ht, List.take_left', List.drop_left', hp, hs, if_false, if_true]

theorem parseCkStored_other (hv : isV3V4 ver = false) (bs : Bytes) (m : Mat) (rest : Bytes)
    (h : A.parse bs = some (m, rest)) : parseCkStored A ver bs = some m := by
  simp only [parseCkStored, hv, h, Bool.false_eq_true, if_false]

/-- any stored encoding `mat` of the material that the parser reads completely, followed by the
16-bit sum of *those octets*, is accepted (the encoding need not be the one the library writes) -/
theorem parseCk_any_encoding (hv : isV3V4 ver = true) (mat : Bytes) (m : Mat)
    (hp : A.parse mat = some (m, [])) : parseCk A ver (mat ++ be16 (sum16 mat)) = some m := by
  rw [parseCk_eq_stored, be16_eq]
  exact (parseCkStored_iff A ver hv _ m).mpr
    ⟨mat, _, _, rfl, hp, by rw [← beNat_two, ← be16_eq, beNat_be16 _ (sum16_lt mat)]⟩

theorem parseCk_ser (hA : ∀ m rest, A.parse (A.ser m ++ rest) = some (m, rest)) (m : Mat) :
    parseCk A ver (A.ser m ++ be16 (sum16 (A.ser m))) = some m := by
  cases hv : isV3V4 ver
  · exact (parseCk_eq_stored A ver _).trans (parseCkStored_other A ver hv _ m _ (hA m _))
  · exact parseCk_any_encoding A ver hv _ m (by simpa using hA m [])

theorem parseCk_plain (hA : ∀ m rest, A.parse (A.ser m ++ rest) = some (m, rest)) (m : Mat) :
    parseCk A ver (serPlain A ver m) = some m := by
  unfold serPlain
  cases hv : isV3V4 ver
  · exact (parseCk_eq_stored A ver _).trans (parseCkStored_other A ver hv _ m _ (hA m _))
  · exact parseCk_ser A ver hA m

theorem parseNoCk_ser (hA : ∀ m, A.parse (A.ser m) = some (m, [])) (m : Mat) :
    parseNoCk A (A.ser m) = some m := by
  simp only [parseNoCk, hA m]

end

/-! ## laws of the primitives (hypotheses, never axioms) -/

structure Laws (P : Prims) : Prop where
  /-- CFB decryption inverts CFB encryption (same cipher, key, IV) -/
  cfb_dec_enc : ∀ sym k iv pt ct, P.cfbEnc sym k iv pt = some ct → P.cfbDec sym k iv ct = some pt
  /-- CFB is length preserving -/
  cfb_enc_len : ∀ sym k iv pt ct, P.cfbEnc sym k iv pt = some ct → ct.length = pt.length
  /-- SHA-1 digests have the length `unlock` splits off -/
  sha1_len : ∀ x h, P.sha1 x = some h → h.length = Gen.unlockSha1Len
  /-- AEAD open inverts seal (same cipher, mode, key, nonce, associated data) -/
  open_seal : ∀ sym mode k n ad pt ct, P.aseal sym mode k n ad pt = some ct → P.aopen sym mode k n ad ct = some pt
  /-- a mode that seals has a tag size, and the ciphertext carries the tag -/
  seal_tag : ∀ sym mode k n ad pt ct, P.aseal sym mode k n ad pt = some ct →
    ∃ ts, Gen.c08AeadTagSize mode.toNat = some ts ∧ ts ≤ ct.length

/-- the S2K kinds `unlock` accepts under AEAD (`Argon2`, `IteratedAndSalted`) -/
def aeadS2kOk : Params → Bool
  | .aead _ _ (.argon2 _ _ _ _) _ => true
  | .aead _ _ (.iterated _ _ _) _ => true
  | .aead _ _ _ _ => false
  | _ => true

/-- `unlock` does not refuse the parameters before touching the data -/
def unlockAccepts (ver : Byte) (p : Params) : Bool := unlockWilling ver p && aeadS2kOk p

/-- parameters `unlock` opens for a version 6 key: AEAD with Argon2 / iterated S2K, CFB+SHA-1 with
iterated / salted S2K, never over MD5 / SHA-1 / RIPEMD-160 -/
def v6Unlockable : Params → Bool
  | .aead _ _ (.argon2 _ _ _ _) _ => true
  | .aead _ _ (.iterated h _ _) _ => !weakHash h
  | .cfb _ (.iterated h _ _) _ => !weakHash h
  | .cfb _ (.salted h _) _ => !weakHash h
  | _ => false

/-- parameters `unlock` opens for the other key versions: everything but Argon2 outside AEAD and
AEAD with a simple / salted / opaque S2K -/
def nonV6Unlockable : Params → Bool
  | .unprotected => true
  | .legacyCfb _ _ => true
  | .aead _ _ (.argon2 _ _ _ _) _ => true
  | .aead _ _ (.iterated _ _ _) _ => true
  | .aead _ _ _ _ => false
  | .cfb _ s2k _ => !s2k.isArgon2
  | .malleableCfb _ s2k _ => !s2k.isArgon2

theorem aeadS2kOk_aead (sym mode : Byte) (s2k : S2k) (nonce : Bytes) :
    aeadS2kOk (.aead sym mode s2k nonce) = s2k.aeadOk := by cases s2k <;> rfl

theorem v6Unlockable_cfb (sym : Byte) (s2k : S2k) (iv : Bytes) :
    v6Unlockable (.cfb sym s2k iv) = (s2k.cfbV6Ok && !s2k.weak) := by cases s2k <;> rfl

theorem v6Unlockable_aead (sym mode : Byte) (s2k : S2k) (nonce : Bytes) :
    v6Unlockable (.aead sym mode s2k nonce) = (s2k.aeadOk && !s2k.weak) := by cases s2k <;> rfl

theorem nonV6Unlockable_aead (sym mode : Byte) (s2k : S2k) (nonce : Bytes) :
    nonV6Unlockable (.aead sym mode s2k nonce) = s2k.aeadOk := by cases s2k <;> rfl

theorem unlockAccepts_table (ver : Byte) (p : Params) :
    unlockAccepts ver p = if isV6 ver then v6Unlockable p else nonV6Unlockable p := by
  unfold unlockAccepts unlockWilling
  -- `aeadS2kOk` first: it evaluates on every constructor, the other factor may be stuck on `weakHash`
  rw [Bool.and_comm]
  cases p with
  | unprotected | legacyCfb => cases isV6 ver <;> rfl
  | aead _ _ s2k _ | cfb _ s2k _ | malleableCfb _ s2k _ => cases s2k <;> cases isV6 ver <;> rfl

theorem unlockAccepts_willing {ver : Byte} {p : Params} (hw : unlockAccepts ver p = true) :
    unlockWilling ver p = true := (Bool.and_eq_true_iff.mp hw).1

theorem unlockAccepts_v6_usage {ver : Byte} {p : Params} (hv : isV6 ver = true)
    (hw : unlockAccepts ver p = true) : v6UsageAllowed p.usageOctet = true := by
  simp only [unlockAccepts_table, hv, if_true] at hw
  cases p with
  | unprotected | legacyCfb | malleableCfb => cases hw
  | aead | cfb => rfl

/-! ## `unlock`, variant by variant

One `iff` per `S2kParams` variant: `unlock` returns material exactly when it is willing, every step
(key derivation, decryption, length check, digest or tag) succeeds and the plaintext parses.
`→` walks down the branches of `unlock`, `←` rewrites with the witnesses. -/

section
variable {Mat : Type} (P : Prims) (A : KeyAlg Mat) (ver tag : Byte) (pub : Bytes)

theorem unlock_unprotected (data pw : Bytes) : unlock P A ver tag pub .unprotected data pw = none :=
  ite_self _

theorem unlock_legacy_iff (sym : Byte) (iv data pw : Bytes) (m : Mat) :
    unlock P A ver tag pub (.legacyCfb sym iv) data pw = some m ↔
      unlockWilling ver (.legacyCfb sym iv) = true ∧
      ∃ pt, P.cfbDec sym (P.md5 pw) iv data = some pt ∧ Gen.unlockLegacyMin ≤ pt.length ∧
        parseCk A ver pt = some m := by
  simp only [unlock]
  constructor
  · intro h
    obtain ⟨hw, h⟩ := Option.ite_none_left_eq_some.mp h
    split at h; · cases h
    rename_i pt hpt
    obtain ⟨hl, h⟩ := Option.ite_none_left_eq_some.mp h
    exact ⟨by simpa using hw, pt, hpt, Nat.le_of_not_lt hl, h⟩
  · rintro ⟨hw, pt, hpt, hl, h⟩
    simp only [hw, hpt, Nat.not_lt.mpr hl]
    simpa using h

theorem unlock_malleable_iff (sym : Byte) (s2k : S2k) (iv data pw : Bytes) (m : Mat) :
    unlock P A ver tag pub (.malleableCfb sym s2k iv) data pw = some m ↔
      unlockWilling ver (.malleableCfb sym s2k iv) = true ∧
      ∃ key pt, P.derive s2k pw (Gen.c08SymKeySize sym.toNat) = some key ∧
        P.cfbDec sym key iv data = some pt ∧ Gen.unlockMalleableMin ≤ pt.length ∧ parseCk A ver pt = some m := by
  simp only [unlock]
  constructor
  · intro h
    obtain ⟨hw, h⟩ := Option.ite_none_left_eq_some.mp h
    split at h; · cases h
    rename_i key hkey
    split at h; · cases h
    rename_i pt hpt
    obtain ⟨hl, h⟩ := Option.ite_none_left_eq_some.mp h
    exact ⟨by simpa using hw, key, pt, hkey, hpt, Nat.le_of_not_lt hl, h⟩
  · rintro ⟨hw, key, pt, hkey, hpt, hl, h⟩
    simp only [hw, hkey, hpt, Nat.not_lt.mpr hl]
    simpa using h

theorem unlock_cfb_iff (sym : Byte) (s2k : S2k) (iv data pw : Bytes) (m : Mat) :
    unlock P A ver tag pub (.cfb sym s2k iv) data pw = some m ↔
      unlockWilling ver (.cfb sym s2k iv) = true ∧
      ∃ key pt, P.derive s2k pw (Gen.c08SymKeySize sym.toNat) = some key ∧ P.cfbDec sym key iv data = some pt ∧
        Gen.unlockSha1Len ≤ pt.length ∧
        P.sha1 (pt.take (data.length - Gen.unlockSha1Split)) = some (pt.drop (data.length - Gen.unlockSha1Split)) ∧
        parseNoCk A (pt.take (data.length - Gen.unlockSha1Split)) = some m := by
  simp only [unlock]
  constructor
  · intro h
    obtain ⟨hw, h⟩ := Option.ite_none_left_eq_some.mp h
    split at h; · cases h
    rename_i key hkey
    split at h; · cases h
    rename_i pt hpt
    obtain ⟨hl, h⟩ := Option.ite_none_left_eq_some.mp h
    split at h; · cases h
    rename_i d hd
    obtain ⟨he, h⟩ := Option.ite_none_right_eq_some.mp h
    exact ⟨by simpa using hw, key, pt, hkey, hpt, Nat.le_of_not_lt hl, he ▸ hd, h⟩
  · rintro ⟨hw, key, pt, hkey, hpt, hl, hd, h⟩
    simp only [hw, hkey, hpt, hd, Nat.not_lt.mpr hl]
    simpa using h

/-- the match on the S2K kind in the AEAD arm of `unlock`, whatever the arm does (`b`) -/
theorem aeadKind_iff {α : Type} (s2k : S2k) (b : Option α) (m : α) :
    (match s2k with
      | .argon2 _ _ _ _ | .iterated _ _ _ => b
      | _ => none) = some m ↔ s2k.aeadOk = true ∧ b = some m := by
  cases s2k <;> simp [S2k.aeadOk]

theorem unlock_aead_iff (sym mode : Byte) (s2k : S2k) (nonce data pw : Bytes) (m : Mat) :
    unlock P A ver tag pub (.aead sym mode s2k nonce) data pw = some m ↔
      unlockWilling ver (.aead sym mode s2k nonce) = true ∧ s2k.aeadOk = true ∧
      ∃ ts dk pt, Gen.c08AeadTagSize mode.toNat = some ts ∧ ts ≤ data.length ∧
        P.derive s2k pw (Gen.c08SymKeySize sym.toNat) = some dk ∧
        P.aopen sym mode (P.hkdf dk (aeadInfo tag ver sym mode)) nonce (aeadAd tag pub) data = some pt ∧
        parseNoCk A pt = some m := by
  simp only [unlock, s2kUsageAead, Option.ite_none_left_eq_some, Bool.not_eq_true', Bool.not_eq_false]
  -- the S2K is looked at for its kind only (`aeadKind_iff` applies up to unfolding the match): from
  -- here on it is a variable
  refine and_congr_right fun _ => (aeadKind_iff s2k _ m).trans (and_congr_right fun _ => ?_)
  constructor
  · intro h
    split at h; · cases h
    rename_i ts hts
    obtain ⟨hl, h⟩ := Option.ite_none_left_eq_some.mp h
    split at h; · cases h
    rename_i dk hdk
    split at h; · cases h
    rename_i pt hpt
    exact ⟨ts, dk, pt, hts, Nat.le_of_not_lt hl, hdk, hpt, h⟩
  · rintro ⟨ts, dk, pt, hts, hl, hdk, hpt, h⟩
    simp only [hts, hdk, hpt, Nat.not_lt.mpr hl]
    simpa using h

theorem unlock_some_accepts (p : Params) (data pw : Bytes) (m : Mat)
    (h : unlock P A ver tag pub p data pw = some m) : unlockAccepts ver p = true := by
  cases p with
  | unprotected => rw [unlock_unprotected] at h; cases h
  | legacyCfb sym iv => exact (Bool.and_true _).trans ((unlock_legacy_iff ..).mp h).1
  | malleableCfb sym s2k iv => exact (Bool.and_true _).trans ((unlock_malleable_iff ..).mp h).1
  | cfb sym s2k iv => exact (Bool.and_true _).trans ((unlock_cfb_iff ..).mp h).1
  | aead sym mode s2k nonce =>
    obtain ⟨hw, hs, -⟩ := (unlock_aead_iff ..).mp h
    rw [unlockAccepts, hw, aeadS2kOk_aead, hs]; rfl

/-! ## `protect` (the RFC layout) and `lock` -/

variable {P A ver tag pub}

theorem protect_malleable_some {sym : Byte} {s2k : S2k} {iv pw : Bytes} {m : Mat} {blob : Bytes}
    (hp : protect P A ver tag pub (.malleableCfb sym s2k iv) pw m = some blob) :
    ∃ key, P.derive s2k pw (Gen.c08SymKeySize sym.toNat) = some key ∧
      P.cfbEnc sym key iv (A.ser m ++ be16 (sum16 (A.ser m))) = some blob := by
  simp only [protect] at hp
  split at hp; · cases hp
  exact ⟨_, ‹_›, hp⟩

theorem protect_cfb_some {sym : Byte} {s2k : S2k} {iv pw : Bytes} {m : Mat} {blob : Bytes}
    (hp : protect P A ver tag pub (.cfb sym s2k iv) pw m = some blob) :
    ∃ key h, P.derive s2k pw (Gen.c08SymKeySize sym.toNat) = some key ∧ P.sha1 (A.ser m) = some h ∧
      P.cfbEnc sym key iv (A.ser m ++ h) = some blob := by
  simp only [protect] at hp
  split at hp; · cases hp
  split at hp; · cases hp
  exact ⟨_, _, ‹_›, ‹_›, hp⟩

theorem protect_aead_some {sym mode : Byte} {s2k : S2k} {nonce pw : Bytes} {m : Mat} {blob : Bytes}
    (hp : protect P A ver tag pub (.aead sym mode s2k nonce) pw m = some blob) :
    ∃ dk, P.derive s2k pw (Gen.c08SymKeySize sym.toNat) = some dk ∧
      P.aseal sym mode (P.hkdf dk (aeadInfo tag ver sym mode)) nonce (aeadAd tag pub) (A.ser m) = some blob := by
  simp only [protect, s2kUsageAead] at hp
  split at hp; · cases hp
  exact ⟨_, ‹_›, hp⟩

/-- CFB + SHA-1 and AEAD need the material parser only on exactly what was written -/
theorem protect_unlock_cfb (L : Laws P) (hA : ∀ m, A.parse (A.ser m) = some (m, []))
    {sym : Byte} {s2k : S2k} {iv pw : Bytes} {m : Mat} {blob : Bytes}
    (hp : protect P A ver tag pub (.cfb sym s2k iv) pw m = some blob)
    (hw : unlockWilling ver (.cfb sym s2k iv) = true) :
    unlock P A ver tag pub (.cfb sym s2k iv) blob pw = some m := by
  obtain ⟨key, h, hkey, hh, henc⟩ := protect_cfb_some hp
  have hl := L.sha1_len _ _ hh
  have hcut : blob.length - Gen.unlockSha1Split = (A.ser m).length := by
    rw [L.cfb_enc_len _ _ _ _ _ henc, List.length_append, hl]; exact Nat.add_sub_cancel ..
  refine (unlock_cfb_iff ..).mpr ⟨hw, key, _, hkey, L.cfb_dec_enc _ _ _ _ _ henc, ?_, ?_, ?_⟩
  · rw [List.length_append, hl]; exact Nat.le_add_left _ _
  · rw [hcut, List.take_left' rfl, List.drop_left' rfl, hh]
  · rw [hcut, List.take_left' rfl]; exact parseNoCk_ser A hA m

theorem protect_unlock_aead (L : Laws P) (hA : ∀ m, A.parse (A.ser m) = some (m, []))
    {sym mode : Byte} {s2k : S2k} {nonce pw : Bytes} {m : Mat} {blob : Bytes}
    (hp : protect P A ver tag pub (.aead sym mode s2k nonce) pw m = some blob)
    (hw : unlockAccepts ver (.aead sym mode s2k nonce) = true) :
    unlock P A ver tag pub (.aead sym mode s2k nonce) blob pw = some m := by
  obtain ⟨dk, hdk, hseal⟩ := protect_aead_some hp
  obtain ⟨ts, hts, htl⟩ := L.seal_tag _ _ _ _ _ _ _ hseal
  rw [unlockAccepts, aeadS2kOk_aead, Bool.and_eq_true] at hw
  exact (unlock_aead_iff ..).mpr ⟨hw.1, hw.2, ts, dk, _, hts, htl, hdk, L.open_seal _ _ _ _ _ _ _ hseal,
    parseNoCk_ser A hA m⟩

theorem protect_unlock (L : Laws P) (hA : ∀ m rest, A.parse (A.ser m ++ rest) = some (m, rest))
    {p : Params} {pw : Bytes} {m : Mat} {blob : Bytes}
    (hp : protect P A ver tag pub p pw m = some blob) (hw : unlockAccepts ver p = true) :
    unlock P A ver tag pub p blob pw = some m := by
  have hA0 : ∀ m, A.parse (A.ser m) = some (m, []) := fun m => by simpa using hA m []
  cases p with
  | unprotected => cases hp
  | legacyCfb sym iv =>
    exact (unlock_legacy_iff ..).mpr ⟨unlockAccepts_willing hw, _, L.cfb_dec_enc _ _ _ _ _ hp,
      two_le_length_append_be16 _ _, parseCk_ser A ver hA m⟩
  | malleableCfb sym s2k iv =>
    obtain ⟨key, hkey, henc⟩ := protect_malleable_some hp
    exact (unlock_malleable_iff ..).mpr ⟨unlockAccepts_willing hw, key, _, hkey,
      L.cfb_dec_enc _ _ _ _ _ henc, two_le_length_append_be16 _ _, parseCk_ser A ver hA m⟩
  | cfb sym s2k iv => exact protect_unlock_cfb L hA0 hp (unlockAccepts_willing hw)
  | aead sym mode s2k nonce => exact protect_unlock_aead L hA0 hp hw

/-- what `PlainSecretParams::encrypt` checks before it derives a key -/
def lockAdmits (ver : Byte) : Params → Bool
  | .cfb _ s2k _ => !s2k.weak && !s2k.isArgon2 && !(isV6 ver && !s2k.cfbV6Ok) && isV4V6 ver
  | .aead _ _ s2k _ => !s2k.weak && s2k.aeadOk && isV4V6 ver
  | _ => false

theorem lock_eq (p : Params) (pw : Bytes) (m : Mat) :
    lock P A ver tag pub p pw m = if lockAdmits ver p then protect P A ver tag pub p pw m else none := by
  cases p with
  | unprotected | legacyCfb | malleableCfb => rfl
  | cfb sym s2k iv =>
    rw [lockAdmits]; simp only [lock, protect]
    -- a failing check gives `none` on both sides
    cases s2k.weak; case true => rfl
    cases s2k.isArgon2; case true => rfl
    cases (isV6 ver && !s2k.cfbV6Ok); case true => rfl
    cases isV4V6 ver <;> cases P.derive s2k pw (Gen.c08SymKeySize sym.toNat) <;> rfl
  | aead sym mode s2k nonce =>
    rw [lockAdmits]; simp only [lock, protect]
    cases s2k.weak; case true => rfl
    cases s2k.aeadOk; case false => rfl
    cases isV4V6 ver <;> cases P.derive s2k pw (Gen.c08SymKeySize sym.toNat) <;> rfl

theorem lock_some {p : Params} {pw : Bytes} {m : Mat} {blob : Bytes}
    (hl : lock P A ver tag pub p pw m = some blob) :
    lockAdmits ver p = true ∧ protect P A ver tag pub p pw m = some blob := by
  rw [lock_eq] at hl
  exact Option.ite_none_right_eq_some.mp hl

theorem lockAdmits_accepts {ver : Byte} {p : Params} (h : lockAdmits ver p = true) :
    unlockAccepts ver p = true := by
  rw [unlockAccepts_table]
  cases p with
  | unprotected | legacyCfb | malleableCfb => cases h
  | cfb sym s2k iv =>
    rw [v6Unlockable_cfb, nonV6Unlockable]
    simp only [lockAdmits, Bool.and_eq_true, Bool.not_eq_true'] at h
    cases hv : isV6 ver <;> simp_all
  | aead sym mode s2k nonce =>
    rw [v6Unlockable_aead, nonV6Unlockable_aead]
    simp only [lockAdmits, Bool.and_eq_true, Bool.not_eq_true'] at h
    cases hv : isV6 ver <;> simp_all

/-- **lock → unlock**: the material parser is used only on exactly what was written -/
theorem lock_unlock (L : Laws P) (hA : ∀ m, A.parse (A.ser m) = some (m, []))
    {p : Params} {pw : Bytes} {m : Mat} {blob : Bytes} (hl : lock P A ver tag pub p pw m = some blob) :
    unlock P A ver tag pub p blob pw = some m := by
  obtain ⟨ha, hp⟩ := lock_some hl
  have hw := lockAdmits_accepts ha
  cases p with
  | unprotected | legacyCfb | malleableCfb => cases ha
  | cfb sym s2k iv => exact protect_unlock_cfb L hA hp (unlockAccepts_willing hw)
  | aead sym mode s2k nonce => exact protect_unlock_aead L hA hp hw

end

/-! ## what the AEAD associated data and HKDF info bind -/

theorem typeId_toNat (tag : Byte) (h : tag.toNat < 64) : (typeId tag).toNat = tag.toNat + 192 := by
  -- 192 = 3 · 2⁶ shares no bit with a number below 2⁶
  rw [typeId, UInt8.toNat_or, Nat.or_comm, Nat.add_comm]
  exact (Nat.two_pow_add_eq_or_of_lt (i := 6) h 3).symm

theorem typeId_inj (tag tag' : Byte) (h : tag.toNat < 64) (h' : tag'.toNat < 64)
    (he : typeId tag = typeId tag') : tag = tag' := by
  have := congrArg UInt8.toNat he
  rw [typeId_toNat tag h, typeId_toNat tag' h'] at this
  exact UInt8.toNat_inj.mp (Nat.add_right_cancel this)

theorem aeadAd_inj (tag tag' : Byte) (pub pub' : Bytes) (h : tag.toNat < 64) (h' : tag'.toNat < 64)
    (he : aeadAd tag pub = aeadAd tag' pub') : tag = tag' ∧ pub = pub' := by
  simp only [aeadAd, List.cons.injEq] at he
  exact ⟨typeId_inj tag tag' h h' he.1, he.2⟩

theorem aeadInfo_inj (tag tag' ver ver' sym sym' mode mode' : Byte) (h : tag.toNat < 64) (h' : tag'.toNat < 64)
    (he : aeadInfo tag ver sym mode = aeadInfo tag' ver' sym' mode') :
    tag = tag' ∧ ver = ver' ∧ sym = sym' ∧ mode = mode' := by
  simp only [aeadInfo, List.cons.injEq, and_true] at he
  exact ⟨typeId_inj tag tag' h h' he.1, he.2.1, he.2.2.1, he.2.2.2⟩

/-! ## idealised security predicates (hypotheses of the negative theorems) -/

/-- ideal ciphertext integrity: whatever opens under (key, nonce, ad) is the sealing of the
returned plaintext under the same (key, nonce, ad) -/
def IntCtxt (P : Prims) : Prop :=
  ∀ sym mode k n ad ct pt, P.aopen sym mode k n ad ct = some pt → P.aseal sym mode k n ad pt = some ct

/-- ideal context binding: a ciphertext is the sealing of at most one (nonce, ad, plaintext) under a key -/
def CtxBinding (P : Prims) : Prop :=
  ∀ sym mode k n ad pt n' ad' pt' ct, P.aseal sym mode k n ad pt = some ct →
    P.aseal sym mode k n' ad' pt' = some ct → n' = n ∧ ad' = ad ∧ pt' = pt

/-- ideal key separation: a ciphertext sealed under `k` does not open under another key -/
def WrongKeyFails (P : Prims) : Prop :=
  ∀ sym mode k k' n ad pt ct n' ad', P.aseal sym mode k n ad pt = some ct → k' ≠ k →
    P.aopen sym mode k' n' ad' ct = none

/-- collision freeness of the (checked) SHA-1 -/
def CollisionFree (P : Prims) : Prop := ∀ a b h, P.sha1 a = some h → P.sha1 b = some h → a = b

/-- HKDF as an injection (collision freeness of the KDF, idealised) -/
def HkdfInj (P : Prims) : Prop := ∀ a i a' i', P.hkdf a i = P.hkdf a' i' → a = a' ∧ i = i'

/-- the S2K as an injection in the password (collision freeness of the S2K hash, idealised) -/
def DeriveInj (P : Prims) : Prop := ∀ s pw pw' n k, P.derive s pw n = some k → P.derive s pw' n = some k → pw = pw'

/-- further laws of CFB used by the digest-tamper theorem -/
structure CfbLaws (P : Prims) : Prop where
  /-- decryption is length preserving -/
  dec_len : ∀ sym k iv ct pt, P.cfbDec sym k iv ct = some pt → pt.length = ct.length
  /-- encryption inverts decryption -/
  enc_dec : ∀ sym k iv ct pt, P.cfbDec sym k iv ct = some pt → P.cfbEnc sym k iv pt = some ct
  /-- CFB is causal: the decryption of a prefix is the prefix of the decryption -/
  dec_prefix : ∀ sym k iv a b pt, P.cfbDec sym k iv (a ++ b) = some pt →
    ∃ pa, P.cfbDec sym k iv a = some pa ∧ pa = pt.take a.length

/-! ## toy primitives: the laws are satisfiable, and concrete witnesses -/

/-- toy material for `d8e_prefix_witness` (`RpgpProps/C08.lean`): one octet `x` behind a declared bit
count, which may overstate (`8`, as other implementations write it) or be exact; written back with
the exact count -/
def toyAlgBitCount : KeyAlg Byte :=
  { ser := fun x => [(Nat.log2 x.toNat + 1).toUInt8, x]
    parse := fun bs => match bs with
      | n :: x :: r => if Nat.log2 x.toNat + 1 ≤ n.toNat ∧ n.toNat ≤ 8 then some (x, r) else none
      | _ => none }

def toySha1 (x : Bytes) : Bytes := be16 (sum16 x) ++ List.replicate 18 0
def toyTag (k n ad pt : Bytes) : Bytes := be16 (sum16 (k ++ n ++ ad ++ pt)) ++ List.replicate 14 0

/-- identity "CFB", checksum "SHA-1", checksum-tag "AEAD", concatenating "HKDF" -/
def toyPrims : Prims where
  derive := fun _ pw _ => some pw
  md5 := fun pw => pw
  sha1 := fun x => some (toySha1 x)
  cfbEnc := fun _ _ _ pt => some pt
  cfbDec := fun _ _ _ ct => some ct
  hkdf := fun ikm info => ikm ++ info
  aseal := fun _ mode k n ad pt =>
    if (Gen.c08AeadTagSize mode.toNat).isSome then some (pt ++ toyTag k n ad pt) else none
  aopen := fun _ mode k n ad ct =>
    if (Gen.c08AeadTagSize mode.toNat).isSome ∧ 16 ≤ ct.length ∧
        ct.drop (ct.length - 16) = toyTag k n ad (ct.take (ct.length - 16)) then
      some (ct.take (ct.length - 16))
    else none

def toyAlg : KeyAlg (Byte × Byte) where
  ser := fun m => [m.1, m.2]
  parse := fun bs => match bs with
    | a :: b :: r => some ((a, b), r)
    | _ => none

theorem toyAlg_law (m : Byte × Byte) (rest : Bytes) : toyAlg.parse (toyAlg.ser m ++ rest) = some (m, rest) :=
  rfl

theorem toyTag_length (k n ad pt : Bytes) : (toyTag k n ad pt).length = 16 := by
  rw [toyTag, List.length_append, be16_length, List.length_replicate]

theorem aeadTagSize_le (o ts : Nat) (h : Gen.c08AeadTagSize o = some ts) : ts ≤ 16 := by
  unfold Gen.c08AeadTagSize at h
  by_cases h1 : o = Gen.aeadIdEax
  · rw [if_pos h1] at h; exact Nat.le_of_eq (Option.some.inj h).symm
  rw [if_neg h1] at h
  by_cases h2 : o = Gen.aeadIdOcb
  · rw [if_pos h2] at h; exact Nat.le_of_eq (Option.some.inj h).symm
  rw [if_neg h2] at h
  exact Nat.le_of_eq (Option.some.inj (Option.ite_none_right_eq_some.mp h).2).symm

/-- no AEAD mode has a tag longer than 16 octets, so a sealing of 16 octets or more carries it -/
theorem seal_tag_of_length {o : Nat} {ct : Bytes} (hs : (Gen.c08AeadTagSize o).isSome = true)
    (hl : 16 ≤ ct.length) : ∃ ts, Gen.c08AeadTagSize o = some ts ∧ ts ≤ ct.length := by
  obtain ⟨ts, hts⟩ := Option.isSome_iff_exists.mp hs
  exact ⟨ts, hts, Nat.le_trans (aeadTagSize_le o ts hts) hl⟩

theorem toyLaws : Laws toyPrims where
  cfb_dec_enc := fun _ _ _ _ _ h => h.symm
  cfb_enc_len := fun _ _ _ _ _ h => by cases h; rfl
  sha1_len := fun x h hh => by
    cases hh
    rw [toySha1, List.length_append, be16_length, List.length_replicate]; rfl
  open_seal := by
    intro sym mode k n ad pt ct h
    obtain ⟨hs, h⟩ := Option.ite_none_right_eq_some.mp h
    cases h
    simp [toyPrims, hs, toyTag_length k n ad pt]
  seal_tag := by
    intro sym mode k n ad pt ct h
    obtain ⟨hs, h⟩ := Option.ite_none_right_eq_some.mp h
    cases h
    exact seal_tag_of_length hs (by rw [List.length_append, toyTag_length]; exact Nat.le_add_left _ _)

def wPub : Bytes := [4, 0, 0, 0, 1, 22, 1, 2, 3]
def wPw : Bytes := [112, 119]
def wAeadSalted : Params := .aead 9 2 (.salted 8 (List.replicate 8 7)) (List.replicate 15 3)
def wCfbSimpleV6 : Params := .cfb 9 (.simple 8) (List.replicate 16 3)
def wMalleable : Params := .malleableCfb 9 (.iterated 8 (List.replicate 8 7) 96) (List.replicate 16 3)

/-- a usage-255 key laid out as the RFC prescribes -/
def w255Blob : Bytes := (protect toyPrims toyAlg 4 5 wPub wMalleable wPw (1, 2)).getD []
def w255Wire : Bytes := (serEncrypted 4 wMalleable w255Blob).getD []

/-- the 16-bit sum does not bind the material: a tampered usage-255 blob is accepted and yields
DIFFERENT key material (identity CFB: swapping the two material octets keeps the sum) -/
def w255Tampered : Bytes := [2, 1] ++ w255Blob.drop 2

/-! ## ideal primitives: the security predicates are jointly satisfiable with the laws -/

/-- self-delimiting encoding: length in unary, a zero, the bytes -/
def enc (x : Bytes) : Bytes := List.replicate x.length 1 ++ 0 :: x

theorem unary_inj (n n' : Nat) (y y' : Bytes)
    (h : List.replicate n (1 : Byte) ++ 0 :: y = List.replicate n' 1 ++ 0 :: y') : n = n' ∧ y = y' := by
  induction n generalizing n' with
  | zero =>
    cases n' with
    | zero => simpa using h
    | succ k => simp [List.replicate_succ] at h
  | succ k ih =>
    cases n' with
    | zero => simp [List.replicate_succ] at h
    | succ k' =>
      simp only [List.replicate_succ, List.cons_append, List.cons.injEq, true_and] at h
      obtain ⟨h1, h2⟩ := ih k' h
      exact ⟨congrArg _ h1, h2⟩

theorem enc_append_inj (x x' r r' : Bytes) (h : enc x ++ r = enc x' ++ r') : x = x' ∧ r = r' := by
  simp only [enc, List.append_assoc, List.cons_append] at h
  obtain ⟨hl, h2⟩ := unary_inj _ _ _ _ h
  exact List.append_inj h2 hl

def idealSeal (mode : Byte) (k n ad pt : Bytes) : Option Bytes :=
  if (Gen.c08AeadTagSize mode.toNat).isSome then
    some (enc k ++ (enc n ++ (enc ad ++ (pt ++ List.replicate 16 0))))
  else none

theorem idealSeal_inj (mode : Byte) (k n ad pt k' n' ad' pt' ct : Bytes)
    (h : idealSeal mode k n ad pt = some ct) (h' : idealSeal mode k' n' ad' pt' = some ct) :
    k' = k ∧ n' = n ∧ ad' = ad ∧ pt' = pt := by
  have h := (Option.ite_none_right_eq_some.mp h).2
  have h' := (Option.ite_none_right_eq_some.mp h').2
  rw [← h'] at h
  obtain ⟨e1, h⟩ := enc_append_inj _ _ _ _ (Option.some.inj h)
  obtain ⟨e2, h⟩ := enc_append_inj _ _ _ _ h
  obtain ⟨e3, h⟩ := enc_append_inj _ _ _ _ h
  exact ⟨e1.symm, e2.symm, e3.symm, (List.append_cancel_right h).symm⟩

open Classical in
/-- an "ideal" instance: the ciphertext spells out key, nonce and associated data; `open` accepts
exactly the sealings.  HKDF and the S2K are injective encodings, SHA-1 is defined (and the
identity) on 20-octet inputs only — total collision-free hashes into 20 octets do not exist. -/
noncomputable def idealPrims : Prims where
  derive := fun _ pw _ => some pw
  md5 := fun pw => pw
  sha1 := fun x => if x.length = 20 then some x else none
  cfbEnc := fun _ _ _ pt => some pt
  cfbDec := fun _ _ _ ct => some ct
  hkdf := fun ikm info => enc ikm ++ info
  aseal := fun _ mode k n ad pt => idealSeal mode k n ad pt
  aopen := fun _ mode k n ad ct =>
    if h : ∃ pt, idealSeal mode k n ad pt = some ct then some (Classical.choose h) else none

theorem ideal_intCtxt : IntCtxt idealPrims := by
  intro sym mode k n ad ct pt h
  simp only [idealPrims] at h ⊢
  split at h
  · rename_i hex
    injection h with h; subst h
    exact Classical.choose_spec hex
  · simp at h

theorem ideal_laws : Laws idealPrims where
  cfb_dec_enc := fun _ _ _ _ _ h => h.symm
  cfb_enc_len := fun _ _ _ _ _ h => by cases h; rfl
  sha1_len := fun x h hh => by
    obtain ⟨hl, hh⟩ := Option.ite_none_right_eq_some.mp hh
    cases hh; exact hl
  open_seal := by
    intro sym mode k n ad pt ct h
    simp only [idealPrims] at h ⊢
    have hex : ∃ pt, idealSeal mode k n ad pt = some ct := ⟨pt, h⟩
    rw [dif_pos hex, (idealSeal_inj mode k n ad pt k n ad _ ct h (Classical.choose_spec hex)).2.2.2]
  seal_tag := by
    intro sym mode k n ad pt ct h
    obtain ⟨hs, h⟩ := Option.ite_none_right_eq_some.mp h
    cases h
    exact seal_tag_of_length hs (by simp only [List.length_append, List.length_replicate]; omega)

theorem ideal_ctxBinding : CtxBinding idealPrims := by
  intro sym mode k n ad pt n' ad' pt' ct h h'
  exact (idealSeal_inj mode k n ad pt k n' ad' pt' ct h h').2

theorem ideal_wrongKeyFails : WrongKeyFails idealPrims := by
  intro sym mode k k' n ad pt ct n' ad' h hne
  simp only [idealPrims] at h ⊢
  split
  · rename_i hex
    obtain ⟨pt', hpt'⟩ := hex
    exact absurd (idealSeal_inj mode k n ad pt k' n' ad' pt' ct h hpt').1 hne
  · rfl

theorem ideal_collisionFree : CollisionFree idealPrims := by
  intro a b h ha hb
  have ha := (Option.ite_none_right_eq_some.mp ha).2
  have hb := (Option.ite_none_right_eq_some.mp hb).2
  exact (Option.some.inj ha).trans (Option.some.inj hb).symm

theorem ideal_hkdfInj : HkdfInj idealPrims := by
  intro a i a' i' h
  exact enc_append_inj a a' i i' h

theorem ideal_deriveInj : DeriveInj idealPrims := by
  intro s pw pw' n k h h'
  exact (Option.some.inj h).trans (Option.some.inj h').symm

theorem ideal_cfbLaws : CfbLaws idealPrims where
  dec_len := fun _ _ _ _ _ h => by cases h; rfl
  enc_dec := fun _ _ _ _ _ h => h.symm
  dec_prefix := fun _ _ _ a b _ h => by cases h; exact ⟨a, rfl, (List.take_left' rfl).symm⟩

end Rpgp.SK
