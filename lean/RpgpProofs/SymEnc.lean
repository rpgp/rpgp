import RpgpModel.SymEnc
import RpgpProofs.S2k
import RpgpProofs.Bytes
import RpgpProofs.ListSplit
import RpgpProofs.Seipd2
import RpgpProofs.Seipd1
/-! Proofs about `RpgpModel/SymEnc.lean` (for `RpgpProps/C12.lean` and the end-to-end container). -/
namespace Rpgp.Sym
open Rpgp
open Seipd2

theorem toUInt8_toNat_mod (n : Nat) : n.toUInt8.toNat = n % 256 := Rpgp.toUInt8_toNat_mod n

/-! ## SEIPDv2: the chunk ranges -/

theorem ranges_nil (csz off n : Nat) (h : csz = 0 ∨ n = 0) : ranges csz off n = [] := by
  rw [ranges]; simp [h]

theorem ranges_cons (csz off n : Nat) (h : ¬ (csz = 0 ∨ n = 0)) :
    ranges csz off n = (off, min csz n) :: ranges csz (off + min csz n) (n - min csz n) := by
  rw [ranges]; simp [h]

theorem ranges_length (csz : Nat) (hc : 0 < csz) (off n : Nat) :
    (ranges csz off n).length = (n + csz - 1) / csz := by
  show _ = S2k.rounds n csz
  fun_induction ranges csz off n with
  | case1 off n h => rw [h.resolve_left (Nat.ne_of_gt hc), rounds_zero csz hc]; rfl
  | case2 off n h ih =>
    rw [List.length_cons, ih, rounds_step n csz hc (Nat.pos_of_ne_zero fun e => h (Or.inr e)),
      Nat.min_comm, ← Nat.sub_eq_sub_min]

theorem ranges_getElem? (csz : Nat) (off n i : Nat) (r : Nat × Nat)
    (h : (ranges csz off n)[i]? = some r) : r = (off + i * csz, min csz (n - i * csz)) ∧ i * csz < n := by
  fun_induction ranges csz off n generalizing i with
  | case1 off n hh => cases h
  | case2 off n hh ih =>
    have hn : 0 < n := Nat.pos_of_ne_zero fun e => hh (Or.inr e)
    cases i with
    | zero =>
      obtain rfl := Option.some.inj h
      rw [Nat.zero_mul, Nat.add_zero, Nat.sub_zero]
      exact ⟨rfl, hn⟩
    | succ j =>
      obtain ⟨rfl, h2⟩ := ih j h
      rw [Nat.succ_mul]
      generalize j * csz = m at h2 ⊢
      rcases Nat.le_total csz n with hle | hle
      · rw [Nat.min_eq_left hle] at h2 ⊢
        rw [Nat.add_assoc, Nat.add_comm csz m, Nat.sub_sub, Nat.add_comm csz m]
        exact ⟨rfl, Nat.add_lt_of_lt_sub h2⟩
      · -- a further chunk exists, so this one was full
        rw [Nat.min_eq_right hle, Nat.sub_self] at h2
        exact absurd h2 (Nat.not_lt_zero _)

theorem ranges_flatten (csz : Nat) (hc : 0 < csz) (W : Bytes) (off n : Nat) (hn : off + n = W.length) :
    ((ranges csz off n).flatMap fun r => (W.drop r.1).take r.2) = W.drop off := by
  fun_induction ranges csz off n with
  | case1 off n h =>
    rw [h.resolve_left (Nat.ne_of_gt hc), Nat.add_zero] at hn
    rw [List.drop_eq_nil_of_le (Nat.le_of_eq hn.symm)]; rfl
  | case2 off n h ih =>
    rw [List.flatMap_cons, ih (by rw [Nat.add_assoc, Nat.add_sub_cancel' (Nat.min_le_right _ _), hn]),
      ← List.drop_drop, List.take_append_drop]

/-- what the encryptor seals for range `r` with chunk index `j` -/
def sealRange (P : Prims) (sym aead : Nat) (key n0 inf W : Bytes) (rj : (Nat × Nat) × Nat) : Bytes :=
  P.aead sym aead key (nonceAt n0 rj.2) inf ((W.drop rj.1.1).take rj.1.2)

/-- the chunk loop on the rest `pt = W.drop off` of a plaintext `W` seals the ranges of `W` from `off` on,
with chunk indices from `i` on, then the final tag -/
theorem chunks_eq_ranges (P : Prims) (sym aead : Nat) (key n0 inf : Bytes) (csz total : Nat) (W : Bytes) :
    ∀ (i : Nat) (pt : Bytes) (off : Nat), W.drop off = pt →
      chunks P sym aead key n0 inf csz total i pt =
        ((ranges csz off pt.length).zipIdx i).flatMap (sealRange P sym aead key n0 inf W) ++
          P.aead sym aead key (nonceAt n0 (i + (ranges csz off pt.length).length)) (inf ++ be64 total) [] := by
  intro i pt
  fun_induction chunks P sym aead key n0 inf csz total i pt with
  | case1 i pt h =>
    intro off _
    rw [ranges_nil csz off pt.length (h.imp id (congrArg List.length))]; rfl
  | case2 i pt h ih =>
    intro off hW
    rw [ranges_cons csz off pt.length fun hh => h (hh.imp id List.eq_nil_of_length_eq_zero),
      List.zipIdx_cons, List.flatMap_cons, List.length_cons, List.append_assoc, sealRange, hW,
      ← List.take_eq_take_min, ← Nat.add_assoc, Nat.add_right_comm i _ 1]
    have hdrop : W.drop (off + min csz pt.length) = pt.drop csz := by
      rw [← List.drop_drop, hW, ← List.drop_eq_drop_min]
    have hlen : pt.length - min csz pt.length = (pt.drop csz).length := by
      rw [List.length_drop, Nat.min_comm, ← Nat.sub_eq_sub_min]
    rw [hlen, ← ih (off + min csz pt.length) hdrop]

/-! ## SEIPDv2: nonces, associated data, HKDF split -/

theorem nonceAt_injective (n0 : Bytes) (i j : Nat) (hi : i < 18446744073709551616) (hj : j < 18446744073709551616)
    (h : nonceAt n0 i = nonceAt n0 j) : i = j :=
  be64_inj i j hi hj (List.append_cancel_left h)

theorem nonceAt_length (n0 : Bytes) (i : Nat) (h : 8 ≤ n0.length) : (nonceAt n0 i).length = n0.length := by
  rw [nonceAt, List.length_append, be64_length, List.length_take, Nat.min_eq_left (Nat.sub_le _ _)]
  exact Nat.sub_add_cancel h

theorem nonceAt_split (iv : Bytes) (i : Nat) :
    nonceAt (iv ++ List.replicate Gen.seipd2NonceCounterLen 0) i = iv ++ be64 i := by
  rw [nonceAt, List.length_append, List.length_replicate]
  show List.take (iv.length + 8 - 8) _ ++ _ = _
  rw [Nat.add_sub_cancel, List.take_left' rfl]

theorem split_of_sizes (sym aead : Nat) (okm : Bytes) (h8 : 8 ≤ Gen.aeadNonceSize aead)
    (hlen : Gen.c12SymKeySize sym + Gen.aeadNonceSize aead - 8 ≤ okm.length) :
    (split sym aead okm).1.length = Gen.c12SymKeySize sym ∧
    (split sym aead okm).2.length = Gen.aeadNonceSize aead ∧
    (split sym aead okm).1 ++ (split sym aead okm).2.take (Gen.aeadNonceSize aead - 8) =
      okm.take (Gen.c12SymKeySize sym + Gen.aeadNonceSize aead - 8) := by
  show (okm.take _).length = _ ∧ ((okm.drop _).take (_ - 8) ++ List.replicate 8 0).length = _ ∧
    okm.take _ ++ ((okm.drop _).take (_ - 8) ++ List.replicate 8 0).take _ = _
  generalize Gen.c12SymKeySize sym = ks at *
  generalize Gen.aeadNonceSize aead = ns at *
  rw [Nat.add_sub_assoc h8] at hlen ⊢
  have hrest : ((okm.drop ks).take (ns - 8)).length = ns - 8 := by
    rw [List.length_take, List.length_drop, Nat.min_eq_left (Nat.le_sub_of_add_le' hlen)]
  refine ⟨?_, ?_, ?_⟩
  · rw [List.length_take, Nat.min_eq_left (Nat.le_trans (Nat.le_add_right _ _) hlen)]
  · rw [List.length_append, hrest, List.length_replicate, Nat.sub_add_cancel h8]
  · rw [List.take_append_of_le_length (Nat.le_of_eq hrest.symm), List.take_take, Nat.min_self, ← List.take_add]

theorem split_sizes_supported (sym aead : Nat) (hs : sym = 7 ∨ sym = 8 ∨ sym = 9)
    (ha : aead = 1 ∨ aead = 2 ∨ aead = 3) :
    8 ≤ Gen.aeadNonceSize aead ∧ Gen.c12SymKeySize sym + Gen.aeadNonceSize aead - 8 ≤ 42 := by
  have hk : Gen.c12SymKeySize sym ≤ 32 := by rcases hs with rfl | rfl | rfl <;> decide
  have hn : 8 ≤ Gen.aeadNonceSize aead ∧ Gen.aeadNonceSize aead ≤ 16 := by
    rcases ha with rfl | rfl | rfl <;> decide
  omega

/-! ## plaintext references -/

theorem patSlice_eq_range' (s o l : Nat) : patSlice s o l = (List.range' o l).map (patByte s) := by
  rw [patSlice, List.range'_eq_map_range, List.map_map]; rfl

theorem patSlice_length (s o l : Nat) : (patSlice s o l).length = l := by
  rw [patSlice, List.length_map, List.length_range]

theorem patSlice_slice (s l off len : Nat) :
    ((patSlice s 0 l).drop off).take len = patSlice s off (min len (l - off)) := by
  rw [patSlice_eq_range', patSlice_eq_range', ← List.map_drop, ← List.map_take, List.drop_range', Nat.mul_one,
    Nat.zero_add]
  rcases Nat.le_total len (l - off) with h | h
  · rw [List.take_range'_of_length_ge h, Nat.min_eq_left h]
  · rw [List.take_range'_of_length_le h, Nat.min_eq_right h]

theorem slice_eval (P : Prims) (pt : PtRef) (off len : Nat) :
    (pt.slice off len).eval P = (pt.val.drop off).take len := by
  cases pt with
  | bytes b => rfl
  | pat s l => simp only [PtRef.slice, PExpr.eval, PtRef.val, patSlice_slice]

theorem val_length (pt : PtRef) : pt.val.length = pt.length := by
  cases pt with
  | bytes b => rfl
  | pat s l => simp [PtRef.val, PtRef.length, patSlice_length]

/-- the SEIPDv2 plan (built from the plaintext *length* only) denotes the encryptor's output -/
theorem Seipd2.plan_eval (P : Prims) (sym aead cs : Nat) (salt key : Bytes) (pt : PtRef) :
    (Seipd2.plan sym aead cs salt key pt).eval P = Seipd2.encrypt P sym aead cs salt key pt.val := by
  rw [Seipd2.plan, Seipd2.encrypt, catL_eval, List.map_append, List.flatten_append, List.map_map]
  simp only [split]
  rw [chunks_eq_ranges P sym aead _ _ _ _ _ pt.val 0 pt.val 0 rfl, val_length, List.flatMap_def, Nat.zero_add]
  refine congr (congrArg _ (congrArg List.flatten (List.map_congr_left fun rj _ => ?_))) ?_
  · simp only [Function.comp, sealRange, PExpr.eval, slice_eval, okm, nonceAt_split]
  · simp only [List.map_cons, List.map_nil, List.flatten_cons, List.flatten_nil, List.append_nil, PExpr.eval, okm,
      nonceAt_split]

theorem chunks_length (P : Prims) (sym aead : Nat) (key n0 inf : Bytes) (csz total : Nat) (hc : 0 < csz)
    (hseal : ∀ k n ad d, (P.aead sym aead k n ad d).length = d.length + 16) :
    ∀ (i : Nat) (pt : Bytes),
      (chunks P sym aead key n0 inf csz total i pt).length = pt.length + 16 * ((pt.length + csz - 1) / csz + 1) := by
  intro i pt
  show _ = _ + 16 * (S2k.rounds pt.length csz + 1)
  fun_induction chunks P sym aead key n0 inf csz total i pt with
  | case1 i pt h => rw [h.resolve_left (Nat.ne_of_gt hc), hseal, List.length_nil, rounds_zero csz hc]
  | case2 i pt h ih =>
    have hpos : 0 < pt.length := List.length_pos_iff.mpr fun e => h (Or.inr e)
    have hsum : min csz pt.length + (pt.length - csz) = pt.length := by
      rw [Nat.min_comm, Nat.sub_eq_sub_min, Nat.add_sub_cancel' (Nat.min_le_left _ _)]
    rw [List.length_append, hseal, ih, List.length_take, List.length_drop, rounds_step pt.length csz hc hpos]
    generalize min csz pt.length = a, pt.length - csz = b at hsum ⊢
    omega

open Seipd1

theorem prefixed_length (pre : Bytes) : (prefixed pre).length = pre.length + 2 := by simp [prefixed]

theorem Seipd1.layout_length (P : Prims) (pre pt : Bytes) (hh : ∀ x, 20 ≤ (P.hash sha1Id x).length) :
    (layout P pre pt).length = pre.length + 2 + pt.length + 22 := by
  have := hh (hashed pre pt)
  simp only [layout, List.length_append, List.length_take]
  rw [Nat.min_eq_left this]
  simp [hashed, prefixed_length]
  omega

theorem Seipd1.plan_eval (P : Prims) (alg : Nat) (key pre : Bytes) (pt : PtRef) :
    (Seipd1.plan alg key pre pt).eval P = Seipd1.encrypt P alg key pre pt.val := by
  simp only [Seipd1.plan, Seipd1.encrypt, PExpr.eval, slice_eval, layout, hashed, List.drop_zero]
  rw [← val_length, List.take_length]
  simp

/-- a CFB encryptor is *online* and length preserving -/
structure Online (E : Bytes → Bytes) : Prop where
  len : ∀ x, (E x).length = x.length
  pre : ∀ a b, (E (a ++ b)).take a.length = E a

theorem cfbFeed_eq (E : Bytes → Bytes) (h : Online E) (segs : List Bytes) :
    ∀ sofar, cfbFeed E sofar segs = (E (sofar ++ segs.flatten)).drop sofar.length := by
  induction segs with
  | nil =>
    intro sofar
    simp only [cfbFeed, List.flatten_nil, List.append_nil]
    rw [List.drop_of_length_le]; rw [h.len]; exact Nat.le_refl _
  | cons seg rest ih =>
    intro sofar
    simp only [cfbFeed, ih, List.flatten_cons, List.length_append]
    have hp := h.pre (sofar ++ seg) rest.flatten
    rw [List.append_assoc] at hp
    rw [← hp, List.length_append, List.drop_take, ← List.drop_drop]
    simp only [Nat.add_sub_cancel_left, List.append_assoc]
    exact List.take_append_drop _ _

theorem buffers_eq_chunksOf (n : Nat) (pt : Bytes) : buffers n pt = chunksOf n pt := by
  fun_induction buffers n pt with
  | case1 pt h => rw [chunksOf, dif_pos h]
  | case2 pt h ih => rw [chunksOf, dif_neg h, ih]

theorem Seipd1.stream_eq_encrypt (P : Prims) (alg : Nat) (key pre pt : Bytes) (bufSize : Nat) (hb : 0 < bufSize)
    (hE : Online (P.cfbEnc alg key (List.replicate (Gen.symBlockSize alg) 0))) :
    stream P alg key pre pt bufSize = Seipd1.encrypt P alg key pre pt := by
  -- both writers use the same MDC header octets
  have htag : Gen.seMdcTag = Gen.epMdcTag := rfl
  have hlen : Gen.seMdcLenOctet = Gen.epMdcLenOctet := rfl
  unfold stream Seipd1.encrypt
  rw [htag, hlen]
  simp only [cfbFeed_eq _ hE, List.nil_append, List.length_nil, List.drop_zero, List.flatten_append,
    List.flatten_cons, List.flatten_nil, List.append_nil, buffers_eq_chunksOf, chunksOf_flatten bufSize hb]
  congr 1
  simp [layout, hashed]

theorem mdcPreimage_shape (X H : Bytes) (hH : H.length = 20) : mdcPreimage (X ++ H) = X := by
  rw [mdcPreimage, List.length_append, hH, Nat.add_sub_cancel, List.take_left' rfl]

/-- the CFB plaintext this writer lays out is the one the decryptor model of C03 is stated on -/
theorem Seipd1.layout_eq_plain (P : Prims) (pre pt : Bytes) :
    layout P pre pt = seipd1Plain (fun x => (P.hash sha1Id x).take 20) (prefixed pre) pt := by
  have e1 : Gen.epMdcTag = Gen.mdcTagOctet := rfl
  have e2 : Gen.epMdcLenOctet = Gen.mdcLenOctet := rfl
  rw [layout, hashed, seipd1Plain, e1, e2]

/-- this reader accepts what the default mode of the decryptor model of C03 accepts when no size
limit bites, with the same plaintext: both cut the decrypted stream `bs + 2` octets from the start
and 22 from the end, and the digest `openWith` is handed is the one `mdcOk` computes -/
theorem openWith_iff_checkFirst (sha1 : Bytes → Bytes) (bs : Nat) (d pt : Bytes) :
    openWith (sha1 (mdcPreimage d)) bs d = .ok pt ↔ seipd1CheckFirst sha1 bs d.length d = some pt := by
  rw [openWith]
  by_cases hshort : d.length < bs + 2 + 22
  · rw [seipd1CheckFirst_short sha1 bs _ d hshort]
    by_cases c1 : d.length < bs + Gen.sdPrefixExtra
    · rw [if_pos c1]; exact ⟨nofun, nofun⟩
    · have c2 : (d.drop (bs + Gen.sdPrefixExtra)).length < Gen.sdMdcLen := by
        rw [List.length_drop]; exact Nat.sub_lt_left_of_lt_add (Nat.le_of_not_lt c1) hshort
      rw [if_neg c1]; dsimp only; rw [if_pos c2]; exact ⟨nofun, nofun⟩
  · obtain ⟨A, body, mdc, rfl, hA, hm⟩ := exists_append3_of_length_le d (bs + 2) 22 (Nat.le_of_not_lt hshort)
    match mdc, hm with
    | a :: b :: t, hm =>
      have h1 : ¬ (A ++ (body ++ a :: b :: t)).length < bs + Gen.sdPrefixExtra := fun h => hshort (Nat.lt_add_right 22 h)
      have h2 : ¬ body.length + 22 < 22 := Nat.not_lt.mpr (Nat.le_add_left _ _)
      have h3 : ¬ (A ++ (body ++ a :: b :: t)).length < body.length + 22 := by
        rw [List.length_append, List.length_append, hm]; exact Nat.not_lt.mpr (Nat.le_add_left _ _)
      have hpre : mdcPreimage (A ++ (body ++ a :: b :: t)) = A ++ body ++ [a, b] := by
        rw [← mdcPreimage_shape (A ++ body ++ [a, b]) t (Nat.succ.inj (Nat.succ.inj hm))]
        simp only [List.append_assoc, List.cons_append, List.nil_append]
      rw [seipd1CheckFirst_parts sha1 bs _ A body _ hA hm, if_neg h3, if_neg h1, hpre]
      simp only [Gen.sdPrefixExtra, Gen.sdMdcLen, List.drop_left' hA, List.length_append, hm, if_neg h2,
        Nat.add_sub_cancel, List.take_left' rfl, List.drop_left' rfl, List.getD_cons_zero, List.getD_cons_succ,
        List.drop_succ_cons, List.drop_zero]
      -- either MDC check says that `a :: b :: t` is `D3 14` and the digest of everything before it
      have hC : mdcOk sha1 A body (a :: b :: t) = true ↔
          a = Gen.sdMdcTag.toUInt8 ∧ b = Gen.sdMdcLenOctet.toUInt8 ∧ t = sha1 (A ++ body ++ [a, b]) := by
        rw [mdcOk_iff sha1 A body _ hm]
        constructor
        · intro h
          obtain ⟨rfl, h'⟩ := List.cons.inj h
          obtain ⟨rfl, rfl⟩ := List.cons.inj h'
          exact ⟨rfl, rfl, rfl⟩
        · rintro ⟨rfl, rfl, ht⟩
          exact congrArg _ (congrArg _ ht)
      by_cases hok : mdcOk sha1 A body (a :: b :: t) = true
      · rw [if_pos hok, if_pos (hC.mp hok)]
        exact ⟨fun h => by cases h; rfl, fun h => by cases h; rfl⟩
      · rw [if_neg hok, if_neg (mt hC.mpr hok)]
        exact ⟨nofun, nofun⟩

theorem Seipd1.open_layout (P : Prims) (pre pt : Bytes) (hh : ∀ x, 20 ≤ (P.hash sha1Id x).length) :
    Seipd1.open P pre.length (layout P pre pt) = .ok pt := by
  refine (openWith_iff_checkFirst (fun x => (P.hash sha1Id x).take 20) _ _ pt).mpr ?_
  rw [Seipd1.layout_length P pre pt hh, Seipd1.layout_eq_plain]
  exact seipd1CheckFirst_roundtrip _ (fun x => by rw [List.length_take]; exact Nat.min_eq_left (hh x)) _ _ _ pt
    (prefixed_length pre) (Nat.add_le_add_right (Nat.le_add_left _ _) 22)

/-- whatever the reader opens has the writer's layout (with *some* `bs+2` leading octets: the
repeat octets are not compared) -/
theorem Seipd1.open_sound (P : Prims) (bs : Nat) (d pt : Bytes) (_hh : ∀ x, 20 ≤ (P.hash sha1Id x).length)
    (hok : Seipd1.open P bs d = .ok pt) :
    ∃ A, A.length = bs + 2 ∧
      d = A ++ pt ++ [Gen.sdMdcTag.toUInt8, Gen.sdMdcLenOctet.toUInt8] ++
        (P.hash sha1Id (A ++ pt ++ [Gen.sdMdcTag.toUInt8, Gen.sdMdcLenOctet.toUInt8])).take 20 := by
  obtain ⟨A, hA, hd, _⟩ := seipd1CheckFirst_accept _ bs _ d pt
    ((openWith_iff_checkFirst (fun x => (P.hash sha1Id x).take 20) bs d pt).mp hok)
  exact ⟨A, hA, hd⟩

/-! ## SKESK and secret-key plans -/

/-- the common shape of the plans below: a refusal, the S2K derivation, one more layer on top -/
theorem guard_bind_eval (P : Prims) (c : Bool) (p : Option PExpr) (F : PExpr → PExpr) (G : Bytes → Bytes)
    (h : ∀ e, (F e).eval P = G (e.eval P)) :
    Option.map (PExpr.eval P) (do
        if c then none
        let k ← p
        pure (F k)) =
      (do
        if c then none
        let k ← Option.map (PExpr.eval P) p
        pure (G k)) := by
  cases c <;> cases p <;> simp [h]

theorem Skesk.plan4_eval (P : Prims) (sym : Nat) (s : S2k.Spec) (pw sk : Bytes) :
    (Skesk.plan4 true sym s pw sk).map (PExpr.eval P) = Skesk.body4 P sym s pw sk := by
  rw [Skesk.plan4, Skesk.body4, ← plan_eval P s pw (Gen.c12SymKeySize sym), Bool.true_and]
  exact guard_bind_eval P _ _ _ _ fun _ => rfl

theorem Skesk.plan6_eval (P : Prims) (sym aead : Nat) (s : S2k.Spec) (pw sk iv : Bytes) :
    (Skesk.plan6 true sym aead s pw sk iv).map (PExpr.eval P) = Skesk.body6 P sym aead s pw sk iv := by
  rw [Skesk.plan6, Skesk.body6, ← plan_eval P s pw (Gen.c12SymKeySize sym), Bool.true_and]
  exact guard_bind_eval P _ _ _ _ fun _ => rfl

theorem SecKey.cfbLockAllowed_spec (ver : Nat) (s : S2k.Spec) (h : SecKey.cfbLockAllowed ver s = true) :
    s.weakHash = false ∧ s.isArgon2 = false ∧
      (ver = 6 → (∃ h salt c, s = .iterated h salt c) ∨ (∃ h salt, s = .salted h salt)) := by
  simp only [SecKey.cfbLockAllowed, Bool.and_eq_true, Bool.not_eq_true', Bool.or_eq_true, bne_iff_ne, ne_eq] at h
  refine ⟨h.1.1, h.1.2, fun hv => ?_⟩
  have hm := h.2.resolve_left (fun hne => hne hv)
  cases s with
  | simple _ => cases hm
  | salted hh salt => exact Or.inr ⟨hh, salt, rfl⟩
  | iterated hh salt c => exact Or.inl ⟨hh, salt, c, rfl⟩
  | argon2 _ _ _ _ => cases hm

theorem SecKey.aeadLockAllowed_spec (s : S2k.Spec) (h : SecKey.aeadLockAllowed s = true) :
    s.weakHash = false ∧ ((∃ salt t p m, s = .argon2 salt t p m) ∨ (∃ h salt c, s = .iterated h salt c)) := by
  simp only [SecKey.aeadLockAllowed, Bool.and_eq_true, Bool.not_eq_true'] at h
  refine ⟨h.1, ?_⟩
  have hm := h.2
  cases s with
  | simple _ => cases hm
  | salted _ _ => cases hm
  | iterated hh salt c => exact Or.inr ⟨hh, salt, c, rfl⟩
  | argon2 salt t p m => exact Or.inl ⟨salt, t, p, m, rfl⟩

theorem SecKey.cfbData_allowed (P : Prims) (ver sym : Nat) (s : S2k.Spec) (pw iv raw out : Bytes)
    (h : SecKey.cfbData P ver sym s pw iv raw = some out) : SecKey.cfbLockAllowed ver s = true := by
  cases hL : SecKey.cfbLockAllowed ver s with
  | true => rfl
  | false => rw [SecKey.cfbData, hL] at h; cases h

theorem SecKey.aeadData_allowed (P : Prims) (sym aead : Nat) (s : S2k.Spec) (pw nonce : Bytes) (tag ver : Nat)
    (pubBody raw out : Bytes) (h : SecKey.aeadData P sym aead s pw nonce tag ver pubBody raw = some out) :
    SecKey.aeadLockAllowed s = true := by
  cases hL : SecKey.aeadLockAllowed s with
  | true => rfl
  | false => rw [SecKey.aeadData, hL] at h; cases h

theorem SecKey.cfbPlan_eval (P : Prims) (ver sym : Nat) (s : S2k.Spec) (pw iv raw : Bytes) :
    (SecKey.cfbPlan true ver sym s pw iv raw).map (PExpr.eval P) = SecKey.cfbData P ver sym s pw iv raw := by
  -- the sender-side checks already exclude Argon2
  have hguard : ((true && !SecKey.cfbLockAllowed ver s) || s.isArgon2) = !SecKey.cfbLockAllowed ver s := by
    cases hL : SecKey.cfbLockAllowed ver s with
    | false => rfl
    | true => rw [(SecKey.cfbLockAllowed_spec ver s hL).2.1]; rfl
  rw [SecKey.cfbPlan, SecKey.cfbData, ← plan_eval P s pw (Gen.c12SymKeySize sym), hguard]
  exact guard_bind_eval P _ _ _ _ fun _ => rfl

theorem SecKey.aeadPlan_eval (P : Prims) (sym aead : Nat) (s : S2k.Spec) (pw nonce : Bytes) (tag ver : Nat)
    (pubBody raw : Bytes) :
    (SecKey.aeadPlan true sym aead s pw nonce tag ver pubBody raw).map (PExpr.eval P) =
      SecKey.aeadData P sym aead s pw nonce tag ver pubBody raw := by
  rw [SecKey.aeadPlan, SecKey.aeadData, ← plan_eval P s pw (Gen.c12SymKeySize sym), Bool.true_and]
  exact guard_bind_eval P _ _ _ _ fun _ => rfl

end Rpgp.Sym
