import RpgpProofs.SoundMessage
/-!
# SoundToy — concrete instances for `RpgpProps/C02.lean`

For its non-vacuity examples: an identity "hash" (trivially collision free) and a primitive that
accepts exactly one logged (key material, digest, signature value) triple: every hypothesis of the
reduction theorems is satisfiable together with a successful verification.  For its witness theorems
about `parseSig`: the signature bodies `bodyA` … `bodyH8`.
-/
namespace Rpgp.Sound.Toy
open Rpgp Rpgp.SigDigest Rpgp.Sound

def cfg0 : Cfg := { ver := .v4, typ := 0, pk := 1, hash := 8, area := [] }
def data0 : Bytes := [0x61]
def pre0 : Bytes := Spec.preimage (cfg0.toInput (.document data0))

def P : Prims :=
  { hashKnown := fun h => h == 8
    hash := fun _ p => p
    pkVerify := fun km _ d sv => km == [1] && d == pre0 && sv == [[9]] }

/-- a primitive that accepts everything (for the left-16 theorems) -/
def Pyes : Prims := { P with pkVerify := fun _ _ _ _ => true }

def key0 : VKey := { ver := 4, keyId := [1, 2, 3, 4, 5, 6, 7, 8], fp := [4, 0xAA], mat := [1] }
def key1 : VKey := { ver := 4, keyId := [8, 7, 6, 5, 4, 3, 2, 1], fp := [4, 0xBB], mat := [2] }
def sig0 : Sig := { cfg := cfg0, left16 := pre0.take 2, sigval := [[9]] }

def L : List (Bytes × Bytes) := [([1], pre0)]
def S : List Signed := [⟨[1], cfg0.toInput (.document data0)⟩]

theorem unforgeable : Unforgeable P L := by
  intro km h d sv hv
  simp only [P, Bool.and_eq_true, beq_iff_eq] at hv
  obtain ⟨⟨rfl, rfl⟩, _⟩ := hv
  exact List.mem_cons_self

theorem logHonest : LogHonest P L S := by
  intro km d hm
  simp only [L, List.mem_singleton, Prod.mk.injEq] at hm
  obtain ⟨rfl, rfl⟩ := hm
  exact ⟨⟨[1], cfg0.toInput (.document data0)⟩, List.mem_cons_self, rfl, rfl⟩

theorem honestInputs : HonestInputs S := by
  intro e he
  simp only [S, List.mem_singleton] at he
  subst he
  exact ⟨by decide, by decide⟩

theorem collisionFree (h : Byte) (p : Bytes) : CollisionFreeOn P S h p := by
  intro e _ he
  exact he

/-- a v4 signature body: version 4, type 0, RSA (one MPI), SHA-256, both areas empty -/
def bodyA : Bytes := [4, 0, 1, 8, 0, 0, 0, 0, 0xAB, 0xCD, 0, 1, 1]
/-- the same with a subpacket of the private type 100 in the unhashed area -/
def bodyB : Bytes := [4, 0, 1, 8, 0, 0, 0, 3, 2, 100, 7, 0xAB, 0xCD, 0, 1, 1]
/-- the same with the MPI bit count 8 instead of 1 (still one octet) -/
def bodyC : Bytes := [4, 0, 1, 8, 0, 0, 0, 0, 0xAB, 0xCD, 0, 8, 1]
/-- hashed area = Revocable(0) / Revocable(2): both are read as `false` and written back as 0 -/
def bodyR0 : Bytes := [4, 0, 1, 8, 0, 3, 2, 7, 0, 0, 0, 0xAB, 0xCD, 0, 1, 1]
def bodyR2 : Bytes := [4, 0, 1, 8, 0, 3, 2, 7, 2, 0, 0, 0xAB, 0xCD, 0, 1, 1]
/-- `bodyA` followed by a stray octet -/
def bodyT : Bytes := bodyA ++ [0x55]
/-- a signature that carries `bodyR0` / `bodyR2` as an Embedded Signature subpacket (type 32) in its
UNHASHED area -/
def bodyE0 : Bytes := [4, 0, 1, 8, 0, 0, 0, 18, 17, 32] ++ bodyR0 ++ [0xAB, 0xCD, 0, 1, 1]
def bodyE2 : Bytes := [4, 0, 1, 8, 0, 0, 0, 18, 17, 32] ++ bodyR2 ++ [0xAB, 0xCD, 0, 1, 1]
/-- … and in its hashed area, with the embedded signature's MPI bit count 1 (canonical) / 8 -/
def bodyH1 : Bytes := [4, 0, 1, 8, 0, 15, 14, 32] ++ bodyA ++ [0, 0, 0xAB, 0xCD, 0, 1, 1]
def bodyH8 : Bytes := [4, 0, 1, 8, 0, 15, 14, 32] ++ bodyC ++ [0, 0, 0xAB, 0xCD, 0, 1, 1]

end Rpgp.Sound.Toy
