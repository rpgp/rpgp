import RpgpModel.Armor
import RpgpProofs.Bytes
/-!
# The base64 codec: round trip, alphabet, and the strict decoder accepts canonical encodings only

Both directions go quantum by quantum.  A quantum is a number below `2 ^ 24` (`2 ^ 18`, `2 ^ 12` for
the padded ones) written in base 64 on one side and in base 256 on the other; the digit arithmetic
is stated about `Nat` variables (section *digits*), the alphabet is a table checked by evaluation.
-/
namespace Rpgp.Armor

theorem byte_forall (P : Byte → Prop) (h : ∀ n, n < 256 → P n.toUInt8) : ∀ c, P c := by
  intro c
  have := h c.toNat (UInt8.toNat_lt c)
  rwa [toNat_toUInt8] at this

/-! ## the alphabet -/

theorem b64val_char : ∀ n, n < 64 → b64val (b64char n) = some n := by decide

theorem b64val_eqs : b64val EQS = none := by decide

theorem b64char_ne_eqs (n : Nat) (h : n < 64) : b64char n ≠ EQS := fun e => by
  have := b64val_char n h
  rw [e, b64val_eqs] at this
  cases this

theorem b64char_val : ∀ c : Byte, ∀ v, b64val c = some v → b64char v = c ∧ v < 64 := by
  have : ∀ c : Byte, (b64val c).all fun v => b64char v == c && decide (v < 64) := by
    apply byte_forall
    decide +kernel
  intro c v h
  simpa [h] using this c

/-- symbols of the alphabet proper -/
def isB64Sym (c : Byte) : Bool := (b64val c).isSome

theorem isB64Sym_char (n : Nat) (h : n < 64) : isB64Sym (b64char n) = true := by
  simp [isB64Sym, b64val_char n h]

/-! ## digits

Base-64 digits of a number, in the flat form the model writes them (`n / 4096 % 64`, …); the proofs
pass to the nested form `((q * 64 + v1) * 64 + v2) * 64 + v3`, where each division peels off one digit. -/

theorem sextet_step {q r : Nat} (hr : r < 64) : (q * 64 + r) / 64 = q ∧ (q * 64 + r) % 64 = r := by
  rw [Nat.mul_comm, Nat.mul_add_div (by decide), Nat.mul_add_mod, Nat.div_eq_of_lt hr, Nat.mod_eq_of_lt hr]
  exact ⟨rfl, rfl⟩

theorem div_4096 (n : Nat) : n / 4096 = n / 64 / 64 := (Nat.div_div_eq_div_mul n 64 64).symm

theorem div_262144 (n : Nat) : n / 262144 = n / 64 / 64 / 64 := by
  rw [Nat.div_div_eq_div_mul, Nat.div_div_eq_div_mul]

theorem sextets_split {q v1 v2 v3 : Nat} (h1 : v1 < 64) (h2 : v2 < 64) (h3 : v3 < 64) :
    let n := q * 262144 + v1 * 4096 + v2 * 64 + v3
    n / 262144 = q ∧ n / 4096 % 64 = v1 ∧ n / 64 % 64 = v2 ∧ n % 64 = v3 := by
  intro n
  have e : n = ((q * 64 + v1) * 64 + v2) * 64 + v3 := by simp only [n, Nat.add_mul, Nat.mul_assoc]
  rw [div_262144, div_4096, e]
  simp only [sextet_step h3, sextet_step h2, sextet_step h1, and_self]

theorem sextets_join (n : Nat) :
    n / 262144 * 262144 + n / 4096 % 64 * 4096 + n / 64 % 64 * 64 + n % 64 = n := by
  have e : n / 262144 * 262144 + n / 4096 % 64 * 4096 + n / 64 % 64 * 64 + n % 64 =
      ((n / 64 / 64 / 64 * 64 + n / 64 / 64 % 64) * 64 + n / 64 % 64) * 64 + n % 64 := by
    rw [div_4096, div_262144]; simp only [Nat.add_mul, Nat.mul_assoc]
  rw [e, Nat.div_add_mod', Nat.div_add_mod', Nat.div_add_mod']

theorem sextets4_split {v0 v1 v2 v3 : Nat} (h0 : v0 < 64) (h1 : v1 < 64) (h2 : v2 < 64) (h3 : v3 < 64) :
    let n := v0 * 262144 + v1 * 4096 + v2 * 64 + v3
    n / 262144 % 64 = v0 ∧ n / 4096 % 64 = v1 ∧ n / 64 % 64 = v2 ∧ n % 64 = v3 ∧ n < 16777216 := by
  intro n
  obtain ⟨e0, e⟩ := sextets_split (q := v0) h1 h2 h3
  exact ⟨by rw [e0, Nat.mod_eq_of_lt h0], e.1, e.2.1, e.2.2, (Nat.div_lt_iff_lt_mul (by decide)).mp (e0 ▸ h0)⟩

theorem sextets4_join {n : Nat} (h : n < 16777216) :
    n / 262144 % 64 * 262144 + n / 4096 % 64 * 4096 + n / 64 % 64 * 64 + n % 64 = n := by
  rw [Nat.mod_eq_of_lt (Nat.div_lt_of_lt_mul h), sextets_join]

theorem sextets3_split {v0 v1 v2 : Nat} (h0 : v0 < 64) (h1 : v1 < 64) (h2 : v2 < 64) :
    let n := v0 * 4096 + v1 * 64 + v2
    n / 4096 % 64 = v0 ∧ n / 64 % 64 = v1 ∧ n % 64 = v2 ∧ n < 262144 := by
  intro n
  have := sextets_split (q := 0) h0 h1 h2
  simp only [Nat.zero_mul, Nat.zero_add] at this
  exact ⟨this.2.1, this.2.2.1, this.2.2.2, (Nat.div_eq_zero_iff.mp this.1).resolve_left (by decide)⟩

theorem sextets3_join {n : Nat} (h : n < 262144) : n / 4096 % 64 * 4096 + n / 64 % 64 * 64 + n % 64 = n := by
  have := sextets_join n
  rwa [Nat.div_eq_of_lt h, Nat.zero_mul, Nat.zero_add] at this

theorem sextets2_split {v0 v1 : Nat} (h0 : v0 < 64) (h1 : v1 < 64) :
    let n := v0 * 64 + v1
    n / 64 % 64 = v0 ∧ n % 64 = v1 ∧ n < 4096 := by
  intro n
  obtain ⟨e0, e1⟩ := sextet_step (q := v0) h1
  exact ⟨by rw [e0, Nat.mod_eq_of_lt h0], e1, (Nat.div_lt_iff_lt_mul (by decide)).mp (e0 ▸ h0)⟩

theorem sextets2_join {n : Nat} (h : n < 4096) : n / 64 % 64 * 64 + n % 64 = n := by
  rw [Nat.mod_eq_of_lt (Nat.div_lt_of_lt_mul h), Nat.div_add_mod']

/-- two octets, shifted by the two spare bits of three digits -/
theorem pad2_split {a b : Nat} (ha : a < 256) (hb : b < 256) :
    let n := (a * 256 + b) * 4
    n % 4 = 0 ∧ n / 1024 = a ∧ n / 4 % 256 = b ∧ n < 262144 := by omega

theorem pad2_join {n : Nat} (h : n < 262144) (h4 : n % 4 = 0) :
    (n / 1024 * 256 + n / 4 % 256) * 4 = n ∧ n / 1024 < 256 := by omega

/-- one octet, shifted by the four spare bits of two digits -/
theorem pad1_split {a : Nat} (ha : a < 256) :
    let n := a * 16
    n % 16 = 0 ∧ n / 16 = a ∧ n < 4096 := by omega

theorem pad1_join {n : Nat} (h : n < 4096) (h16 : n % 16 = 0) : n / 16 * 16 = n ∧ n / 16 < 256 := by omega

/-! ## one quantum, encoder after decoder and decoder after encoder -/

theorem mod64_lt {k : Nat} : k % 64 < 64 := Nat.mod_lt _ (by decide)

theorem dec4_chars {v0 v1 v2 v3 : Nat} (h0 : v0 < 64) (h1 : v1 < 64) (h2 : v2 < 64) (h3 : v3 < 64) :
    dec4 (b64char v0) (b64char v1) (b64char v2) (b64char v3) =
      some (beBytes 3 (v0 * 262144 + v1 * 4096 + v2 * 64 + v3)) := by
  simp only [dec4, b64val_char _ h0, b64val_char _ h1, b64val_char _ h2, b64val_char _ h3, beBytes_three]
  rfl

theorem dec4_eq_some {a b c e : Byte} {q : Bytes} (h : dec4 a b c e = some q) :
    ∃ v0 v1 v2 v3, v0 < 64 ∧ v1 < 64 ∧ v2 < 64 ∧ v3 < 64 ∧
      b64char v0 = a ∧ b64char v1 = b ∧ b64char v2 = c ∧ b64char v3 = e ∧
      q = beBytes 3 (v0 * 262144 + v1 * 4096 + v2 * 64 + v3) := by
  simp only [dec4, Option.bind_eq_bind, Option.bind_eq_some_iff, Option.pure_def, Option.some.injEq] at h
  obtain ⟨v0, h0, v1, h1, v2, h2, v3, h3, rfl⟩ := h
  exact ⟨v0, v1, v2, v3, (b64char_val a v0 h0).2, (b64char_val b v1 h1).2, (b64char_val c v2 h2).2,
    (b64char_val e v3 h3).2, (b64char_val a v0 h0).1, (b64char_val b v1 h1).1, (b64char_val c v2 h2).1,
    (b64char_val e v3 h3).1, (beBytes_three _).symm⟩

theorem dec4_enc3 (a b c : Byte) :
    ∃ w x y z, enc3 a b c = [w, x, y, z] ∧ dec4 w x y z = some [a, b, c] ∧ z ≠ EQS ∧
      isB64Sym w ∧ isB64Sym x ∧ isB64Sym y ∧ isB64Sym z := by
  refine ⟨_, _, _, _, rfl, ?_, b64char_ne_eqs _ mod64_lt, isB64Sym_char _ mod64_lt, isB64Sym_char _ mod64_lt,
    isB64Sym_char _ mod64_lt, isB64Sym_char _ mod64_lt⟩
  have hn : beNat [a, b, c] < 16777216 := by simpa using beNat_lt [a, b, c]
  rw [dec4_chars mod64_lt mod64_lt mod64_lt mod64_lt, ← beNat_three, sextets4_join hn]
  exact congrArg some (beBytes_beNat [a, b, c])

theorem dec4_canonical (a b c e : Byte) (q : Bytes) (h : dec4 a b c e = some q) :
    ∃ x y z, q = [x, y, z] ∧ enc3 x y z = [a, b, c, e] := by
  obtain ⟨v0, v1, v2, v3, h0, h1, h2, h3, rfl, rfl, rfl, rfl, rfl⟩ := dec4_eq_some h
  obtain ⟨e0, e1, e2, e3, hn⟩ := sextets4_split h0 h1 h2 h3
  refine ⟨_, _, _, beBytes_three _, ?_⟩
  simp only [enc3]
  rw [← beNat_three, ← beBytes_three, beNat_beBytes_of_lt hn, e0, e1, e2, e3]

/-! ### the padded quanta -/

theorem decLast_of_ne {a b c e : Byte} (he : e ≠ EQS) : decLast a b c e = dec4 a b c e := by
  rw [decLast, if_neg he]

theorem decLast_pad1 {a b c : Byte} (hc : c ≠ EQS) : decLast a b c EQS = (do
    let v0 ← b64val a
    let v1 ← b64val b
    let v2 ← b64val c
    let n := v0 * 4096 + v1 * 64 + v2
    if n % 4 = 0 then pure [(n / 1024).toUInt8, (n / 4 % 256).toUInt8] else none) := by
  rw [decLast, if_pos rfl, if_neg hc]

theorem decLast_pad2 (a b : Byte) : decLast a b EQS EQS = (do
    let v0 ← b64val a
    let v1 ← b64val b
    let n := v0 * 64 + v1
    if n % 16 = 0 then pure [(n / 16).toUInt8] else none) := by
  rw [decLast, if_pos rfl, if_pos rfl]

theorem decLast_enc2 (a b : Byte) :
    ∃ w x y, enc2 a b = [w, x, y, EQS] ∧ decLast w x y EQS = some [a, b] ∧ y ≠ EQS ∧
      isB64Sym w ∧ isB64Sym x ∧ isB64Sym y := by
  refine ⟨_, _, _, rfl, ?_, b64char_ne_eqs _ mod64_lt, isB64Sym_char _ mod64_lt, isB64Sym_char _ mod64_lt,
    isB64Sym_char _ mod64_lt⟩
  obtain ⟨h4, ea, eb, hn⟩ := pad2_split (UInt8.toNat_lt a) (UInt8.toNat_lt b)
  rw [decLast_pad1 (b64char_ne_eqs _ mod64_lt), b64val_char _ mod64_lt, b64val_char _ mod64_lt,
    b64val_char _ mod64_lt, Option.bind_eq_bind, Option.bind_some, Option.bind_some, Option.bind_some]
  show (if _ % 4 = 0 then some [(_ / 1024).toUInt8, (_ / 4 % 256).toUInt8] else none) = _
  rw [sextets3_join hn, if_pos h4, ea, eb, toNat_toUInt8, toNat_toUInt8]

theorem decLast_enc1 (a : Byte) :
    ∃ w x, enc1 a = [w, x, EQS, EQS] ∧ decLast w x EQS EQS = some [a] ∧ isB64Sym w ∧ isB64Sym x := by
  refine ⟨_, _, rfl, ?_, isB64Sym_char _ mod64_lt, isB64Sym_char _ mod64_lt⟩
  obtain ⟨h16, ea, hn⟩ := pad1_split (UInt8.toNat_lt a)
  rw [decLast_pad2, b64val_char _ mod64_lt, b64val_char _ mod64_lt, Option.bind_eq_bind, Option.bind_some,
    Option.bind_some]
  show (if _ % 16 = 0 then some [(_ / 16).toUInt8] else none) = _
  rw [sextets2_join hn, if_pos h16, ea, toNat_toUInt8]

theorem decLast_canonical (a b c e : Byte) (q : Bytes) (h : decLast a b c e = some q) :
    b64enc q = [a, b, c, e] := by
  by_cases he : e = EQS
  · subst he
    by_cases hc : c = EQS
    · subst hc
      rw [decLast_pad2] at h
      simp only [Option.bind_eq_bind, Option.bind_eq_some_iff] at h
      obtain ⟨v0, h0, v1, h1, h⟩ := h
      obtain ⟨rfl, l0⟩ := b64char_val a v0 h0
      obtain ⟨rfl, l1⟩ := b64char_val b v1 h1
      obtain ⟨e0, e1, hn⟩ := sextets2_split l0 l1
      split at h
      · next h16 =>
        cases h
        obtain ⟨ej, hlt⟩ := pad1_join hn h16
        rw [b64enc, enc1, toUInt8_toNat_of_lt _ hlt, ej, e0, e1]
      · cases h
    · rw [decLast_pad1 hc] at h
      simp only [Option.bind_eq_bind, Option.bind_eq_some_iff] at h
      obtain ⟨v0, h0, v1, h1, v2, h2, h⟩ := h
      obtain ⟨rfl, l0⟩ := b64char_val a v0 h0
      obtain ⟨rfl, l1⟩ := b64char_val b v1 h1
      obtain ⟨rfl, l2⟩ := b64char_val c v2 h2
      obtain ⟨e0, e1, e2, hn⟩ := sextets3_split l0 l1 l2
      split at h
      · next h4 =>
        cases h
        obtain ⟨ej, hlt⟩ := pad2_join hn h4
        rw [b64enc, enc2, toUInt8_toNat_of_lt _ hlt, toUInt8_toNat_of_lt _ (Nat.mod_lt _ (by decide)), ej, e0, e1, e2]
      · cases h
  · rw [decLast_of_ne he] at h
    obtain ⟨x, y, z, rfl, henc⟩ := dec4_canonical a b c e q h
    rw [b64enc, henc]; rfl

/-! ## whole strings -/

theorem b64dec_quad (w x y z : Byte) (r : Bytes) (hr : r ≠ []) :
    b64dec (w :: x :: y :: z :: r) =
      (dec4 w x y z).bind fun q => (b64dec r).bind fun rest => some (q ++ rest) := by
  cases r with
  | nil => exact absurd rfl hr
  | cons c r' => rfl

theorem b64dec_cons4 (w x y z : Byte) (r q o : Bytes) (hz : z ≠ EQS)
    (hq : dec4 w x y z = some q) (hr : b64dec r = some o) :
    b64dec (w :: x :: y :: z :: r) = some (q ++ o) := by
  cases r with
  | nil =>
    cases hr
    rw [b64dec, decLast_of_ne hz, hq, List.append_nil]
  | cons c r' => rw [b64dec_quad _ _ _ _ _ (List.cons_ne_nil _ _), hq, hr]; rfl

theorem b64dec_b64enc (d : Bytes) : b64dec (b64enc d) = some d := by
  fun_induction b64enc d with
  | case1 => rfl
  | case2 a =>
    obtain ⟨w, x, he, hd, _⟩ := decLast_enc1 a
    rw [he]; exact hd
  | case3 a b =>
    obtain ⟨w, x, y, he, hd, _⟩ := decLast_enc2 a b
    rw [he]; exact hd
  | case4 a b c r ih =>
    obtain ⟨w, x, y, z, he, hd, hz, _⟩ := dec4_enc3 a b c
    rw [he]
    exact b64dec_cons4 w x y z _ _ _ hz hd ih

theorem b64enc_length (d : Bytes) : (b64enc d).length = 4 * ((d.length + 2) / 3) := by
  fun_induction b64enc d with
  | case1 => rfl
  | case2 a => simp [enc1]
  | case3 a b => simp [enc2]
  | case4 a b c r ih =>
    simp only [List.length_append, ih, enc3, List.length_cons, List.length_nil]
    omega

theorem b64enc_length_mod4 (d : Bytes) : (b64enc d).length % 4 = 0 := by
  rw [b64enc_length, Nat.mul_mod_right]

theorem b64enc_eq_nil (d : Bytes) (h : b64enc d = []) : d = [] := by
  have := b64enc_length d
  rw [h] at this
  exact List.eq_nil_of_length_eq_zero (by simp only [List.length_nil] at this; omega)

theorem b64enc_chars (d : Bytes) : ∀ c ∈ b64enc d, isB64Sym c = true ∨ c = EQS := by
  fun_induction b64enc d with
  | case1 => simp
  | case2 a =>
    obtain ⟨w, x, he, _, hw, hx⟩ := decLast_enc1 a
    rw [he]; intro c hc; simp at hc; rcases hc with rfl | rfl | rfl | rfl <;> simp [*]
  | case3 a b =>
    obtain ⟨w, x, y, he, _, _, hw, hx, hy⟩ := decLast_enc2 a b
    rw [he]; intro c hc; simp at hc; rcases hc with rfl | rfl | rfl | rfl <;> simp [*]
  | case4 a b c r ih =>
    obtain ⟨w, x, y, z, he, _, _, hw, hx, hy, hz⟩ := dec4_enc3 a b c
    rw [he]; intro c hc
    simp only [List.cons_append, List.nil_append, List.mem_cons] at hc
    rcases hc with rfl | rfl | rfl | rfl | hc
    · simp [*]
    · simp [*]
    · simp [*]
    · simp [*]
    · exact ih c hc

theorem b64enc_append (a b : Bytes) (h : a.length % 3 = 0) : b64enc (a ++ b) = b64enc a ++ b64enc b := by
  fun_induction b64enc a with
  | case1 => rfl
  | case2 x => simp at h
  | case3 x y => simp at h
  | case4 x y z r ih =>
    have : r.length % 3 = 0 := by simp at h; omega
    simp [b64enc, ih this]

theorem b64enc_body_syms (d : Bytes) :
    ∀ c ∈ (b64enc d).take ((b64enc d).length - 4), isB64Sym c = true := by
  fun_induction b64enc d with
  | case1 => simp
  | case2 a => simp [enc1]
  | case3 a b => simp [enc2]
  | case4 a b c r ih =>
    obtain ⟨w, x, y, z, he, _, _, hw, hx, hy, hz⟩ := dec4_enc3 a b c
    rw [he]
    have hl := b64enc_length_mod4 r
    intro ch hc
    by_cases hr : (b64enc r).length = 0
    · have : b64enc r = [] := List.eq_nil_of_length_eq_zero hr
      simp [this] at hc
    · have h4 : 4 ≤ (b64enc r).length := by omega
      have e : ([w, x, y, z] ++ b64enc r).length - 4 = ((b64enc r).length - 4) + 1 + 1 + 1 + 1 := by simp; omega
      rw [e] at hc
      simp only [List.cons_append, List.nil_append, List.take_succ_cons, List.mem_cons] at hc
      rcases hc with rfl | rfl | rfl | rfl | hc
      · exact hw
      · exact hx
      · exact hy
      · exact hz
      · exact ih ch hc

theorem decLast_eqs_head (x y z : Byte) : decLast EQS x y z = none := by
  by_cases hz : z = EQS
  · subst hz
    by_cases hy : y = EQS
    · rw [hy, decLast_pad2, b64val_eqs]; rfl
    · rw [decLast_pad1 hy, b64val_eqs]; rfl
  · rw [decLast_of_ne hz, dec4, b64val_eqs]; rfl

theorem b64dec_eqs_quantum (x y z : Byte) (s : Bytes) : ∀ p : Bytes, p.length % 4 = 0 →
    b64dec (p ++ EQS :: x :: y :: z :: s) = none
  | [], _ => by
    cases s with
    | nil => exact decLast_eqs_head x y z
    | cons c s' => rw [List.nil_append, b64dec_quad _ _ _ _ _ (List.cons_ne_nil _ _), dec4, b64val_eqs]; rfl
  | [_], hp | [_, _], hp | [_, _, _], hp => by simp at hp
  | a :: b :: c :: d :: r, hp => by
    have hl : (a :: b :: c :: d :: r).length = r.length + 4 := rfl
    rw [hl, Nat.add_mod_right] at hp
    rw [List.cons_append, List.cons_append, List.cons_append, List.cons_append,
      b64dec_quad _ _ _ _ _ (by simp), b64dec_eqs_quantum x y z s r hp]
    cases dec4 a b c d <;> rfl

/-- **canonical only**: whatever the strict decoder accepts is the encoding of what it returns
(no alternative padding, no non-zero spare bits, no foreign symbols) -/
theorem b64dec_canonical : ∀ (t d : Bytes), b64dec t = some d → b64enc d = t
  | [], d, h => by cases h; rfl
  | [_], _, h | [_, _], _, h | [_, _, _], _, h => by simp [b64dec] at h
  | [a, b, c, e], d, h => decLast_canonical a b c e d h
  | a :: b :: c :: e :: x :: r, d, h => by
    rw [b64dec_quad a b c e (x :: r) (List.cons_ne_nil _ _)] at h
    simp only [Option.bind_eq_some_iff, Option.some.injEq] at h
    obtain ⟨q, hq, rest, hr, rfl⟩ := h
    obtain ⟨x', y', z', rfl, henc⟩ := dec4_canonical a b c e q hq
    rw [List.cons_append, List.cons_append, List.cons_append, List.nil_append, b64enc, henc,
      b64dec_canonical _ _ hr]
    rfl

theorem decLast_length (a b c e : Byte) (q : Bytes) (h : decLast a b c e = some q) :
    1 ≤ q.length ∧ q.length ≤ 3 := by
  have hl := b64enc_length q
  rw [decLast_canonical a b c e q h] at hl
  simp only [List.length_cons, List.length_nil] at hl
  omega

end Rpgp.Armor
