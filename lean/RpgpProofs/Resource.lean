import RpgpModel.Resource
import RpgpProofs.Framing
import RpgpProofs.Canon
/-! Resource bounds (C19): allocation invariants of `Buf`, `take_bytes`, `rest`, subpacket vectors, embedded
signatures, `read_from_buf`, refill readers, decryptor buffers, S2K admission. -/
namespace Rpgp.Resource

/-! ### amortised growth and the allocation history of a vector -/

theorem le_growAmortized (m cap len add : Nat) : len + add ≤ growAmortized m cap len add :=
  Nat.le_trans (Nat.le_max_right _ _) (Nat.le_max_right _ _)

theorem double_le_growAmortized (m cap len add : Nat) : 2 * cap ≤ growAmortized m cap len add :=
  Nat.le_trans (Nat.le_max_left _ _) (Nat.le_max_right _ _)

theorem max_le_max {a b c d : Nat} (h1 : a ≤ c) (h2 : b ≤ d) : max a b ≤ max c d :=
  Nat.max_le.mpr ⟨Nat.le_trans h1 (Nat.le_max_left _ _), Nat.le_trans h2 (Nat.le_max_right _ _)⟩

theorem growAmortized_le (m cap len add : Nat) (h : cap ≤ len + add) :
    growAmortized m cap len add ≤ max m (2 * (len + add)) :=
  max_le_max (Nat.le_refl _) (Nat.max_le.mpr ⟨Nat.mul_le_mul_left 2 h, Nat.le_mul_of_pos_left _ (by decide)⟩)

theorem cap_le_mono {c0 m cap len len' : Nat} (h : cap ≤ max c0 (max m (2 * len))) (hl : len ≤ len') :
    cap ≤ max c0 (max m (2 * len')) :=
  Nat.le_trans h (max_le_max (Nat.le_refl _) (max_le_max (Nat.le_refl _) (Nat.mul_le_mul_left 2 hl)))

theorem peakOf_concat : ∀ (l : List Nat) (c : Nat),
    peakOf (l ++ [c]) = max (peakOf l) (l.getLast?.getD 0 + c)
  | [], c => show c = max 0 (0 + c) by omega
  | [x], c => show max (x + c) c = max x (x + c) by omega
  | x :: y :: r, c => by
    show max (x + y) (peakOf ((y :: r) ++ [c])) =
      max (max (x + y) (peakOf (y :: r))) ((y :: r).getLast?.getD 0 + c)
    rw [peakOf_concat (y :: r) c, Nat.max_assoc]

/-- what amortised doubling guarantees about the requests made to the allocator: the last one is the
current capacity, all together are at most twice it, the high-water mark at most 3/2 of it -/
structure AllocInv (b : Buf) : Prop where
  last : b.allocs = [] ∧ b.cap = 0 ∨ b.allocs.getLast? = some b.cap
  total_le : b.total ≤ 2 * b.cap
  peak_le : 2 * b.peak ≤ 3 * b.cap

theorem AllocInv.withCapacity (c : Nat) : AllocInv (Buf.withCapacity c) := by
  unfold Buf.withCapacity
  split
  · next h => exact ⟨.inl ⟨rfl, h⟩, Nat.zero_le _, Nat.zero_le _⟩
  · exact ⟨.inr rfl, by show c + 0 ≤ 2 * c; omega, by show 2 * c ≤ 3 * c; omega⟩

theorem AllocInv.grow {b : Buf} (h : AllocInv b) (c len : Nat) (hc : 2 * b.cap ≤ c) :
    AllocInv ⟨c, len, b.allocs ++ [c]⟩ := by
  have ht := h.total_le
  have hp := h.peak_le
  have hl : b.allocs.getLast?.getD 0 = b.cap := by
    rcases h.last with ⟨he, hz⟩ | hl
    · rw [he, hz]; rfl
    · rw [hl]; rfl
  refine ⟨.inr List.getLast?_concat, ?_, ?_⟩
  · simp only [Buf.total, List.sum_append, List.sum_cons, List.sum_nil] at ht ⊢; omega
  · simp only [Buf.peak, peakOf_concat, hl] at hp ⊢; omega

theorem AllocInv.withLen {b : Buf} (h : AllocInv b) (n : Nat) : AllocInv { b with len := n } :=
  ⟨h.last, h.total_le, h.peak_le⟩

/-- `AllocInv` for a vector that started with capacity `c0`, with the bound this gives on its capacity -/
structure BufInv (c0 : Nat) (b : Buf) : Prop where
  len_le : b.len ≤ b.cap
  cap_le : b.cap ≤ max c0 (max vecMinCapU8 (2 * b.len))
  last : b.allocs = [] ∧ b.cap = 0 ∨ b.allocs.getLast? = some b.cap
  total_le : b.total ≤ 2 * b.cap
  peak_le : 2 * b.peak ≤ 3 * b.cap

theorem BufInv.alloc {c0 : Nat} {b : Buf} (h : BufInv c0 b) : AllocInv b := ⟨h.last, h.total_le, h.peak_le⟩

theorem BufInv.of_alloc {c0 : Nat} {b : Buf} (hl : b.len ≤ b.cap)
    (hc : b.cap ≤ max c0 (max vecMinCapU8 (2 * b.len))) (h : AllocInv b) : BufInv c0 b :=
  ⟨hl, hc, h.last, h.total_le, h.peak_le⟩

theorem BufInv.cap_le_max {c0 : Nat} {b : Buf} (h : BufInv c0 b) {K : Nat} (hc : c0 ≤ K) (h8 : vecMinCapU8 ≤ K) :
    b.cap ≤ max K (2 * b.len) :=
  Nat.le_trans h.cap_le (Nat.max_le.mpr ⟨Nat.le_trans hc (Nat.le_max_left _ _), max_le_max h8 (Nat.le_refl _)⟩)

theorem BufInv.cap_le_add {c0 : Nat} {b : Buf} (h : BufInv c0 b) {K : Nat} (hc : c0 ≤ K) (h8 : vecMinCapU8 ≤ K) :
    b.cap ≤ 2 * b.len + K :=
  Nat.le_trans (h.cap_le_max hc h8) (Nat.max_le.mpr ⟨Nat.le_add_left _ _, Nat.le_add_right _ _⟩)

theorem BufInv.withCapacity (c : Nat) : BufInv c (Buf.withCapacity c) :=
  .of_alloc (Nat.zero_le _) (Nat.le_max_left _ _) (.withCapacity c)

theorem BufInv.extend {c0 : Nat} {b : Buf} (h : BufInv c0 b) (n : Nat) : BufInv c0 (b.extend n) := by
  unfold Buf.extend
  split
  · next hfit => exact .of_alloc hfit (cap_le_mono h.cap_le (Nat.le_add_right _ _)) (h.alloc.withLen _)
  · next hfit =>
    exact .of_alloc (le_growAmortized _ _ _ _)
      (Nat.le_trans (growAmortized_le _ _ _ _ (by omega)) (Nat.le_max_right _ _))
      (h.alloc.grow _ _ (double_le_growAmortized _ _ _ _))

theorem Buf.extend_len (b : Buf) (n : Nat) : (b.extend n).len = b.len + n := by
  unfold Buf.extend; split <;> rfl

theorem Buf.extend_cap_mono (b : Buf) (n : Nat) : b.cap ≤ (b.extend n).cap := by
  unfold Buf.extend
  split
  · exact Nat.le_refl _
  · exact Nat.le_trans (Nat.le_mul_of_pos_left _ (by decide)) (double_le_growAmortized _ _ _ _)

/-! ### `take_bytes` -/

theorem takeLoop_inv (c0 size : Nat) (src : List Bytes) (b : Buf) (h : BufInv c0 b) :
    BufInv c0 (takeLoop size src b).1 := by
  fun_induction takeLoop size src b with
  | case1 | case2 | case3 => exact h
  | case4 => exact h.extend _
  | case5 c cs b _ _ avail b' _ b'' rest k heq ih => rw [heq] at ih; exact ih (h.extend _)

theorem takeLoop_cap_mono (size : Nat) (src : List Bytes) (b : Buf) : b.cap ≤ (takeLoop size src b).1.cap := by
  fun_induction takeLoop size src b with
  | case1 | case2 | case3 => exact Nat.le_refl _
  | case4 => exact Buf.extend_cap_mono _ _
  | case5 c cs b _ _ avail b' _ b'' rest k heq ih => rw [heq] at ih; exact Nat.le_trans (Buf.extend_cap_mono _ _) ih

/-- bytes are neither lost nor made up, every round takes at least one, and the loop stops only when the
buffer is full or (a source without empty chunks) nothing is left -/
theorem takeLoop_spec (size : Nat) (src : List Bytes) (b : Buf) :
    (takeLoop size src b).1.len + (takeLoop size src b).2.1.flatten.length = b.len + src.flatten.length ∧
    (takeLoop size src b).2.2 + b.len ≤ (takeLoop size src b).1.len ∧
    (b.len ≤ size → (takeLoop size src b).1.len ≤ size) ∧
    ((∀ c ∈ src, c ≠ []) → size ≤ (takeLoop size src b).1.len ∨ (takeLoop size src b).2.1 = []) := by
  fun_induction takeLoop size src b with
  | case1 => exact ⟨rfl, Nat.le_of_eq (Nat.zero_add _), id, fun _ => .inr rfl⟩
  | case2 c cs b hfull => exact ⟨rfl, Nat.le_of_eq (Nat.zero_add _), id, fun _ => .inl hfull⟩
  | case3 => exact ⟨rfl, Nat.le_of_eq (Nat.zero_add _), id, fun hne => absurd rfl (hne [] List.mem_cons_self)⟩
  | case4 c cs b hlt hne avail b' h =>
    have hpos : 1 ≤ avail :=
      Nat.le_min.mpr ⟨Nat.sub_pos_of_lt (Nat.lt_of_not_le hlt), List.length_pos_iff.mpr hne⟩
    have hfull : b.len + avail = size := by omega
    simp only [b', Buf.extend_len, List.flatten_cons, List.length_append, List.length_drop]
    exact ⟨by rw [Nat.add_assoc, ← Nat.add_assoc avail, Nat.add_sub_cancel' (Nat.min_le_right _ _)],
      Nat.add_comm 1 _ ▸ Nat.add_le_add_left hpos _, fun _ => Nat.le_of_eq hfull,
      fun _ => .inl (Nat.le_of_eq hfull.symm)⟩
  | case5 c cs b hlt hne avail b' h b'' rest k heq ih =>
    have hav : avail = c.length := Nat.le_antisymm (Nat.min_le_right _ _) (Nat.le_of_not_lt h)
    have hfit : b.len + c.length ≤ size :=
      Nat.add_le_of_le_sub' (Nat.le_of_not_le hlt) (Nat.le_min.mp (Nat.le_of_not_lt h)).1
    have := List.length_pos_iff.mpr hne
    rw [heq] at ih
    simp only [b', Buf.extend_len, hav] at ih
    obtain ⟨i1, i2, i3, i4⟩ := ih
    rw [List.flatten_cons, List.length_append]
    exact ⟨i1.trans (Nat.add_assoc ..), by show k + 1 + b.len ≤ b''.len; omega,
      fun _ => i3 hfit, fun hn => i4 fun x hx => hn x (List.mem_cons_of_mem _ hx)⟩

theorem takeBytes_spec (size : Nat) (src : List Bytes) :
    BufInv (min size Gen.takeBytesPreallocCap) (takeBytesBuf size src) ∧
    (takeBytesBuf size src).len ≤ size ∧
    (takeBytesBuf size src).len ≤ src.flatten.length ∧
    takeBytesSteps size src ≤ (takeBytesBuf size src).len := by
  obtain ⟨h3, h4, h2, _⟩ := takeLoop_spec size src (Buf.withCapacity (min size Gen.takeBytesPreallocCap))
  change _ = 0 + _ at h3
  exact ⟨takeLoop_inv _ size src _ (.withCapacity _), h2 (Nat.zero_le _), by unfold takeBytesBuf; omega, h4⟩

theorem takeBytesOk_iff (size : Nat) (src : List Bytes) (hne : ∀ c ∈ src, c ≠ []) :
    takeBytesOk size src = true ↔ size ≤ src.flatten.length := by
  obtain ⟨h1, _, hle, hstop⟩ := takeLoop_spec size src (Buf.withCapacity (min size Gen.takeBytesPreallocCap))
  unfold takeBytesOk takeBytesBuf
  rw [beq_iff_eq, ← h1.trans (Nat.zero_add _)]
  refine ⟨fun e => Nat.le_trans (Nat.le_of_eq e.symm) (Nat.le_add_right _ _),
    fun hs => Nat.le_antisymm (hle (Nat.zero_le _)) ((hstop hne).elim id fun h => ?_)⟩
  rwa [h] at hs

theorem takeSeq_alloc : ∀ (sizes : List Nat) (src : List Bytes),
    ((takeSeq sizes src).map (·.cap)).sum ≤ 2 * src.flatten.length + Gen.takeBytesPreallocCap * sizes.length
  | [], src => Nat.zero_le _
  | s :: ss, src => by
    have hc := (takeLoop_inv _ s src _ (.withCapacity (min s Gen.takeBytesPreallocCap))).cap_le_add
      (Nat.min_le_right _ _) (by decide)
    have hcons := (takeLoop_spec s src (Buf.withCapacity (min s Gen.takeBytesPreallocCap))).1
    have ih := takeSeq_alloc ss (takeLoop s src (Buf.withCapacity (min s Gen.takeBytesPreallocCap))).2.1
    rw [takeSeq, List.length_cons, Nat.mul_succ]
    generalize takeLoop s src (Buf.withCapacity (min s Gen.takeBytesPreallocCap)) = r at *
    change r.1.len + _ = 0 + _ at hcons
    have htail : ((if r.1.len = s then takeSeq ss r.2.1 else []).map (·.cap)).sum ≤
        2 * r.2.1.flatten.length + Gen.takeBytesPreallocCap * ss.length := by
      split
      · exact ih
      · exact Nat.zero_le _
    rw [List.map_cons, List.sum_cons]
    omega

/-! ### `rest` -/

structure RestInv (b : Buf) : Prop where
  len_le : b.len ≤ b.cap
  cap_le : b.cap ≤ 2 * b.len + 32
  alloc : AllocInv b

/-- `reserve(32)` on a full vector -/
theorem RestInv.reserve {b : Buf} (h : RestInv b) (hfull : b.len = b.cap) :
    RestInv ⟨growAmortized vecMinCapU8 b.cap b.len 32, b.len, b.allocs ++ [growAmortized vecMinCapU8 b.cap b.len 32]⟩ := by
  refine ⟨Nat.le_trans (Nat.le_add_right _ _) (le_growAmortized ..), ?_, h.alloc.grow _ _ (double_le_growAmortized ..)⟩
  show max 8 (max (2 * b.cap) (b.len + 32)) ≤ 2 * b.len + 32
  omega

theorem RestInv.read {b : Buf} (h : RestInv b) (n : Nat) (hn : b.len + n ≤ b.cap) : RestInv { b with len := b.len + n } :=
  ⟨hn, Nat.le_trans h.cap_le (Nat.add_le_add_right (Nat.mul_le_mul_left 2 (Nat.le_add_right _ _)) _), h.alloc.withLen _⟩

theorem readToEnd_spec (fuel rem : Nat) (b : Buf) (h : RestInv b) (hr : rem ≤ fuel) :
    RestInv (readToEnd fuel rem b) ∧ (readToEnd fuel rem b).len = b.len + rem := by
  fun_induction readToEnd fuel rem b with
  | case1 rem b => exact ⟨h, by omega⟩
  | case2 fuel b => exact ⟨h, rfl⟩
  | case3 fuel rem b h0 b1 n ih =>
    -- after the `reserve` there is room for at least one byte
    have h1 : RestInv b1 ∧ b1.len = b.len ∧ b1.len < b1.cap := by
      simp only [b1]
      split
      · next hfull =>
        exact ⟨h.reserve hfull, rfl, Nat.lt_of_lt_of_le (Nat.lt_add_of_pos_right (by decide)) (le_growAmortized ..)⟩
      · exact ⟨h, rfl, Nat.lt_of_le_of_ne h.len_le ‹_›⟩
    obtain ⟨hb1, hlen, hlt⟩ := h1
    have hn1 : 1 ≤ n := Nat.le_min.mpr ⟨Nat.pos_of_ne_zero h0, Nat.sub_pos_of_lt hlt⟩
    have hn2 : n ≤ rem := Nat.min_le_left _ _
    obtain ⟨i1, i2⟩ := ih (hb1.read n (Nat.add_le_of_le_sub' (Nat.le_of_lt hlt) (Nat.min_le_right _ _))) (by omega)
    exact ⟨i1, by rw [i2]; simp only; omega⟩

theorem restBuf_spec (n : Nat) : RestInv (restBuf n) ∧ (restBuf n).len = n := by
  have := readToEnd_spec (n + 1) n _ ⟨Nat.le_refl _, Nat.zero_le _, .withCapacity 0⟩ (Nat.le_succ n)
  rwa [show (Buf.withCapacity 0).len + n = n from Nat.zero_add n] at this

/-! ### MPI -/

theorem mpiRead_spec (bits : Nat) (src : List Bytes) :
    (Gen.maxExternMpiBits < bits → mpiRead bits src = (.tooLarge, Buf.withCapacity 0)) ∧
    (mpiRead bits src).2.len ≤ (Gen.maxExternMpiBits + Gen.mpiRoundAdd) / 2 ^ Gen.mpiRoundShift ∧
    (mpiRead bits src).2.len ≤ src.flatten.length ∧
    (mpiRead bits src).2.cap ≤ max Gen.takeBytesPreallocCap (2 * (mpiRead bits src).2.len) := by
  unfold mpiRead
  split
  · exact ⟨fun _ => rfl, Nat.zero_le _, Nat.zero_le _, Nat.zero_le _⟩
  · next h =>
    obtain ⟨h1, h2, h3, _⟩ := takeBytes_spec ((bits + Gen.mpiRoundAdd) / 2 ^ Gen.mpiRoundShift) src
    exact ⟨fun h' => absurd h' h,
      Nat.le_trans h2 (Nat.div_le_div_right (Nat.add_le_add_right (Nat.le_of_not_lt h) _)), h3,
      h1.cap_le_max (Nat.min_le_right _ _) (by decide)⟩

/-! ### subpacket areas -/

theorem subLen_consumes (a r : Bytes) (l : Nat) (h : subLen a = some (l, r)) : r.length + 1 ≤ a.length := by
  revert h
  fun_cases subLen a <;> intro h <;> cases h
  · exact Nat.le_refl _
  · exact Nat.le_succ _
  · simp only [List.length_drop, List.length_cons]; omega

theorem vecPushCap_inv (c0 cap n : Nat) (h1 : n ≤ cap) (h2 : cap ≤ max c0 (max 4 (2 * n))) :
    n + 1 ≤ vecPushCap cap n ∧ vecPushCap cap n ≤ max c0 (max 4 (2 * (n + 1))) := by
  unfold vecPushCap
  split
  · next h => exact ⟨h, cap_le_mono h2 (Nat.le_succ n)⟩
  · next h => exact ⟨le_growAmortized _ _ _ _,
      Nat.le_trans (growAmortized_le _ _ _ _ (by omega)) (Nat.le_max_right _ _)⟩

theorem subpacketsLoop_spec (c0 fuel : Nat) (area : Bytes) (cap n n' cap' : Nat)
    (h : subpacketsLoop fuel area cap n = some (n', cap')) (h1 : n ≤ cap) (h2 : cap ≤ max c0 (max 4 (2 * n))) :
    n' ≤ cap' ∧ cap' ≤ max c0 (max 4 (2 * n')) ∧ 2 * n' ≤ 2 * n + area.length := by
  fun_induction subpacketsLoop fuel area cap n with
  | case1 | case3 | case4 | case5 | case6 => cases h
  | case2 => cases h; exact ⟨h1, h2, Nat.le_add_right _ _⟩
  | case7 fuel area cap n _ l _ t r' _ hs ih =>
    obtain ⟨p1, p2⟩ := vecPushCap_inv c0 cap n h1 h2
    obtain ⟨i1, i2, i3⟩ := ih h p1 p2
    have hcons := subLen_consumes area _ l hs
    rw [List.length_drop] at i3
    rw [List.length_cons] at hcons
    exact ⟨i1, i2, by omega⟩

theorem subpacketsShape_spec (declared : Nat) (area : Bytes) (n cap : Nat)
    (h : subpacketsShape declared area = some (n, cap)) :
    n ≤ cap ∧ cap ≤ max Gen.subpacketVecCapLimit (2 * n) ∧ 2 * n ≤ area.length := by
  obtain ⟨h1, h2, h4⟩ := subpacketsLoop_spec Gen.subpacketVecCapLimit _ _ _ _ _ _ h (Nat.zero_le _)
    (Nat.le_trans (Nat.min_le_right _ _) (Nat.le_max_left _ _))
  exact ⟨h1, Nat.le_trans h2 (Nat.max_le.mpr ⟨Nat.le_max_left _ _, max_le_max (by decide) (Nat.le_refl _)⟩),
    Nat.le_trans h4 (Nat.le_of_eq (Nat.zero_add _))⟩

/-! ### signature bodies and subpacket areas as the cost functions read them

`sigCost`, `sigCopyUncapped` and `sigDepthUncapped` split a signature body into its two areas in the same
way, once per version; `areaCost`, `areaCopyUncapped` and `areaDepthUncapped` take the first subpacket off
an area in the same way.  `sigAreas` and `firstSub` name the two steps. -/

/-- width of the two area-length fields of a version-`v` signature -/
def lenWidth (v : Nat) : Nat := if v = 4 then 2 else 4

/-- hashed and unhashed area of a signature body with `w`-octet area lengths, `r` being what follows the
version, type and the two algorithm octets -/
def areas (w : Nat) (r : Bytes) : Bytes × Bytes :=
  let hl := beNat (r.take w)
  let r := r.drop w
  (r.take hl, ((r.drop hl).drop w).take (beNat ((r.drop hl).take w)))

/-- the two areas of a version 4 or 6 signature body -/
def sigAreas : Bytes → Option (Bytes × Bytes)
  | [] => none
  | v :: r => if v.toNat = 4 ∨ v.toNat = 6 then some (areas (lenWidth v.toNat) (r.drop 3)) else none

/-- type octet and body of the first subpacket of an area, and what follows it -/
def firstSub (a : Bytes) : Option (UInt8 × Bytes × Bytes) :=
  match subLen a with
  | none => none
  | some (l, r) =>
    if l = 0 then none
    else
      match r with
      | [] => none
      | t :: r' => some (t, r'.take (l - 1), r'.drop (l - 1))

theorem areas_length_le (w : Nat) (r : Bytes) : (areas w r).1.length + (areas w r).2.length ≤ r.length := by
  -- one after the other, the areas are a sublist of `r.drop w`: a prefix of it, and part of what follows the prefix
  have h : ((areas w r).1 ++ (areas w r).2).Sublist (r.drop w) :=
    List.take_append_drop (beNat (r.take w)) (r.drop w) ▸
      (List.Sublist.refl _).append ((List.take_sublist _ _).trans (List.drop_sublist _ _))
  exact List.length_append ▸ (h.trans (List.drop_sublist w r)).length_le

theorem sigAreas_length_le {b a1 a2 : Bytes} (h : sigAreas b = some (a1, a2)) :
    a1.length + a2.length ≤ b.length := by
  cases b with
  | nil => cases h
  | cons v r =>
    simp only [sigAreas] at h
    split at h
    · cases h
      exact Nat.le_trans (areas_length_le _ _) (Nat.le_trans (List.drop_sublist 3 r).length_le (Nat.le_succ _))
    · cases h

theorem firstSub_length_le {a body rest : Bytes} {t : UInt8} (h : firstSub a = some (t, body, rest)) :
    body.length + rest.length ≤ a.length := by
  unfold firstSub at h
  split at h
  · cases h
  · next l r hs =>
    have hc := subLen_consumes a r l hs
    split at h
    · cases h
    · split at h
      · cases h
      · next r' =>
        cases h
        have := congrArg List.length (List.take_append_drop (l - 1) r')
        rw [List.length_append] at this
        rw [List.length_cons] at hc
        omega

/-- the version dispatch shared by `sigCost`, `sigCopyUncapped` and `sigDepthUncapped`: `z` for an empty
body or another version, `g` on the two areas -/
theorem sigAreas_elim {α : Type} (z : α) (g : Bytes → Bytes → α) (b : Bytes) :
    (match sigAreas b with
      | none => z
      | some (a1, a2) => g a1 a2) =
    match b with
    | [] => z
    | v :: r =>
      if v.toNat = 4 then g (areas 2 (r.drop 3)).1 (areas 2 (r.drop 3)).2
      else if v.toNat = 6 then g (areas 4 (r.drop 3)).1 (areas 4 (r.drop 3)).2
      else z := by
  cases b with
  | nil => rfl
  | cons v r =>
    simp only [sigAreas, lenWidth]
    by_cases h4 : v.toNat = 4
    · simp only [h4, true_or, if_true]
    · by_cases h6 : v.toNat = 6
      · simp only [h6, or_true, if_true]; rfl
      · simp only [h4, h6, or_self, if_false]

/-- the first-subpacket dispatch shared by `areaCost`, `areaCopyUncapped` and `areaDepthUncapped` -/
theorem firstSub_elim {α : Type} (z : α) (g : UInt8 → Bytes → Bytes → α) (a : Bytes) :
    (match firstSub a with
      | none => z
      | some (t, body, rest) => g t body rest) =
    match subLen a with
    | none => z
    | some (l, r) =>
      if l = 0 then z
      else
        match r with
        | [] => z
        | t :: r' => g t (r'.take (l - 1)) (r'.drop (l - 1)) := by
  unfold firstSub
  rcases subLen a with _ | ⟨l, r⟩
  · rfl
  · by_cases hl : l = 0
    · simp only [hl, if_true]
    · cases r <;> simp only [hl, if_false]

theorem areaCost_zero (cap depth : Nat) (a : Bytes) : areaCost cap 0 depth a = ⟨0, true, depth⟩ := by
  rw [areaCost]

theorem sigCost_zero (cap depth : Nat) (b : Bytes) : sigCost cap 0 depth b = ⟨0, true, depth⟩ := by
  rw [sigCost]

theorem sigCost_succ (cap fuel depth : Nat) (b : Bytes) :
    sigCost cap (fuel + 1) depth b =
      match sigAreas b with
      | none => ⟨0, true, depth⟩
      | some (a1, a2) =>
        let c1 := areaCost cap fuel depth a1
        if c1.ok then
          let c2 := areaCost cap fuel depth a2
          ⟨c1.copy + c2.copy, c2.ok, max c1.reach c2.reach⟩
        else c1 := by
  unfold sigCost; symm; exact sigAreas_elim _ _ b

theorem sigCopyUncapped_succ (fuel : Nat) (b : Bytes) :
    sigCopyUncapped (fuel + 1) b =
      match sigAreas b with
      | none => 0
      | some (a1, a2) => areaCopyUncapped fuel a1 + areaCopyUncapped fuel a2 := by
  unfold sigCopyUncapped; symm; exact sigAreas_elim _ _ b

theorem sigDepthUncapped_succ (fuel : Nat) (b : Bytes) :
    sigDepthUncapped (fuel + 1) b =
      match sigAreas b with
      | none => 0
      | some (a1, a2) => max (areaDepthUncapped fuel a1) (areaDepthUncapped fuel a2) := by
  unfold sigDepthUncapped; symm; exact sigAreas_elim _ _ b

theorem areaCost_succ (cap fuel depth : Nat) (a : Bytes) :
    areaCost cap (fuel + 1) depth a =
      match firstSub a with
      | none => ⟨0, true, depth⟩
      | some (t, body, rest) =>
        if isEmbedded t then
          if cap ≤ depth then ⟨0, false, depth⟩
          else
            let c1 := sigCost cap fuel (depth + 1) body
            if c1.ok then
              let c2 := areaCost cap fuel depth rest
              ⟨body.length + c1.copy + c2.copy, c2.ok, max c1.reach c2.reach⟩
            else ⟨body.length + c1.copy, false, c1.reach⟩
        else areaCost cap fuel depth rest := by
  rw [areaCost]; symm; exact firstSub_elim _ _ a

theorem areaCopyUncapped_succ (fuel : Nat) (a : Bytes) :
    areaCopyUncapped (fuel + 1) a =
      match firstSub a with
      | none => 0
      | some (t, body, rest) =>
        (if isEmbedded t then body.length + sigCopyUncapped fuel body else 0) + areaCopyUncapped fuel rest := by
  rw [areaCopyUncapped]; symm; exact firstSub_elim _ _ a

theorem areaDepthUncapped_succ (fuel : Nat) (a : Bytes) :
    areaDepthUncapped (fuel + 1) a =
      match firstSub a with
      | none => 0
      | some (t, body, rest) =>
        max (if isEmbedded t then 1 + sigDepthUncapped fuel body else 0) (areaDepthUncapped fuel rest) := by
  rw [areaDepthUncapped]; symm; exact firstSub_elim _ _ a

/-! ### embedded signatures: depth reached and bytes copied -/

theorem sig_area_reach (cap : Nat) : ∀ (fuel depth : Nat),
    (∀ b : Bytes, depth ≤ (sigCost cap fuel depth b).reach ∧ (sigCost cap fuel depth b).reach ≤ max cap depth) ∧
    (∀ a : Bytes, depth ≤ (areaCost cap fuel depth a).reach ∧ (areaCost cap fuel depth a).reach ≤ max cap depth) := by
  intro fuel
  induction fuel with
  | zero =>
    intro depth
    simp only [sigCost_zero, areaCost_zero]
    exact ⟨fun _ => ⟨Nat.le_refl _, Nat.le_max_right _ _⟩, fun _ => ⟨Nat.le_refl _, Nat.le_max_right _ _⟩⟩
  | succ fuel ih =>
    intro depth
    have iha := (ih depth).2
    have hbase : depth ≤ depth ∧ depth ≤ max cap depth := ⟨Nat.le_refl _, Nat.le_max_right _ _⟩
    have both : ∀ {r1 r2 : Nat}, depth ≤ r1 ∧ r1 ≤ max cap depth → depth ≤ r2 ∧ r2 ≤ max cap depth →
        depth ≤ max r1 r2 ∧ max r1 r2 ≤ max cap depth :=
      fun h1 h2 => ⟨Nat.le_trans h1.1 (Nat.le_max_left _ _), Nat.max_le.mpr ⟨h1.2, h2.2⟩⟩
    constructor
    · intro b
      rw [sigCost_succ]
      split
      · exact hbase
      · next a1 a2 _ =>
        simp only
        split
        · exact both (iha a1) (iha a2)
        · exact iha a1
    · intro a
      rw [areaCost_succ]
      split
      · exact hbase
      · next t body rest _ =>
        split
        · split
          · exact hbase
          · next hc =>
            -- one level down is still under the cap
            have h1 : depth ≤ (sigCost cap fuel (depth + 1) body).reach ∧
                (sigCost cap fuel (depth + 1) body).reach ≤ max cap depth := by
              have := (ih (depth + 1)).1 body
              exact ⟨Nat.le_of_succ_le this.1, Nat.le_trans this.2 (Nat.max_le.mpr
                ⟨Nat.le_max_left _ _, Nat.le_trans (Nat.lt_of_not_le hc) (Nat.le_max_left _ _)⟩)⟩
            simp only
            split
            · exact both h1 (iha rest)
            · exact h1
        · exact iha rest

/-- bytes copied at two places, each within its own multiple of its own part of `n` bytes -/
theorem mix_le {x y dx dy d A B n : Nat} (hx : x ≤ dx * A) (hy : y ≤ dy * B) (hdx : dx ≤ d) (hdy : dy ≤ d)
    (hAB : A + B ≤ n) : x + y ≤ d * n :=
  calc x + y ≤ d * A + d * B :=
        Nat.add_le_add (Nat.le_trans hx (Nat.mul_le_mul_right _ hdx)) (Nat.le_trans hy (Nat.mul_le_mul_right _ hdy))
    _ = d * (A + B) := (Nat.mul_add _ _ _).symm
    _ ≤ d * n := Nat.mul_le_mul_left _ hAB

/-- entering an embedded signature costs its length once more, and one level more is reached -/
theorem enter_le {copy reach depth n : Nat} (h1 : copy ≤ (reach - (depth + 1)) * n) (h2 : depth + 1 ≤ reach) :
    n + copy ≤ (reach - depth) * n := by
  obtain ⟨k, rfl⟩ := Nat.exists_eq_add_of_le h2
  rw [Nat.add_sub_cancel_left] at h1
  rw [Nat.add_assoc, Nat.add_sub_cancel_left, Nat.add_mul, Nat.one_mul]
  exact Nat.add_le_add_left h1 n

theorem sig_area_copy_reach (cap : Nat) : ∀ (fuel depth : Nat),
    (∀ b : Bytes, (sigCost cap fuel depth b).copy ≤ ((sigCost cap fuel depth b).reach - depth) * b.length) ∧
    (∀ a : Bytes, (areaCost cap fuel depth a).copy ≤ ((areaCost cap fuel depth a).reach - depth) * a.length) := by
  intro fuel
  induction fuel with
  | zero =>
    intro depth
    simp only [sigCost_zero, areaCost_zero]
    exact ⟨fun _ => Nat.zero_le _, fun _ => Nat.zero_le _⟩
  | succ fuel ih =>
    intro depth
    have iha := (ih depth).2
    constructor
    · intro b
      rw [sigCost_succ]
      split
      · exact Nat.zero_le _
      · next a1 a2 hs =>
        have hlen := sigAreas_length_le hs
        simp only
        split
        · exact mix_le (iha a1) (iha a2) (Nat.sub_le_sub_right (Nat.le_max_left _ _) _)
            (Nat.sub_le_sub_right (Nat.le_max_right _ _) _) hlen
        · exact Nat.le_trans (iha a1) (Nat.mul_le_mul_left _ (Nat.le_trans (Nat.le_add_right _ _) hlen))
    · intro a
      rw [areaCost_succ]
      split
      · exact Nat.zero_le _
      · next t body rest hs =>
        have hlen := firstSub_length_le hs
        have hin := enter_le ((ih (depth + 1)).1 body) ((sig_area_reach cap fuel (depth + 1)).1 body).1
        split
        · split
          · exact Nat.zero_le _
          · simp only
            split
            · exact mix_le hin (iha rest) (Nat.sub_le_sub_right (Nat.le_max_left _ _) _)
                (Nat.sub_le_sub_right (Nat.le_max_right _ _) _) hlen
            · exact Nat.le_trans hin (Nat.mul_le_mul_left _ (Nat.le_trans (Nat.le_add_right _ _) hlen))
        · exact Nat.le_trans (iha rest) (Nat.mul_le_mul_left _ (Nat.le_trans (Nat.le_add_left _ _) hlen))

theorem sig_area_cost_le (cap fuel depth : Nat) :
    (∀ b : Bytes, (sigCost cap fuel depth b).copy ≤ (cap - depth) * b.length) ∧
    (∀ a : Bytes, (areaCost cap fuel depth a).copy ≤ (cap - depth) * a.length) := by
  obtain ⟨hs, ha⟩ := sig_area_copy_reach cap fuel depth
  obtain ⟨rs, ra⟩ := sig_area_reach cap fuel depth
  have sub : ∀ {r : Nat}, r ≤ max cap depth → r - depth ≤ cap - depth := by omega
  exact ⟨fun b => Nat.le_trans (hs b) (Nat.mul_le_mul_right _ (sub (rs b).2)),
    fun a => Nat.le_trans (ha a) (Nat.mul_le_mul_right _ (sub (ra a).2))⟩

theorem sigCost_of_cap_large (cap : Nat) : ∀ (fuel depth : Nat), depth + fuel ≤ cap →
    (∀ b : Bytes, sigCost cap fuel depth b = ⟨sigCopyUncapped fuel b, true, depth + sigDepthUncapped fuel b⟩) ∧
    (∀ a : Bytes, areaCost cap fuel depth a = ⟨areaCopyUncapped fuel a, true, depth + areaDepthUncapped fuel a⟩) := by
  intro fuel
  induction fuel with
  | zero =>
    intro depth _
    exact ⟨fun _ => by rw [sigCost, sigCopyUncapped, sigDepthUncapped]; rfl,
      fun _ => by rw [areaCost, areaCopyUncapped, areaDepthUncapped]; rfl⟩
  | succ fuel ih =>
    intro depth hd
    have iha := (ih depth (by omega)).2
    have ihs := (ih (depth + 1) (by omega)).1
    constructor
    · intro b
      rw [sigCost_succ, sigCopyUncapped_succ, sigDepthUncapped_succ]
      split
      · rfl
      · simp only [iha, if_true, Nat.add_max_add_left]
    · intro a
      rw [areaCost_succ, areaCopyUncapped_succ, areaDepthUncapped_succ]
      split
      · rfl
      · next t body rest _ =>
        have hc : ¬ cap ≤ depth := by omega
        simp only [iha, ihs, hc, if_true, if_false]
        split
        · rw [Nat.add_assoc depth 1, Nat.add_max_add_left]
        · rw [Nat.zero_add, Nat.zero_max]

theorem sig_area_copy_le : ∀ (fuel : Nat),
    (∀ b : Bytes, sigCopyUncapped fuel b ≤ sigDepthUncapped fuel b * b.length) ∧
    (∀ a : Bytes, areaCopyUncapped fuel a ≤ areaDepthUncapped fuel a * a.length) := by
  intro fuel
  obtain ⟨hs, ha⟩ := sig_area_copy_reach fuel fuel 0
  obtain ⟨es, ea⟩ := sigCost_of_cap_large fuel fuel 0 (Nat.le_of_eq (Nat.zero_add _))
  simp only [es, ea, Nat.zero_add, Nat.sub_zero] at hs ha
  exact ⟨hs, ha⟩

/-! ### the witness family `nestSig` -/

theorem areas_encode (w : Nat) (a u t : Bytes) (ha : a.length < 256 ^ w) (hu : u.length < 256 ^ w) :
    areas w (beBytes w a.length ++ a ++ beBytes w u.length ++ u ++ t) = (a, u) := by
  have hw := beBytes_length w
  simp only [areas, List.append_assoc]
  rw [List.take_left' (hw _), List.drop_left' (hw _), beNat_beBytes_of_lt ha, List.take_left' rfl,
    List.drop_left' rfl, List.take_left' (hw _), List.drop_left' (hw _), beNat_beBytes_of_lt hu,
    List.take_left' rfl]

theorem subLen_five (n : Nat) (r : Bytes) (h : n < 4294967296) : subLen (255 :: (be32 n ++ r)) = some (n, r) := by
  have e1 : ¬ ((255 : UInt8).toNat ≤ Gen.subLenOneOctetMax) := by decide
  have e2 : ¬ ((255 : UInt8).toNat ≤ Gen.subLenTwoOctetMax) := by decide
  have hl := be32_length n
  have e3 : ¬ (be32 n ++ r).length < 4 := by rw [List.length_append, hl]; omega
  simp only [subLen, e1, e2, e3, if_false, List.take_left' hl, List.drop_left' hl, beNat_be32 n h]

theorem firstSub_five (t : UInt8) (body : Bytes) (h : body.length + 1 < 4294967296) :
    firstSub (255 :: (be32 (body.length + 1) ++ t :: body)) = some (t, body, []) := by
  simp only [firstSub, subLen_five _ _ h, Nat.add_sub_cancel, Nat.succ_ne_zero, if_false, List.take_length,
    List.drop_length]

theorem areaCost_nil (cap f depth : Nat) : areaCost cap f depth [] = ⟨0, true, depth⟩ := by
  cases f with
  | zero => exact areaCost_zero ..
  | succ f => rw [areaCost_succ]; rfl

theorem areaCost_embedded (cap f depth : Nat) (s : Bytes) (h : s.length + 1 < 4294967296) :
    areaCost cap (f + 1) depth (255 :: (be32 (s.length + 1) ++ 32 :: s)) =
      if cap ≤ depth then ⟨0, false, depth⟩
      else ⟨s.length + (sigCost cap f (depth + 1) s).copy, (sigCost cap f (depth + 1) s).ok,
        max depth (sigCost cap f (depth + 1) s).reach⟩ := by
  have e : isEmbedded 32 = true := by decide
  have hr := ((sig_area_reach cap f (depth + 1)).1 s).1
  rw [areaCost_succ, firstSub_five 32 s h]
  simp only [e, if_true, areaCost_nil]
  split
  · rfl
  · split
    · next hok => rw [hok, Nat.add_zero, Nat.max_comm]
    · next hok => rw [Bool.not_eq_true] at hok; rw [hok, Nat.max_eq_right (by omega)]

theorem take_six_add {α} (n : Nat) (a b c d e f : α) (r : List α) :
    (a :: b :: c :: d :: e :: f :: r).take (n + 6) = a :: b :: c :: d :: e :: f :: r.take n := rfl

theorem sigAreas_nestWrap (ver : Nat) (hver : ver = 4 ∨ ver = 6) (s : Bytes)
    (h : s.length + 6 < 256 ^ lenWidth ver) :
    sigAreas (nestWrap ver s) = some ([], 255 :: (be32 (s.length + 1) ++ 32 :: s)) := by
  have hu : (255 :: (be32 (s.length + 1) ++ 32 :: s)).length = s.length + 6 := by
    rw [List.length_cons, List.length_append, be32_length, List.length_cons, Nat.add_comm 4]
  -- one list for both versions (`rfl` only re-brackets): they differ in the width of the two length fields
  -- and in what follows the areas
  have e : ∃ (v : UInt8) (t : Bytes), v.toNat = ver ∧ nestWrap ver s = v :: 0 :: 1 :: 8 ::
      (beBytes (lenWidth ver) 0 ++ [] ++ beBytes (lenWidth ver) (s.length + 6) ++
        255 :: (be32 (s.length + 1) ++ 32 :: s) ++ t) := by
    rcases hver with rfl | rfl
    · exact ⟨4, nestTail4, rfl, by rfl⟩
    · exact ⟨6, nestTail6, rfl, by rfl⟩
  obtain ⟨v, t, rfl, e⟩ := e
  rw [e, sigAreas, if_pos hver, ← hu]
  exact congrArg some (areas_encode _ [] _ t (Nat.pow_pos (by decide)) (hu ▸ h))

theorem sigCost_wrap (cap f depth ver : Nat) (hver : ver = 4 ∨ ver = 6) (s : Bytes)
    (h : s.length + 6 < 256 ^ lenWidth ver) :
    sigCost cap (f + 2) depth (nestWrap ver s) =
      if cap ≤ depth then ⟨0, false, depth⟩
      else ⟨s.length + (sigCost cap f (depth + 1) s).copy, (sigCost cap f (depth + 1) s).ok,
        max depth (sigCost cap f (depth + 1) s).reach⟩ := by
  have h32 : s.length + 1 < 4294967296 := by
    have : 256 ^ lenWidth ver ≤ 4294967296 := by rcases hver with rfl | rfl <;> decide
    omega
  rw [sigCost_succ, sigAreas_nestWrap ver hver s h]
  simp only [areaCost_nil, if_true, areaCost_embedded cap f depth s h32, Nat.zero_add]
  split
  · simp only [Nat.max_self]
  · rw [Nat.max_eq_right (Nat.le_max_left _ _)]

theorem sigAreas_nestBase (ver : Nat) (hver : ver = 4 ∨ ver = 6) : sigAreas (nestBase ver) = some ([], []) := by
  rcases hver with rfl | rfl <;> rfl

theorem sigCost_base (cap ver f depth : Nat) (hver : ver = 4 ∨ ver = 6) :
    sigCost cap f depth (nestBase ver) = ⟨0, true, depth⟩ := by
  cases f with
  | zero => exact sigCost_zero ..
  | succ f =>
    rw [sigCost_succ, sigAreas_nestBase ver hver]
    simp only [areaCost_nil, if_true, Nat.max_self]

theorem nestWrap_length (ver : Nat) (s : Bytes) :
    (nestWrap ver s).length = s.length + (if ver = 4 then 19 else 40) := by
  unfold nestWrap
  split <;> simp only [List.length_append, List.length_cons, List.length_nil, be16_length, be32_length,
    nestTail4, nestTail6, List.length_replicate] <;> omega

theorem nestSig_length (ver : Nat) : ∀ d, (nestSig ver d).length = nestLen ver d
  | 0 => by unfold nestSig nestBase nestLen; split <;> rfl
  | d + 1 => by
    rw [nestSig, nestWrap_length, nestSig_length ver d]
    unfold nestLen; split <;> omega

theorem nestLen_succ (ver d : Nat) : nestLen ver d + 6 ≤ nestLen ver (d + 1) := by
  unfold nestLen; split <;> omega

theorem nestSig_fits {ver d N : Nat} (h : nestLen ver (d + 1) < N) : (nestSig ver d).length + 6 < N :=
  nestSig_length ver d ▸ Nat.lt_of_le_of_lt (nestLen_succ ver d) h

theorem nestSig_capped (ver : Nat) (hver : ver = 4 ∨ ver = 6) : ∀ (d f depth k : Nat), 2 * d + 1 ≤ f →
    nestLen ver d < 256 ^ lenWidth ver →
    sigCost (depth + k) f depth (nestSig ver d) = ⟨nestCopyCapped ver d k, decide (d ≤ k), depth + min d k⟩
  | 0, f, depth, k, _, _ => by
    rw [nestSig, sigCost_base _ _ _ _ hver, nestCopyCapped, Nat.zero_min, decide_eq_true (Nat.zero_le k)]; rfl
  | d + 1, f + 2, depth, 0, hf, hsz => by
    rw [nestSig, sigCost_wrap _ _ _ _ hver _ (nestSig_fits hsz), if_pos (Nat.le_of_eq (Nat.add_zero _))]
    rfl
  | d + 1, f + 2, depth, k + 1, hf, hsz => by
    have hsz' : nestLen ver d < 256 ^ lenWidth ver :=
      Nat.lt_of_le_of_lt (Nat.le_trans (Nat.le_add_right _ 6) (nestLen_succ ver d)) hsz
    rw [nestSig, sigCost_wrap _ _ _ _ hver _ (nestSig_fits hsz),
      if_neg (Nat.not_le.mpr (Nat.lt_add_of_pos_right (Nat.succ_pos k))), ← Nat.add_assoc, Nat.add_right_comm,
      nestSig_capped ver hver d f (depth + 1) k (by omega) hsz', nestSig_length, nestCopyCapped]
    dsimp only
    rw [Nat.max_eq_right (Nat.le_trans (Nat.le_succ _) (Nat.le_add_right _ _)), Nat.succ_min_succ,
      Nat.succ_add_eq_add_succ]
    simp only [Nat.succ_le_succ_iff]

theorem nestCopyCapped_le (ver : Nat) : ∀ (d k : Nat), nestCopyCapped ver d k ≤ k * nestLen ver d
  | 0, _ => Nat.zero_le _
  | _ + 1, 0 => Nat.zero_le _
  | d + 1, k + 1 => by
    have ih := nestCopyCapped_le ver d k
    have hmono : nestLen ver d ≤ nestLen ver (d + 1) := Nat.le_trans (Nat.le_add_right _ _) (nestLen_succ ver d)
    have h2 : k * nestLen ver d ≤ k * nestLen ver (d + 1) := Nat.mul_le_mul_left _ hmono
    rw [nestCopyCapped, Nat.add_mul, Nat.one_mul]
    omega

theorem tri (d : Nat) : (d + 1) * d / 2 = d * (d - 1) / 2 + d := by
  cases d with
  | zero => rfl
  | succ k =>
    rw [Nat.add_sub_cancel, show (k + 1 + 1) * (k + 1) = (k + 1) * k + (k + 1) * 2 by
      rw [← Nat.mul_add, Nat.mul_comm], Nat.add_mul_div_right _ _ (by decide : 0 < 2)]

theorem nestCopyClosed_succ (ver d : Nat) :
    nestCopyClosed ver (d + 1) = nestLen ver d + nestCopyClosed ver d := by
  unfold nestCopyClosed nestLen
  rw [Nat.add_sub_cancel, tri]
  split <;> omega

theorem nestCopyClosed_gt_linear (a c : Nat) :
    a * nestLen 6 (2 * (a + c) + 2) + c < nestCopyClosed 6 (2 * (a + c) + 2) := by
  show a * (34 + 40 * (2 * (a + c) + 2)) + c <
    34 * (2 * (a + c) + 2) + 40 * ((2 * (a + c) + 2) * (2 * (a + c) + 2 - 1) / 2)
  have ha : a ≤ a + c := Nat.le_add_right _ _
  have hc : c ≤ a + c := Nat.le_add_left _ _
  generalize a + c = k at ha hc ⊢
  generalize hd : 2 * k + 2 = d
  -- the left side is at most `35·k + 40·(k·d)`, and half of `d·(d-1)` is at least `k·d`
  have e1 : a * (34 + 40 * d) ≤ k * (34 + 40 * d) := Nat.mul_le_mul_right _ ha
  have e2 : k * (34 + 40 * d) = 34 * k + 40 * (k * d) := by
    rw [Nat.mul_add, Nat.mul_comm k 34, Nat.mul_left_comm]
  have e3 : k * d ≤ d * (d - 1) / 2 := by
    rw [Nat.le_div_iff_mul_le (by decide), Nat.mul_comm k d, Nat.mul_assoc]
    exact Nat.mul_le_mul_left d (by omega)
  generalize d * (d - 1) / 2 = T at e3 ⊢
  omega

theorem nestCopyCapped_of_le (ver : Nat) : ∀ (d k : Nat), d ≤ k → nestCopyCapped ver d k = nestCopyClosed ver d
  | 0, _, _ => by rw [nestCopyCapped, nestCopyClosed]; split <;> rfl
  | d + 1, k + 1, h => by
    rw [nestCopyCapped, nestCopyClosed_succ, nestCopyCapped_of_le ver d k (Nat.le_of_succ_le_succ h)]

theorem nestSig_uncapped (ver : Nat) (hver : ver = 4 ∨ ver = 6) (d f : Nat) (hf : 2 * d + 1 ≤ f)
    (hsz : nestLen ver d < 256 ^ lenWidth ver) :
    sigCopyUncapped f (nestSig ver d) = nestCopyClosed ver d ∧ sigDepthUncapped f (nestSig ver d) = d := by
  have h := nestSig_capped ver hver d f 0 f hf hsz
  rw [(sigCost_of_cap_large (0 + f) f 0 (Nat.le_refl _)).1, SigCost.mk.injEq] at h
  exact ⟨h.1.trans (nestCopyCapped_of_le ver d f (by omega)), by omega⟩

/-! ### `read_from_buf` -/

theorem rfb_step {limit C M : Nat} (hM : limit + C ≤ M + 1) {back c : Bytes} (hl : ¬ limit ≤ back.length)
    (hc : c.length ≤ C) {work steps W : Nat} (hw : work ≤ W + steps * M) :
    (back ++ c).length ≤ M ∧ work + (back ++ c).length ≤ W + (steps + 1) * M := by
  rw [List.length_append, Nat.succ_mul]; omega

/-- with `C` the longest `fill_buf` result and `M ≥ limit + C - 1`, as invariants of the running totals (`W`,
`K`, `N` being whatever bounds them on entry): the loop never holds more than `M` bytes, hands the parser at
most `M` bytes per iteration, consumes at least one byte per iteration but the last, and consumes only bytes
that are there -/
theorem rfbLoop_spec (P : Bytes → PRes) (limit C M : Nat) (hM : limit + C ≤ M + 1)
    (src : List Bytes) (back : Bytes) (o : RfbOut) (hC : ∀ c ∈ src, c.length ≤ C) {W K N : Nat}
    (hm : o.maxBack ≤ M) (hw : o.work ≤ W + o.steps * M) (hs : o.steps ≤ o.consumed + K)
    (hn : o.consumed + src.flatten.length ≤ N) :
    (rfbLoop P limit src back o).maxBack ≤ M ∧
    (rfbLoop P limit src back o).work ≤ W + (rfbLoop P limit src back o).steps * M ∧
    (rfbLoop P limit src back o).steps ≤ (rfbLoop P limit src back o).consumed + K + 1 ∧
    (rfbLoop P limit src back o).consumed ≤ N := by
  fun_induction rfbLoop P limit src back o with
  | case1 | case2 | case3 | case4 =>
    exact ⟨hm, hw, Nat.le_succ_of_le hs, Nat.le_trans (Nat.le_add_right _ _) hn⟩
  | case5 c cs back o hl | case8 c cs back o hl =>
    obtain ⟨h1, h2⟩ := rfb_step hM hl (hC c List.mem_cons_self) hw
    exact ⟨Nat.max_le.mpr ⟨hm, h1⟩, h2, Nat.succ_le_succ hs, Nat.le_trans (Nat.le_add_right _ _) hn⟩
  | case6 c cs back o hl _ back' o' rem _ _ =>
    obtain ⟨h1, h2⟩ := rfb_step hM hl (hC c List.mem_cons_self) hw
    rw [List.flatten_cons, List.length_append] at hn
    exact ⟨Nat.max_le.mpr ⟨hm, h1⟩, h2,
      Nat.succ_le_succ (Nat.le_trans hs (Nat.add_le_add_right (Nat.le_add_right _ _) _)),
      Nat.le_trans (Nat.add_le_add_left (Nat.le_trans (Nat.sub_le _ _) (Nat.le_add_right _ _)) _) hn⟩
  | case7 c cs back o hl hne back' o' _ ih =>
    obtain ⟨h1, h2⟩ := rfb_step hM hl (hC c List.mem_cons_self) hw
    rw [List.flatten_cons, List.length_append, ← Nat.add_assoc] at hn
    exact ih (fun x hx => hC x (List.mem_cons_of_mem _ hx)) (Nat.max_le.mpr ⟨hm, h1⟩) h2
      (Nat.add_right_comm .. ▸ Nat.add_le_add hs (List.length_pos_iff.mpr hne)) hn

theorem readFromBuf_spec (P : Bytes → PRes) (limit C : Nat) (src : List Bytes) (hC : ∀ c ∈ src, c.length ≤ C) :
    (readFromBuf P limit src).maxBack ≤ limit + C ∧
    (readFromBuf P limit src).steps ≤ (readFromBuf P limit src).consumed + 1 ∧
    (readFromBuf P limit src).consumed ≤ src.flatten.length ∧
    (readFromBuf P limit src).work ≤ ((readFromBuf P limit src).steps + 1) * (limit + C) := by
  have hc : ∀ c ∈ src, c.length ≤ limit + C := fun c h => Nat.le_trans (hC c h) (Nat.le_add_left _ _)
  fun_cases readFromBuf P limit src with
  | case1 | case2 => exact ⟨Nat.zero_le _, Nat.zero_le _, Nat.zero_le _, Nat.zero_le _⟩
  | case3 c cs _ rem _ =>
    exact ⟨Nat.zero_le _, Nat.zero_le _,
      Nat.le_trans (Nat.sub_le _ _) (Nat.le_trans (Nat.le_add_right _ _) (Nat.le_of_eq List.length_append.symm)),
      Nat.le_trans (hc c List.mem_cons_self) (Nat.le_of_eq (Nat.one_mul _).symm)⟩
  | case4 c cs _ _ =>
    exact ⟨Nat.zero_le _, Nat.zero_le _, Nat.zero_le _,
      Nat.le_trans (hc c List.mem_cons_self) (Nat.le_of_eq (Nat.one_mul _).symm)⟩
  | case5 c cs _ _ =>
    have hc := hc c List.mem_cons_self
    obtain ⟨i1, i2, i3, i4⟩ := rfbLoop_spec P limit C (limit + C) (Nat.le_succ _) cs c
      ⟨.ok, c.length, c.length, c.length, 0⟩ (fun x hx => hC x (List.mem_cons_of_mem _ hx)) (K := 0) hc
      (Nat.le_trans hc (Nat.le_add_right _ _)) (Nat.zero_le _) (Nat.le_of_eq List.length_append.symm)
    exact ⟨i1, i3, i4, by rw [Nat.succ_mul, Nat.add_comm]; exact i2⟩

/-- the work really is quadratic: `k` further refills of `c` bytes each under a parser that keeps
answering "incomplete" re-parse `|back| + c`, `|back| + 2c`, … bytes -/
theorem rfbLoop_incomplete_work (limit c : Nat) (chunk : Bytes) (hc : chunk.length = c) (hpos : 0 < c) :
    ∀ (k : Nat) (back : Bytes) (o : RfbOut), back.length + k * c ≤ limit →
    (rfbLoop (fun _ => .incomplete) limit (List.replicate k chunk) back o).work =
      o.work + k * back.length + c * ((k + 1) * k / 2) := by
  intro k
  induction k with
  | zero => intro back o _; simp only [List.replicate_zero, rfbLoop]; split <;> simp
  | succ k ih =>
    intro back o hl
    have hne : chunk ≠ [] := List.ne_nil_of_length_pos (hc ▸ hpos)
    have hk : (k + 1) * c = k * c + c := Nat.succ_mul k c
    have h1 : ¬ (limit ≤ back.length) := by omega
    simp only [List.replicate_succ, rfbLoop, h1, hne, if_false]
    rw [ih (back ++ chunk) _ (by rw [List.length_append, hc]; omega), tri (k + 1), Nat.add_sub_cancel]
    simp only [List.length_append, hc]
    generalize (k + 1) * k / 2 = T
    generalize back.length = B
    rw [Nat.succ_mul k B, Nat.mul_add c T, Nat.mul_add c k, Nat.mul_one, Nat.mul_add k B, Nat.mul_comm k c]
    omega

/-! ### `fill_buffer_bytes` and refill-when-empty readers -/

theorem refill_length_le (held src : Bytes) (B : Nat) (h : held.length ≤ B) :
    (held ++ src.take (B - held.length)).length ≤ B := by
  rw [List.length_append, List.length_take]; omega

theorem fillBufferBytes_len (len : Nat) (src : List Bytes) (buf : Bytes) :
    (fillBufferBytes len src buf).1.length ≤ max len buf.length := by
  fun_induction fillBufferBytes len src buf with
  | case1 | case2 | case3 => exact Nat.le_max_right _ _
  | case4 c cs buf hlt =>
    exact Nat.le_trans (refill_length_le buf c len (Nat.le_of_not_le hlt)) (Nat.le_max_left _ _)
  | case5 c cs buf hlt _ h ih =>
    have hfit : (buf ++ c).length ≤ len :=
      List.length_append ▸ Nat.add_le_of_le_sub' (Nat.le_of_not_le hlt) (Nat.le_of_not_lt h)
    exact Nat.le_trans ih (Nat.le_trans (Nat.max_le.mpr ⟨Nat.le_refl _, hfit⟩) (Nat.le_max_left _ _))

def Refill.Inv (B : Nat) (s : Refill) : Prop := s.buffer.length ≤ B

theorem Refill.inv_step (B : Nat) (s : Refill) (op : RefillOp) (h : Refill.Inv B s) :
    Refill.Inv B (s.step B op) := by
  unfold Refill.Inv at *
  cases op with
  | consume k => exact Nat.le_trans (List.drop_sublist k _).length_le h
  | fill =>
    simp only [Refill.step]
    split
    · exact h
    · next hb =>
      rw [Decidable.not_not] at hb
      have := fillBufferBytes_len B s.src s.buffer
      rw [hb] at this ⊢
      exact Nat.le_trans this (Nat.max_le.mpr ⟨Nat.le_refl _, Nat.zero_le _⟩)

/-! ### decryptor buffers -/

theorem seipd2DecI_erase (A : Aead) (info : Bytes) (cs T k : Nat) :
    ∀ (fuel : Nat) (enc : Bytes) (idx written : Nat) (src : Bytes),
    ((seipd2DecI A info cs T k fuel enc idx written src).1, (seipd2DecI A info cs T k fuel enc idx written src).2.1)
      = seipd2Dec A info cs T k fuel enc idx written src := by
  intro fuel
  induction fuel with
  | zero => intro enc idx written src; rfl
  | succ fuel ih =>
    intro enc idx written src
    unfold seipd2DecI seipd2Dec
    simp only
    split
    · split
      · rfl
      · cases decLast A info cs T (enc ++ List.take (k * (cs + T) - enc.length) src) idx written <;> rfl
    · cases A.aeadDec idx info (List.take (min (cs + T) (enc ++ List.take (k * (cs + T) - enc.length) src).length)
          (enc ++ List.take (k * (cs + T) - enc.length) src)) with
      | none => rfl
      | some p => simp only; rw [← ih]

theorem seipd1RoundsI_erase (sha1 : Bytes → Bytes) (pre : Bytes) (B : Nat) :
    ∀ (fuel : Nat) (held hashed src : Bytes),
    ((seipd1RoundsI sha1 pre B fuel held hashed src).1, (seipd1RoundsI sha1 pre B fuel held hashed src).2.1)
      = seipd1Rounds sha1 pre B fuel held hashed src := by
  intro fuel
  induction fuel with
  | zero => intro held hashed src; rfl
  | succ fuel ih =>
    intro held hashed src
    unfold seipd1RoundsI seipd1Rounds
    simp only
    by_cases h1 : (held ++ List.take (B - held.length) src).length < Gen.mdcLen
    · simp only [h1, if_true]
    · simp only [h1, if_false]
      by_cases h2 : (List.take (B - held.length) src).length < B - held.length
      · simp only [h2, if_true]
        split <;> rfl
      · simp only [h2, if_false]
        rw [← ih]

theorem seipd2DecI_bufs (A : Aead) (info : Bytes) (cs T k : Nat)
    (fuel : Nat) (enc : Bytes) (idx written : Nat) (src : Bytes) (henc : enc.length ≤ k * (cs + T)) :
    ∀ b ∈ (seipd2DecI A info cs T k fuel enc idx written src).2.2, b.length ≤ k * (cs + T) := by
  fun_induction seipd2DecI A info cs T k fuel enc idx written src with
  | case1 => intro b hb; cases hb
  | case2 | case3 | case4 | case5 =>
    intro b hb; rw [List.mem_singleton.mp hb]; exact refill_length_le _ _ _ henc
  | case6 fuel enc idx written src window toRead got buf _ e p _ bl ok bs heq ih =>
    rw [heq] at ih
    intro b hb
    rcases List.mem_cons.mp hb with rfl | hb
    · exact refill_length_le _ _ _ henc
    · exact ih (Nat.le_trans (List.drop_sublist _ _).length_le (refill_length_le enc src _ henc)) b hb

theorem seipd1RoundsI_bufs (sha1 : Bytes → Bytes) (pre : Bytes) (B : Nat)
    (fuel : Nat) (held hashed src : Bytes) (hheld : held.length ≤ B) :
    ∀ b ∈ (seipd1RoundsI sha1 pre B fuel held hashed src).2.2, b.length ≤ B := by
  fun_induction seipd1RoundsI sha1 pre B fuel held hashed src with
  | case1 => intro b hb; cases hb
  | case2 | case3 | case4 =>
    intro b hb; rw [List.mem_singleton.mp hb]; exact refill_length_le _ _ _ hheld
  | case5 fuel held hashed src toRead got buf _ avail mdc _ bl ok bs heq ih =>
    rw [heq] at ih
    intro b hb
    rcases List.mem_cons.mp hb with rfl | hb
    · exact refill_length_le _ _ _ hheld
    · exact ih (Nat.le_trans (List.drop_sublist _ _).length_le (refill_length_le held src _ hheld)) b hb

/-! ### `NormalizedReader` -/

theorem canonGo_length_le (p : Bool) (xs : Bytes) : (canonGo p xs).length ≤ 2 * xs.length := by
  fun_induction canonGo p xs with
  | case1 => exact Nat.zero_le _
  | case2 _ ih | case3 _ _ _ ih | case4 _ _ _ ih => simp only [List.length_cons]; omega

theorem nrCleanup_block_le (W : Nat) (inBuf w : Bytes) (hW : 0 < W) (hlen : inBuf.length = W)
    (hw : w.length ≤ W) : (nrCleanup CRLF W inBuf w).1.length ≤ 2 * W + 2 := by
  rw [(nrCleanup_spec W inBuf w hW hlen hw).2]
  refine Nat.le_trans (canonGo_length_le false _) ?_
  have a : (if endsCR inBuf then [CR] else ([] : Bytes)).length ≤ 1 := by split <;> simp
  have b : (if w.length = W ∧ endsCR w then w.dropLast else w).length ≤ w.length := by
    split <;> simp
  rw [List.length_append]
  omega

theorem nrBlocks_block_le (W : Nat) (hW : 0 < W) (inp inBuf : Bytes) (hlen : inBuf.length = W) :
    ∀ blk ∈ nrBlocks CRLF W inBuf inp, blk.length ≤ 2 * W + 2 := by
  fun_induction nrBlocks CRLF W inBuf inp with
  | case1 => intro _ h; cases h
  | case2 inBuf inp _ w blk inBuf' heq _ =>
    have hw : w.length ≤ W := List.length_take_le _ _
    intro b hb
    rw [List.mem_singleton.mp hb, show blk = (nrCleanup CRLF W inBuf w).1 by rw [heq]]
    exact nrCleanup_block_le W inBuf w hW hlen hw
  | case3 inBuf inp _ w blk inBuf' heq hlong ih =>
    have hw : w.length ≤ W := List.length_take_le _ _
    intro b hb
    rcases List.mem_cons.mp hb with rfl | hb
    · rw [show b = (nrCleanup CRLF W inBuf w).1 by rw [heq]]
      exact nrCleanup_block_le W inBuf w hW hlen hw
    · have h2 : inBuf' = w ++ inBuf.drop w.length := by
        have := (nrCleanup_spec W inBuf w hW hlen hw).1; rwa [heq] at this
      exact ih (by rw [h2, List.length_append, List.length_drop]; omega) b hb

/-! ### SEIPDv1 CheckFirst -/

theorem seipd1CheckFirst_capped (sha1 : Bytes → Bytes) (bs max : Nat) (dec body : Bytes)
    (h : seipd1CheckFirst sha1 bs max dec = some body) :
    body.length + Gen.mdcLen ≤ max ∧ body.length + Gen.mdcLen + (bs + 2) = dec.length := by
  revert h
  fun_cases seipd1CheckFirst sha1 bs max dec <;> intro h
  case case4 h1 pre data h2 h3 body' mdc _ =>
    have hd : data.length = dec.length - (bs + 2) := List.length_drop
    rw [← Option.some.inj h, List.length_take]
    omega
  all_goals cases h

theorem seipd1CheckFirst_over (sha1 : Bytes → Bytes) (bs max : Nat) (dec : Bytes)
    (h : max + (bs + 2) < dec.length) : seipd1CheckFirst sha1 bs max dec = none := by
  fun_cases seipd1CheckFirst sha1 bs max dec
  any_goals rfl
  all_goals
    next h1 pre data h2 _ _ _ _ =>
    have hd : data.length = dec.length - (bs + 2) := List.length_drop
    omega

/-! ### S2K -/

theorem argon2Admit_sound (t p m : Nat) (h : argon2Admit t p m = true) :
    1 ≤ t ∧ t ≤ Gen.argon2MaxT ∧ 1 ≤ p ∧ p ≤ Gen.argon2MaxP ∧ m ≤ Gen.argon2MaxMEnc ∧
    2 ^ m ≤ Gen.argon2MemoryLimitKib ∧ 8 * p ≤ 2 ^ m := by
  simp only [argon2Admit, Bool.and_eq_true, decide_eq_true_eq] at h
  obtain ⟨⟨⟨⟨⟨⟨⟨h1, h2⟩, _⟩, h4⟩, h5⟩, h6⟩, h7⟩, h8⟩ := h
  exact ⟨h6, h1, h7, h2, h4, h5, h8⟩

theorem decodeCount_le (c : Nat) (h : c < 256) : decodeCount c ≤ 65011712 := by
  have h2 : c / 16 + Gen.s2kExpbias ≤ 21 := by
    have : Gen.s2kExpbias = 6 := rfl
    omega
  calc (16 + c % 16) * 2 ^ (c / 16 + Gen.s2kExpbias) ≤ 31 * 2 ^ 21 :=
        Nat.mul_le_mul (by omega) (Nat.pow_le_pow_right (by decide) h2)
    _ = 65011712 := by decide

theorem decodeCount_max : decodeCount 255 = 65011712 := by decide

theorem iterLoop_spec (ds : Nat) (hds : 0 < ds) (fuel count : Nat) (h : count < fuel) :
    (iterLoop ds fuel count).1 = count ∧ (iterLoop ds fuel count).2 ≤ count / ds + 1 := by
  fun_induction iterLoop ds fuel count with
  | case1 => omega
  | case2 fuel count hc b k heq ih =>
    rw [heq] at ih
    obtain ⟨i1, i2⟩ := ih (by omega)
    have : count / ds = (count - ds) / ds + 1 := by
      rw [← Nat.add_div_right _ hds, Nat.sub_add_cancel (Nat.le_of_lt hc)]
    exact ⟨by simp only at i1 ⊢; omega, by simp only at i2 ⊢; omega⟩
  | case3 => exact ⟨rfl, Nat.le_add_left _ _⟩

/-! ### one hasher per signature packet -/

theorem feedHashers_sum (hashers chunks : List Nat) :
    (feedHashers hashers chunks).sum = hashers.sum + hashers.length * chunks.sum := by
  unfold feedHashers
  induction chunks generalizing hashers with
  | nil => simp
  | cons c cs ih =>
    have hmap : (hashers.map (· + c)).sum = hashers.sum + hashers.length * c := by
      induction hashers with
      | nil => simp
      | cons h hs ihh => simp [ihh, Nat.add_mul]; omega
    simp only [List.foldl_cons, List.sum_cons]
    rw [ih, hmap, List.length_map, Nat.mul_add]
    omega

theorem sigHashWork_eq (n : Nat) (chunks : List Nat) : sigHashWork n chunks = n * chunks.sum := by
  unfold sigHashWork
  rw [feedHashers_sum]
  simp

end Rpgp.Resource
