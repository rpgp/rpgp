import RpgpModel.Ring
/-!
# Proof helpers for C18 (`RpgpModel/Ring.lean`)

Outside the explicit-session-key shortcut, `findSessionKey` is "collect `foundKeys` (PKESK × keys,
then SKESK × passwords, then explicit keys), fail iff two of them differ, otherwise return the
first" (`find_core`).  What one key collects from one PKESK is the answer of its first component that
matches and opens it (`tryKey_snd`).  Everything else is about which keys are collected.
-/
namespace Rpgp.Ring
open Rpgp

variable {PLAIN ENC PW CT SCT : Type}

/-! ## what the phases collect -/

/-- session keys pushed by the PKESK phase -/
def pkFound (P : Prims PLAIN ENC PW CT SCT) (kpws : List PW) (keys : List (SecKey PLAIN ENC))
    (pk : List (Pkesk CT)) : List SessionKey :=
  pk.flatMap fun e => keys.flatMap fun k => (tryKey P kpws e k).2

/-- is this SKESK skipped (`v5` without `gnupg_aead`) -/
def skSkip (ga : Bool) (ver : Nat) : Bool := !ga && ver == Gen.skeskVersionB

/-- what the presented message passwords obtain from one SKESK: with `abort_early` the key of the
first password that opens it, without `abort_early` the keys of all passwords that open it -/
def skOpen (P : Prims PLAIN ENC PW CT SCT) (ae : Bool) (mpws : List PW) (ct : SCT) : List SessionKey :=
  if ae then (mpws.findSome? (P.skDec ct)).toList else mpws.filterMap (P.skDec ct)

/-- session keys pushed by the SKESK phase -/
def skFound (P : Prims PLAIN ENC PW CT SCT) (ga ae : Bool) (mpws : List PW) (sk : List (Nat × SCT)) :
    List SessionKey :=
  sk.flatMap fun e => if skSkip ga e.1 then [] else skOpen P ae mpws e.2

/-- everything that is compared, in choice order -/
def foundKeys (P : Prims PLAIN ENC PW CT SCT) (ring : Ring PLAIN ENC PW) (ae : Bool) (pk : List (Pkesk CT))
    (sk : List (Nat × SCT)) : List SessionKey :=
  pkFound P ring.keyPasswords ring.secretKeys pk ++
    (skFound P ring.gnupgAead ae ring.messagePasswords sk ++ ring.sessionKeys)

section
variable (P : Prims PLAIN ENC PW CT SCT)

theorem pkeskPhase_found (kpws : List PW) (keys : List (SecKey PLAIN ENC))
    (es : List (Pkesk CT)) (res : List InnerRes) (found : List SessionKey) :
    (pkeskPhase P kpws keys es res found).2 = found ++ pkFound P kpws keys es := by
  induction es generalizing res found with
  | nil => simp [pkeskPhase, pkFound]
  | cons e es ih =>
    simp only [pkeskPhase]
    rw [ih]
    simp [pkFound, List.flatMap_map, List.append_assoc]

theorem skeskTry_found (ae : Bool) (ct : SCT) (mpws : List PW) (i : Nat)
    (res : List InnerRes) : (skeskTry P ae ct mpws i res).2 = skOpen P ae mpws ct := by
  induction mpws generalizing i res with
  | nil => cases ae <;> rfl
  | cons pw rest ih =>
    unfold skeskTry
    cases h : P.skDec ct pw with
    | none =>
      simp only [ih]
      cases ae <;> simp [skOpen, h]
    | some k =>
      cases ae with
      | true => simp [skOpen, h]
      | false =>
        simp only [Bool.false_eq_true, if_false, ih]
        simp [skOpen, h]

theorem skeskPhase_found (ga ae : Bool) (mpws : List PW)
    (es : List (Nat × SCT)) (res : List InnerRes) (found : List SessionKey) :
    (skeskPhase P ga ae mpws es res found).2 = found ++ skFound P ga ae mpws es := by
  induction es generalizing res found with
  | nil => simp [skeskPhase, skFound]
  | cons e es ih =>
    obtain ⟨ver, ct⟩ := e
    simp only [skeskPhase]
    cases hs : (!ga && ver == Gen.skeskVersionB) with
    | true =>
      have hk : skSkip ga ver = true := hs
      simp only [if_true]
      rw [ih]
      simp [skFound, hk]
    | false =>
      have hk : skSkip ga ver = false := hs
      simp only [Bool.false_eq_true, if_false]
      rw [ih]
      simp [skFound, hk, skeskTry_found, List.append_assoc]

end

/-! ## consistency = all collected keys are equal -/

def allEq : List SessionKey → Bool
  | [] => true
  | k :: rest => rest.all (fun k' => k' = k)

theorem allEq_iff (l : List SessionKey) : allEq l = true ↔ ∀ a ∈ l, ∀ b ∈ l, a = b := by
  cases l with
  | nil => simp [allEq]
  | cons k rest =>
    simp only [allEq, List.all_eq_true, decide_eq_true_eq, List.mem_cons]
    constructor
    · intro h a ha b hb
      have ha' : a = k := by rcases ha with rfl | ha; rfl; exact h a ha
      have hb' : b = k := by rcases hb with rfl | hb; rfl; exact h b hb
      rw [ha', hb']
    · intro h x hx
      exact h x (Or.inr hx) k (Or.inl rfl)

theorem allEq_false_of_ne {l : List SessionKey} {a b : SessionKey} (ha : a ∈ l) (hb : b ∈ l) (h : a ≠ b) :
    allEq l = false :=
  Bool.eq_false_iff.2 fun hq => h ((allEq_iff l).1 hq a ha b hb)

theorem allEq_of_subset {l l' : List SessionKey} (h : allEq l = true) (hs : ∀ a ∈ l', a ∈ l) :
    allEq l' = true :=
  (allEq_iff l').2 fun a ha b hb => (allEq_iff l).1 h a (hs a ha) b (hs b hb)

theorem allEq_head {l : List SessionKey} (h : allEq l = true) {a : SessionKey} (ha : a ∈ l) :
    a ∈ l.head?.toList := by
  cases l with
  | nil => cases ha
  | cons k t => simp [(allEq_iff _).1 h a ha k (List.mem_cons_self ..)]

theorem groupConsistent_eq (l : List SessionKey) : groupConsistent l = (allEq l, l.head?) := by
  cases l <;> rfl

theorem crossConsistent_eq (l : List SessionKey) : crossConsistent l = allEq l := by
  cases l <;> simp [crossConsistent, allEq, List.all_eq_not_any_not]

/-- the three per-group checks plus the comparison of the representatives = all equal -/
theorem consistency_eq (l1 l2 l3 : List SessionKey) :
    (allEq l3 && allEq l2 && allEq l1 && allEq (l1.head?.toList ++ l2.head?.toList ++ l3.head?.toList))
      = allEq (l1 ++ (l2 ++ l3)) := by
  rw [Bool.eq_iff_iff]
  simp only [Bool.and_eq_true]
  constructor
  · rintro ⟨⟨⟨h3, h2⟩, h1⟩, hc⟩
    -- every element is the representative of its group, and the representatives agree
    have rep : ∀ x ∈ l1 ++ (l2 ++ l3), x ∈ l1.head?.toList ++ l2.head?.toList ++ l3.head?.toList := by
      intro x hx
      simp only [List.mem_append] at hx ⊢
      rcases hx with hx | hx | hx
      · exact .inl (.inl (allEq_head h1 hx))
      · exact .inl (.inr (allEq_head h2 hx))
      · exact .inr (allEq_head h3 hx)
    exact allEq_of_subset hc rep
  · intro h
    have sub : ∀ {l : List SessionKey}, (∀ a ∈ l, a ∈ l1 ++ (l2 ++ l3)) →
        ∀ a ∈ l.head?.toList, a ∈ l1 ++ (l2 ++ l3) :=
      fun hl a ha => hl a (List.mem_of_mem_head? (Option.mem_toList.1 ha))
    have s1 : ∀ a ∈ l1, a ∈ l1 ++ (l2 ++ l3) := fun a ha => List.mem_append_left _ ha
    have s2 : ∀ a ∈ l2, a ∈ l1 ++ (l2 ++ l3) := fun a ha =>
      List.mem_append_right _ (List.mem_append_left _ ha)
    have s3 : ∀ a ∈ l3, a ∈ l1 ++ (l2 ++ l3) := fun a ha =>
      List.mem_append_right _ (List.mem_append_right _ ha)
    refine ⟨⟨⟨allEq_of_subset h s3, allEq_of_subset h s2⟩, allEq_of_subset h s1⟩, allEq_of_subset h ?_⟩
    intro a ha
    simp only [List.mem_append] at ha
    rcases ha with (ha | ha) | ha
    · exact sub s1 a ha
    · exact sub s2 a ha
    · exact sub s3 a ha

/-! ## `findSessionKey` outside the shortcut -/

/-- the search proper is reached unless `abort_early` is set and an explicit session key is present -/
def NoShortcut (ring : Ring PLAIN ENC PW) (abortEarly : Bool) : Prop :=
  abortEarly = false ∨ ring.sessionKeys = []

theorem shortcut_or_not (ring : Ring PLAIN ENC PW) (ae : Bool) :
    NoShortcut ring ae ∨ (ae = true ∧ ∃ s rest, ring.sessionKeys = s :: rest) := by
  cases ae with
  | false => exact Or.inl (Or.inl rfl)
  | true =>
    cases h : ring.sessionKeys with
    | nil => exact Or.inl (Or.inr h)
    | cons s rest => exact Or.inr ⟨rfl, s, rest, rfl⟩

theorem map_fst_eq_ok {ε α β : Type} {x : Except ε (α × β)} {a : α} (h : x.map Prod.fst = .ok a) :
    ∃ b, x = .ok (a, b) := by
  cases x with
  | error e => cases h
  | ok v => cases h; exact ⟨v.2, rfl⟩

theorem map_eq_error {ε α β : Type} {x : Except ε α} {f : α → β} {e : ε} (h : x.map f = .error e) :
    x = .error e := by
  cases x with
  | error e' => cases h; rfl
  | ok v => cases h

section
variable (P : Prims PLAIN ENC PW CT SCT)

section
variable {ring : Ring PLAIN ENC PW} {ae : Bool}

theorem find_shortcut (esks : List (Esk CT SCT)) {sk : SessionKey} {rest : List SessionKey}
    (h : ring.sessionKeys = sk :: rest) : ∃ rr, findSessionKey P ring esks true = .ok (some sk, rr) := by
  simp [findSessionKey, h]

theorem find_noShortcut (esks : List (Esk CT SCT)) (hn : NoShortcut ring ae) :
    findSessionKey P ring esks ae =
      match groupEsks esks with
      | .error e => .error e
      | .ok (pk, sk) => findCore P ring ae pk sk := by
  unfold findSessionKey
  rcases hn with rfl | hs
  · rfl
  · rw [hs]; cases ae <;> rfl

variable {esks : List (Esk CT SCT)} (hn : NoShortcut ring ae)
include hn

theorem find_group_error {e : FindErr} (hg : groupEsks esks = .error e) :
    findSessionKey P ring esks ae = .error e := by
  rw [find_noShortcut P esks hn, hg]

variable {pk : List (Pkesk CT)} {sk : List (Nat × SCT)} (hg : groupEsks esks = .ok (pk, sk))
include hg

theorem find_core :
    (findSessionKey P ring esks ae).map Prod.fst =
      if allEq (foundKeys P ring ae pk sk) then .ok (foundKeys P ring ae pk sk).head? else .error .inconsistent := by
  rw [find_noShortcut P esks hn, hg]
  simp only [findCore, pkeskPhase_found, skeskPhase_found, List.nil_append, groupConsistent_eq,
    crossConsistent_eq, consistency_eq, foundKeys, List.head?_append]
  cases allEq (pkFound P ring.keyPasswords ring.secretKeys pk ++
    (skFound P ring.gnupgAead ae ring.messagePasswords sk ++ ring.sessionKeys))
  · rfl
  · cases (pkFound P ring.keyPasswords ring.secretKeys pk).head?
    · cases (skFound P ring.gnupgAead ae ring.messagePasswords sk).head?
      · cases ring.sessionKeys.head? <;> rfl
      · rfl
    · rfl

theorem find_conflict {a b : SessionKey} (ha : a ∈ foundKeys P ring ae pk sk) (hb : b ∈ foundKeys P ring ae pk sk)
    (hne : a ≠ b) : findSessionKey P ring esks ae = .error .inconsistent := by
  apply map_eq_error (f := Prod.fst)
  rw [find_core P hn hg, allEq_false_of_ne ha hb hne]
  rfl

theorem find_unique {k : SessionKey} (hall : ∀ k' ∈ foundKeys P ring ae pk sk, k' = k)
    (hne : foundKeys P ring ae pk sk ≠ []) : ∃ rr, findSessionKey P ring esks ae = .ok (some k, rr) := by
  apply map_fst_eq_ok
  rw [find_core P hn hg, (allEq_iff _).2 fun a ha b hb => by rw [hall a ha, hall b hb]]
  cases hf : foundKeys P ring ae pk sk with
  | nil => exact absurd hf hne
  | cons a t => rw [← hall a (hf ▸ List.mem_cons_self ..)]; rfl

theorem find_none (hnil : foundKeys P ring ae pk sk = []) : ∃ rr, findSessionKey P ring esks ae = .ok (none, rr) := by
  apply map_fst_eq_ok
  rw [find_core P hn hg, hnil]
  rfl

theorem find_ok_inv {k : SessionKey} {rr : RingResult} (h : findSessionKey P ring esks ae = .ok (some k, rr)) :
    k ∈ foundKeys P ring ae pk sk ∧ ∀ k' ∈ foundKeys P ring ae pk sk, k' = k := by
  have c := find_core P hn hg
  rw [h] at c
  cases ha : allEq (foundKeys P ring ae pk sk) with
  | false => rw [ha] at c; cases c
  | true =>
    rw [ha, if_pos rfl] at c
    have hm : k ∈ foundKeys P ring ae pk sk := List.mem_of_mem_head? (Except.ok.inj c).symm
    exact ⟨hm, fun k' hk' => (allEq_iff _).1 ha k' hk' k hm⟩

end

theorem find_outcome_congr {ring ring' : Ring PLAIN ENC PW} {esks : List (Esk CT SCT)} {ae : Bool}
    (hs : ring'.sessionKeys = ring.sessionKeys)
    (hf : ∀ pk sk, groupEsks esks = .ok (pk, sk) → foundKeys P ring' ae pk sk = foundKeys P ring ae pk sk) :
    (findSessionKey P ring' esks ae).map Prod.fst = (findSessionKey P ring esks ae).map Prod.fst := by
  rcases shortcut_or_not ring ae with hn | ⟨rfl, s, rest, hsk⟩
  · have hn' : NoShortcut ring' ae := hn.imp id fun h => hs.trans h
    cases hg : groupEsks esks with
    | error e => rw [find_group_error P hn hg, find_group_error P hn' hg]
    | ok v => rw [find_core P hn hg, find_core P hn' hg, hf v.1 v.2 hg]
  · obtain ⟨rr, h1⟩ := find_shortcut P esks hsk
    obtain ⟨rr', h2⟩ := find_shortcut P esks (hs.trans hsk)
    rw [h1, h2]
    rfl

end

/-! ## what one key contributes for one PKESK -/

/-- the plain secret parameters `p` can be obtained from component `c` with the presented key
passwords (`c` is not locked, or one of the passwords unlocks it) -/
def Reach (P : Prims PLAIN ENC PW CT SCT) (kpws : List PW) (c : Comp PLAIN ENC) (p : PLAIN) : Prop :=
  c.secret = .plain p ∨ ∃ e pw, pw ∈ kpws ∧ c.secret = .encrypted e ∧ P.unlock e pw = some p

section
variable (P : Prims PLAIN ENC PW CT SCT)

/-- the secret parameters `try_decrypt` works with: the component's own if it is not locked, else
what the first key password that unlocks it gives -/
def unlocked (kpws : List PW) (c : Comp PLAIN ENC) : Option PLAIN :=
  match c.secret with
  | .plain p => some p
  | .encrypted e => kpws.findSome? (P.unlock e)

theorem unlocked_reach {kpws : List PW} {c : Comp PLAIN ENC} {p : PLAIN}
    (h : unlocked P kpws c = some p) : Reach P kpws c p := by
  unfold unlocked at h
  split at h
  · rename_i p' hs; cases h; exact .inl hs
  · rename_i e hs
    obtain ⟨pw, hm, hu⟩ := List.exists_of_findSome?_eq_some h
    exact .inr ⟨e, pw, hm, hs, hu⟩

theorem tryLocked_spec {c : Comp PLAIN ENC} (ct : CT) (v6 : Bool) {e : ENC}
    (hs : c.secret = .encrypted e) (kpws : List PW) (res : InnerRes) (hres : res ≠ .ok) :
    (tryLocked P c ct v6 kpws res).2 = (kpws.findSome? (P.unlock e)).bind (P.pkDec · ct v6) ∧
    ((tryLocked P c ct v6 kpws res).1 = .ok ↔ (tryLocked P c ct v6 kpws res).2.isSome = true) := by
  induction kpws generalizing res with
  | nil => simp [tryLocked, hres]
  | cons pw rest ih =>
    unfold tryLocked
    cases hu : P.unlock e pw with
    | none => simpa only [decryptWith, hs, hu, List.findSome?_cons] using ih .invalidPassword (by decide)
    | some p => cases hd : P.pkDec p ct v6 <;> simp [decryptWith, hs, hu, hd]

theorem tryDecrypt_spec (kpws : List PW) (c : Comp PLAIN ENC) (ct : CT) (v6 : Bool) :
    (tryDecrypt P kpws c ct v6).2 = (unlocked P kpws c).bind (P.pkDec · ct v6) ∧
    ((tryDecrypt P kpws c ct v6).1 = .ok ↔ (tryDecrypt P kpws c ct v6).2.isSome = true) := by
  unfold tryDecrypt unlocked
  cases hs : c.secret with
  | encrypted e => exact tryLocked_spec P ct v6 hs kpws .unchecked (by decide)
  | plain p => cases hd : P.pkDec p ct v6 <;> simp [Secret.isLocked, decryptWith, hs, hd]

theorem tryDecrypt_snd (kpws : List PW) (c : Comp PLAIN ENC) (ct : CT)
    (v6 : Bool) : (tryDecrypt P kpws c ct v6).2 = (unlocked P kpws c).bind (P.pkDec · ct v6) :=
  (tryDecrypt_spec P kpws c ct v6).1

theorem tryDecrypt_ok_iff (kpws : List PW) (c : Comp PLAIN ENC) (ct : CT)
    (v6 : Bool) : (tryDecrypt P kpws c ct v6).1 = .ok ↔ (tryDecrypt P kpws c ct v6).2.isSome = true :=
  (tryDecrypt_spec P kpws c ct v6).2

theorem tryDecrypt_unlocked {kpws : List PW} {c : Comp PLAIN ENC} {ct : CT}
    {v6 : Bool} {p : PLAIN} (hs : c.secret = .plain p) :
    (tryDecrypt P kpws c ct v6).2 = P.pkDec p ct v6 := by
  rw [tryDecrypt_snd, unlocked, hs]
  rfl

theorem tryDecrypt_locked {kpws : List PW} {c : Comp PLAIN ENC} {ct : CT}
    {v6 : Bool} {e : ENC} (hs : c.secret = .encrypted e) {sk : SessionKey}
    (hex : ∃ pw ∈ kpws, (P.unlock e pw).isSome = true)
    (hall : ∀ pw ∈ kpws, ∀ p, P.unlock e pw = some p → P.pkDec p ct v6 = some sk) :
    (tryDecrypt P kpws c ct v6).2 = some sk := by
  rw [tryDecrypt_snd, unlocked, hs]
  obtain ⟨p, hp⟩ := Option.isSome_iff_exists.1 (List.findSome?_isSome_iff.2 hex)
  obtain ⟨pw, hm, hu⟩ := List.exists_of_findSome?_eq_some hp
  simp only [hp, Option.bind_some]
  exact hall pw hm p hu

/-- what a component obtains from the body of an ESK that is meant for it -/
def compKey (kpws : List PW) (e : Pkesk CT) (ct : CT) (v6 : Bool)
    (c : Comp PLAIN ENC) : Option SessionKey :=
  if e.matchIdentity c.ident then (tryDecrypt P kpws c ct v6).2 else none

theorem subkeyLoop_snd (kpws : List PW) (e : Pkesk CT) (ct : CT) (v6 : Bool)
    (subs : List (Comp PLAIN ENC)) (r : InnerRes) (f : List SessionKey) :
    (subkeyLoop P kpws e ct v6 subs r f).2 =
      if r = .ok then f else f ++ (subs.findSome? (compKey P kpws e ct v6)).toList := by
  induction subs generalizing r f with
  | nil => simp [subkeyLoop]
  | cons s rest ih =>
    unfold subkeyLoop
    by_cases hr : r = .ok
    · simp only [hr, if_true]
    · simp only [hr, if_false, List.findSome?_cons, compKey]
      by_cases hm : e.matchIdentity s.ident = true
      · simp only [hm, if_true, ih, tryDecrypt_ok_iff]
        cases (tryDecrypt P kpws s ct v6).2 <;> simp
      · simp [hm, ih, hr]

theorem tryKey_snd {kpws : List PW} {e : Pkesk CT} {K : SecKey PLAIN ENC}
    {ct : CT} {v6 : Bool} (hp : e.payload = some (ct, v6)) :
    (tryKey P kpws e K).2 = (K.comps.findSome? (compKey P kpws e ct v6)).toList := by
  -- the primary is treated as the first subkey
  have : tryKey P kpws e K = subkeyLoop P kpws e ct v6 K.comps .noMatch [] := by
    rw [tryKey, hp, SecKey.comps, subkeyLoop, if_neg (by decide)]
    cases e.matchIdentity K.primary.ident <;> rfl
  rw [this, subkeyLoop_snd]
  rfl

theorem tryKey_no_payload {kpws : List PW} {e : Pkesk CT} {K : SecKey PLAIN ENC}
    (hp : e.payload = none) : (tryKey P kpws e K).2 = [] := by
  simp [tryKey, hp]

/-- the keys a component can contribute: matching identity, reachable secret, successful decryption -/
def CompYields (kpws : List PW) (e : Pkesk CT) (c : Comp PLAIN ENC)
    (k : SessionKey) : Prop :=
  ∃ ct v6 p, e.payload = some (ct, v6) ∧ e.matchIdentity c.ident = true ∧ Reach P kpws c p ∧
    P.pkDec p ct v6 = some k

theorem tryKey_sound {kpws : List PW} {e : Pkesk CT} {K : SecKey PLAIN ENC}
    {k : SessionKey} (h : k ∈ (tryKey P kpws e K).2) : ∃ c ∈ K.comps, CompYields P kpws e c k := by
  cases hp : e.payload with
  | none => rw [tryKey_no_payload P hp] at h; cases h
  | some cv =>
    obtain ⟨ct, v6⟩ := cv
    rw [tryKey_snd P hp, Option.mem_toList] at h
    obtain ⟨c, hc, hk⟩ := List.exists_of_findSome?_eq_some h
    unfold compKey at hk
    split at hk
    · rename_i hm
      rw [tryDecrypt_snd] at hk
      obtain ⟨p, hu, hd⟩ := Option.bind_eq_some_iff.1 hk
      exact ⟨c, hc, ct, v6, p, hp, hm, unlocked_reach P hu, hd⟩
    · cases hk

theorem tryKey_nonempty {kpws : List PW} {e : Pkesk CT} {K : SecKey PLAIN ENC}
    {ct : CT} {v6 : Bool} (hp : e.payload = some (ct, v6)) {c : Comp PLAIN ENC} (hc : c ∈ K.comps)
    (hm : e.matchIdentity c.ident = true) {sk : SessionKey} (ho : (tryDecrypt P kpws c ct v6).2 = some sk) :
    (tryKey P kpws e K).2 ≠ [] := by
  have : (K.comps.findSome? (compKey P kpws e ct v6)).isSome = true :=
    List.findSome?_isSome_iff.2 ⟨c, hc, by simp [compKey, hm, ho]⟩
  obtain ⟨k, hk⟩ := Option.isSome_iff_exists.1 this
  simp [tryKey_snd P hp, hk]

end

/-! ## grouping -/

theorem groupEsks_spec (esks : List (Esk CT SCT)) :
    match groupEsks esks with
    | .error e => e = .plaintextSkesk ∧ ∃ ver ct, Esk.sk (.known ver Gen.symIdPlaintext ct) ∈ esks
    | .ok (pk, sk) => (∀ e, e ∈ pk ↔ Esk.pk e ∈ esks) ∧
        (∀ ver ct, (ver, ct) ∈ sk ↔ ∃ alg, Esk.sk (.known ver alg ct) ∈ esks) := by
  induction esks with
  | nil => simp [groupEsks]
  | cons x rest ih =>
    cases hr : groupEsks rest with
    | error e' =>
      rw [hr] at ih
      obtain ⟨rfl, ver, ct, hm⟩ := ih
      have : groupEsks (x :: rest) = .error .plaintextSkesk := by
        rcases x with p | ⟨ver', alg, ct'⟩ | v <;> simp [groupEsks, hr, Except.map]
      rw [this]
      exact ⟨rfl, ver, ct, List.mem_cons_of_mem _ hm⟩
    | ok v =>
      rw [hr] at ih
      obtain ⟨h1, h2⟩ := ih
      rcases x with p | ⟨ver, alg, ct⟩ | v'
      · simp only [groupEsks, hr, Except.map]
        exact ⟨fun e => by simp [h1], fun ver ct => by simp [h2]⟩
      · simp only [groupEsks, hr, Except.map]
        by_cases ha : alg = Gen.symIdPlaintext
        · subst ha
          exact ⟨rfl, ver, ct, List.mem_cons_self ..⟩
        · simp only [ha, if_false]
          refine ⟨fun e => by simp [h1], fun ver' ct' => ?_⟩
          simp only [List.mem_cons, Prod.mk.injEq, h2, Esk.sk.injEq, Skesk.known.injEq]
          constructor
          · rintro (⟨rfl, rfl⟩ | ⟨a, ha'⟩)
            · exact ⟨alg, Or.inl ⟨rfl, rfl, rfl⟩⟩
            · exact ⟨a, Or.inr ha'⟩
          · rintro ⟨a, (⟨rfl, _, rfl⟩ | ha')⟩
            · exact Or.inl ⟨rfl, rfl⟩
            · exact Or.inr ⟨a, ha'⟩
      · simp only [groupEsks, hr]
        exact ⟨fun e => by simp [h1], fun ver ct => by simp [h2]⟩

theorem groupEsks_error {esks : List (Esk CT SCT)} {e : FindErr} (h : groupEsks esks = .error e) :
    e = .plaintextSkesk := by
  have := groupEsks_spec esks
  rw [h] at this
  exact this.1

theorem groupEsks_mem {esks : List (Esk CT SCT)} {pk : List (Pkesk CT)} {sk : List (Nat × SCT)}
    (h : groupEsks esks = .ok (pk, sk)) :
    (∀ e, e ∈ pk ↔ Esk.pk e ∈ esks) ∧
    (∀ ver ct, (ver, ct) ∈ sk ↔ ∃ alg, Esk.sk (.known ver alg ct) ∈ esks) := by
  have := groupEsks_spec esks
  rw [h] at this
  exact this

theorem groupEsks_ok_of_no_plaintext (esks : List (Esk CT SCT))
    (h : ∀ ver ct, Esk.sk (.known ver Gen.symIdPlaintext ct) ∉ esks) : ∃ pk sk, groupEsks esks = .ok (pk, sk) := by
  have := groupEsks_spec esks
  cases hg : groupEsks esks with
  | ok v => exact ⟨v.1, v.2, rfl⟩
  | error e =>
    rw [hg] at this
    obtain ⟨_, ver, ct, hm⟩ := this
    exact absurd hm (h ver ct)

/-! ## elements that contribute nothing can be dropped -/

theorem flatMap_filter_of_nil {α β : Type} (f : α → List β) (p : α → Bool) (l : List α)
    (h : ∀ x ∈ l, p x = false → f x = []) : l.flatMap f = (l.filter p).flatMap f := by
  induction l with
  | nil => rfl
  | cons a t ih =>
    have iht := ih (fun x hx => h x (List.mem_cons_of_mem _ hx))
    cases hp : p a with
    | true => simp [hp, iht]
    | false => simp [hp, iht, h a (List.mem_cons_self ..) hp]

theorem filterMap_filter_of_none {α β : Type} (f : α → Option β) (p : α → Bool) (l : List α)
    (h : ∀ x ∈ l, p x = false → f x = none) : l.filterMap f = (l.filter p).filterMap f := by
  induction l with
  | nil => rfl
  | cons a t ih =>
    have iht := ih (fun x hx => h x (List.mem_cons_of_mem _ hx))
    cases hp : p a with
    | true => simp only [List.filter_cons, hp, if_true, List.filterMap_cons, iht]
    | false => simp [hp, iht, h a (List.mem_cons_self ..) hp]

theorem findSome?_filter_of_none {α β : Type} (f : α → Option β) (p : α → Bool) (l : List α)
    (h : ∀ x ∈ l, p x = false → f x = none) : l.findSome? f = (l.filter p).findSome? f := by
  rw [← List.head?_filterMap, ← List.head?_filterMap, filterMap_filter_of_none f p l h]

theorem flatMap_congr_mem {α β : Type} (f g : α → List β) (l : List α) (h : ∀ x ∈ l, f x = g x) :
    l.flatMap f = l.flatMap g :=
  congrArg List.flatten (List.map_congr_left h)

section
variable (P : Prims PLAIN ENC PW CT SCT)

theorem skOpen_filter_of_none (ae : Bool) (mpws : List PW) (ct : SCT)
    (p : PW → Bool) (h : ∀ q ∈ mpws, p q = false → P.skDec ct q = none) :
    skOpen P ae mpws ct = skOpen P ae (mpws.filter p) ct := by
  unfold skOpen
  rw [findSome?_filter_of_none (P.skDec ct) p mpws h, filterMap_filter_of_none (P.skDec ct) p mpws h]

theorem tryKey_filter (kpws : List PW) (keep : PW → Bool)
    (h : ∀ q ∈ kpws, keep q = false → ∀ e, P.unlock e q = none) (e : Pkesk CT) (K : SecKey PLAIN ENC) :
    (tryKey P kpws e K).2 = (tryKey P (kpws.filter keep) e K).2 := by
  cases hp : e.payload with
  | none => rw [tryKey_no_payload P hp, tryKey_no_payload P hp]
  | some cv =>
    have hu : ∀ c : Comp PLAIN ENC, unlocked P kpws c = unlocked P (kpws.filter keep) c := by
      intro c
      unfold unlocked
      cases c.secret with
      | plain p => rfl
      | encrypted e' => exact findSome?_filter_of_none _ keep kpws fun q hq hk => h q hq hk e'
    have hc : compKey P kpws e cv.1 cv.2 = compKey P (kpws.filter keep) e cv.1 cv.2 := by
      funext c
      simp only [compKey, tryDecrypt_snd, hu]
    rw [tryKey_snd P hp, tryKey_snd P hp, hc]

/-! ## presented secrets, one at a time -/

inductive Sec (PLAIN ENC PW : Type) where
  | key (k : SecKey PLAIN ENC)
  | password (pw : PW)
  | sessionKey (k : SessionKey)

/-- the ring that presents only `s` (key passwords and options are kept) -/
def Ring.only (ring : Ring PLAIN ENC PW) : Sec PLAIN ENC PW → Ring PLAIN ENC PW
  | .key k => { ring with secretKeys := [k], messagePasswords := [], sessionKeys := [] }
  | .password pw => { ring with secretKeys := [], messagePasswords := [pw], sessionKeys := [] }
  | .sessionKey k => { ring with secretKeys := [], messagePasswords := [], sessionKeys := [k] }

def Ring.Presents (ring : Ring PLAIN ENC PW) : Sec PLAIN ENC PW → Prop
  | .key k => k ∈ ring.secretKeys
  | .password pw => pw ∈ ring.messagePasswords
  | .sessionKey k => k ∈ ring.sessionKeys

theorem mem_foundKeys (ring : Ring PLAIN ENC PW) (ae : Bool)
    (pk : List (Pkesk CT)) (sk : List (Nat × SCT)) (k : SessionKey) :
    k ∈ foundKeys P ring ae pk sk ↔
      (∃ e ∈ pk, ∃ K ∈ ring.secretKeys, k ∈ (tryKey P ring.keyPasswords e K).2) ∨
      (∃ e ∈ sk, skSkip ring.gnupgAead e.1 = false ∧ k ∈ skOpen P ae ring.messagePasswords e.2) ∨
      k ∈ ring.sessionKeys := by
  simp only [foundKeys, pkFound, skFound, List.mem_append, List.mem_flatMap]
  refine or_congr Iff.rfl (or_congr (exists_congr fun e => and_congr Iff.rfl ?_) Iff.rfl)
  cases skSkip ring.gnupgAead e.1 <;> simp

theorem mem_skOpen_false {mpws : List PW} {ct : SCT} {k : SessionKey} :
    k ∈ skOpen P false mpws ct ↔ ∃ pw ∈ mpws, P.skDec ct pw = some k := by
  simp [skOpen, List.mem_filterMap]

theorem mem_skOpen_sound {ae : Bool} {mpws : List PW} {ct : SCT} {k : SessionKey}
    (h : k ∈ skOpen P ae mpws ct) : ∃ pw ∈ mpws, P.skDec ct pw = some k := by
  cases ae with
  | false => exact (mem_skOpen_false P).1 h
  | true => exact List.exists_of_findSome?_eq_some (Option.mem_toList.1 h)

theorem foundKeys_mono {ring ring' : Ring PLAIN ENC PW} {pk : List (Pkesk CT)} {sk : List (Nat × SCT)}
    (hkp : ring'.keyPasswords = ring.keyPasswords) (hga : ring'.gnupgAead = ring.gnupgAead)
    (h1 : ∀ K ∈ ring'.secretKeys, K ∈ ring.secretKeys) (h2 : ∀ q ∈ ring'.messagePasswords, q ∈ ring.messagePasswords)
    (h3 : ∀ k ∈ ring'.sessionKeys, k ∈ ring.sessionKeys) :
    ∀ k ∈ foundKeys P ring' false pk sk, k ∈ foundKeys P ring false pk sk := by
  intro k hk
  rw [mem_foundKeys] at hk ⊢
  rw [hkp, hga] at hk
  rcases hk with ⟨e, he, K, hK, h⟩ | ⟨e, he, hs, h⟩ | h
  · exact .inl ⟨e, he, K, h1 K hK, h⟩
  · obtain ⟨pw, hm, hd⟩ := (mem_skOpen_false P).1 h
    exact .inr (.inl ⟨e, he, hs, (mem_skOpen_false P).2 ⟨pw, h2 pw hm, hd⟩⟩)
  · exact .inr (.inr (h3 k h))

theorem found_only_subset {ring : Ring PLAIN ENC PW} {pk : List (Pkesk CT)} {sk : List (Nat × SCT)}
    {s : Sec PLAIN ENC PW} (hs : ring.Presents s) :
    ∀ k ∈ foundKeys P (ring.only s) false pk sk, k ∈ foundKeys P ring false pk sk := by
  cases s with
  | key K =>
    exact foundKeys_mono P rfl rfl (fun _ h => List.mem_singleton.1 h ▸ hs)
      (fun _ => List.not_mem_nil.elim) (fun _ => List.not_mem_nil.elim)
  | password pw =>
    exact foundKeys_mono P rfl rfl (fun _ => List.not_mem_nil.elim)
      (fun _ h => List.mem_singleton.1 h ▸ hs) (fun _ => List.not_mem_nil.elim)
  | sessionKey k =>
    exact foundKeys_mono P rfl rfl (fun _ => List.not_mem_nil.elim) (fun _ => List.not_mem_nil.elim)
      (fun _ h => List.mem_singleton.1 h ▸ hs)

/-! ## what `RingResult.secret_keys` reports -/

theorem pkeskPhase_res_last (kpws : List PW) (keys : List (SecKey PLAIN ENC))
    (es : List (Pkesk CT)) (e : Pkesk CT) (res : List InnerRes) (found : List SessionKey) :
    (pkeskPhase P kpws keys (es ++ [e]) res found).1 = keys.map (fun k => (tryKey P kpws e k).1) := by
  induction es generalizing res found with
  | nil => simp [pkeskPhase]
  | cons x rest ih =>
    simp only [List.cons_append, pkeskPhase]
    exact ih _ _

/-! ## `abort_early` and the SKESK loop -/

theorem skeskTry_ae_short (ct : SCT) {l : List PW} (hl : l.length ≤ 1)
    (i : Nat) (res : List InnerRes) : skeskTry P true ct l i res = skeskTry P false ct l i res := by
  match l, hl with
  | [], _ => simp [skeskTry]
  | [pw], _ => cases h : P.skDec ct pw <;> simp [skeskTry, h]

theorem skeskPhase_ae_short (ga : Bool) {l : List PW} (hl : l.length ≤ 1)
    (es : List (Nat × SCT)) (res : List InnerRes) (found : List SessionKey) :
    skeskPhase P ga true l es res found = skeskPhase P ga false l es res found := by
  induction es generalizing res found with
  | nil => simp [skeskPhase]
  | cons e es ih =>
    obtain ⟨ver, ct⟩ := e
    simp only [skeskPhase, skeskTry_ae_short P ct hl, ih]

end

/-- what `s` yields when presented alone with cross-checking on -/
def Yields (P : Prims PLAIN ENC PW CT SCT) (ring : Ring PLAIN ENC PW) (esks : List (Esk CT SCT))
    (s : Sec PLAIN ENC PW) (k : SessionKey) : Prop :=
  ∃ rr, findSessionKey P (ring.only s) esks false = .ok (some k, rr)

theorem yields_found (P : Prims PLAIN ENC PW CT SCT) {ring : Ring PLAIN ENC PW} {esks : List (Esk CT SCT)}
    {s : Sec PLAIN ENC PW} (hs : ring.Presents s) {k : SessionKey} (y : Yields P ring esks s k) :
    ∃ pk sk, groupEsks esks = .ok (pk, sk) ∧ k ∈ foundKeys P ring false pk sk := by
  obtain ⟨rr, f⟩ := y
  cases hg : groupEsks esks with
  | error e => rw [find_group_error P (.inl rfl) hg] at f; cases f
  | ok v => exact ⟨v.1, v.2, rfl, found_only_subset P hs k (find_ok_inv P (.inl rfl) hg f).1⟩

/-! ## concrete witnesses (abstract primitives instantiated with small tables) -/
namespace Witness

def kA : SessionKey := .v3_4 7 [1]
def kB : SessionKey := .v3_4 11 [2]

/-- password 1 opens SKESK 1 to `kA` (its own packet) but also "opens" SKESK 0 to `kB` — what the v4
plausibility check lets through for 3 to 5 of the 256 values of the first decrypted octet (the
algorithms whose key size is the number of octets that follow) -/
def falsePositive : Prims Nat Nat Nat Nat Nat where
  unlock := fun _ _ => none
  pkDec := fun _ _ _ => none
  skDec := fun ct pw => if ct = 1 ∧ pw = 1 then some kA else if ct = 0 ∧ pw = 1 then some kB
    else if ct = 0 ∧ pw = 0 then some kA else none

def twoSkesks : List (Esk Nat Nat) := [.sk (.known 4 7 0), .sk (.known 4 7 1)]

/-- one SKESK without encrypted session key: every password "opens" it, to its own S2K output -/
def direct : Prims Nat Nat Nat Nat Nat where
  unlock := fun _ _ => none
  pkDec := fun _ _ _ => none
  skDec := fun _ pw => some (.v3_4 7 [pw.toUInt8])

def oneSkesk : List (Esk Nat Nat) := [.sk (.known 4 7 0)]

/-- two unlocked single-component keys 0 and 1 (key ids `[0…0,1]`, `[0…0,2]`); PKESK `i` is addressed
to key `i` and decrypts under it to `kA` -/
def twoKeys : Prims Nat Nat Nat Nat Nat where
  unlock := fun _ _ => none
  pkDec := fun p ct _ => if p = ct then some kA else none
  skDec := fun _ _ => none

def keyN (n : Nat) : SecKey Nat Nat :=
  { primary := { ident := ⟨[0, 0, 0, 0, 0, 0, 0, (n + 1).toUInt8], ⟨4, [n.toUInt8]⟩⟩, secret := .plain n }, subkeys := [] }

def twoPkesks : List (Esk Nat Nat) :=
  [.pk (.v3 [0, 0, 0, 0, 0, 0, 0, 1] 0), .pk (.v3 [0, 0, 0, 0, 0, 0, 0, 2] 1)]

def ringPw (pws : List Nat) : Ring Nat Nat Nat :=
  { secretKeys := [], keyPasswords := [], messagePasswords := pws, sessionKeys := [] }

end Witness

end Rpgp.Ring
