import RpgpModel.KeyGen
/-!
# KeyGenShape — the self-signatures `generate` makes are the ones `verify_bindings` checks

Each stage (`signerCheck`, `directSigs`, `signDetails`, `generate`) has one `…_ok_iff` that says
when it succeeds and with what; the theorems about the certificate take a successful run apart
with these.
-/
namespace Rpgp.KeyGen

variable {M S σ : Type}

/-- correctness law of the signature primitive: what a secret signs verifies under its public half -/
def SignLaw (P : KeyPrims M S σ) : Prop := ∀ s m, P.verify (P.pubOf s) m (P.sign s m) = true

theorem sigVersionOf_eq_some {kv v : Nat} : sigVersionOf kv = some v ↔ v = kv ∧ (kv = 4 ∨ kv = 6) := by
  unfold sigVersionOf
  by_cases h4 : kv = 4
  · simp [h4, eq_comm]
  · by_cases h6 : kv = 6 <;> simp [h4, h6, eq_comm]

theorem versionAligned_of {kv v : Nat} (h : sigVersionOf kv = some v) : versionAligned kv v = true := by
  obtain ⟨rfl, h46⟩ := sigVersionOf_eq_some.mp h
  rcases h46 with rfl | rfl <;> rfl

theorem signerCheck_ok_iff {kv v : Nat} {kt : KeyType} :
    signerCheck kv kt = .ok v ↔ sigVersionOf kv = some v ∧ kt.canSign = true := by
  unfold signerCheck
  cases sigVersionOf kv <;> cases kt.canSign <;> simp

/-! ## issuer subpackets -/

theorem mem_issuerFprs {E : Type} (f : Bytes) (l : List (Subpkt E)) (h : Subpkt.issuerFpr f ∈ l) :
    f ∈ issuerFprs l := by
  induction l with
  | nil => cases h
  | cons a r ih =>
    rcases List.mem_cons.mp h with rfl | h'
    · simp [issuerFprs]
    · cases a <;> simp [issuerFprs, ih h']

theorem matchIdentity_of_fpr {E : Type} (P : KeyPrims M S σ) (s : SigG E σ) (k : PubKey M)
    (h : Subpkt.issuerFpr (P.fingerprint k) ∈ s.hashed) : matchIdentity P s k = true := by
  have := mem_issuerFprs _ _ (List.mem_append_left s.unhashed h)
  simp [matchIdentity, this]

theorem fpr_mem_basic {E : Type} (P : KeyPrims M S σ) (k : PubKey M) (now : Nat) :
    Subpkt.issuerFpr (P.fingerprint k) ∈ (basicSubpackets P k now : List (Subpkt E)) := by
  simp [basicSubpackets]

theorem fpr_mem_metadata {E : Type} (P : KeyPrims M S σ) (k : PubKey M) (now : Nat) (fl : Flags) (pr : Prefs) :
    Subpkt.issuerFpr (P.fingerprint k) ∈ (metadataSubpackets P k now fl pr : List (Subpkt E)) := by
  simp [metadataSubpackets]

/-- Each accessor of `Signature` stops at the first subpacket of its kind, and that one is among the
eight written out in `metadataSubpackets`, whatever follows them: the equations hold by evaluation. -/
theorem hashed_metadata_read (P : KeyPrims M S σ) {s : Sig σ} {k : PubKey M} {now : Nat}
    {fl : Flags} {pr : Prefs} (h : metadataSubpackets P k now fl pr <+: s.hashed) :
    hashedFlags s = some fl ∧ hashedPrefs s = pr := by
  obtain ⟨extra, he⟩ := h
  unfold hashedFlags hashedPrefs
  rw [← he]
  exact ⟨rfl, rfl⟩

theorem metadata_read (P : KeyPrims M S σ) (primary : SecKey M S) (typ ver : Nat) (salt : Bytes) (now : Nat)
    (fl : Flags) (pr : Prefs) (extra unhashed : List (Subpkt (BackSig σ))) (subj : Subject M)
    (_hex : ∀ x ∈ extra, ∃ b, x = Subpkt.isPrimary b) :
    hashedFlags (mkSig P primary typ ver salt (metadataSubpackets P primary.pub now fl pr ++ extra) unhashed subj) = some fl ∧
    hashedPrefs (mkSig P primary typ ver salt (metadataSubpackets P primary.pub now fl pr ++ extra) unhashed subj) = pr :=
  hashed_metadata_read P (List.prefix_append _ _)

/-! ## the lists made with one salt per position -/

/-- a subkey as `generate` holds it before binding: the key, its flags, its back-signature -/
abbrev SubMaterial (M S σ : Type) := SecKey M S × Flags × Option (BackSig σ)

section
variable {P : KeyPrims M S σ} {primary : SecKey M S} {v : Nat} {salt : Nat → Bytes} {now : Nat}

theorem mem_certifyUids {fl : Flags} {pr : Prefs} {i : Nat} {uids : List Bytes} {u : SignedUser σ}
    (h : u ∈ certifyUids P primary v salt now fl pr i uids) :
    ∃ j a, u = certifyUid P primary v (salt j) now fl pr false a := by
  induction uids generalizing i with
  | nil => cases h
  | cons a r ih =>
    rcases List.mem_cons.mp h with rfl | h
    · exact ⟨i, a, rfl⟩
    · exact ih h

theorem mem_bindSubkeys {l : List (SubMaterial M S σ)} {i : Nat} {s : SignedSub M σ}
    (h : s ∈ bindSubkeys P primary v salt now i l) :
    ∃ j, ∃ x ∈ l, s = bindSubkey P primary v (salt j) now x := by
  induction l generalizing i with
  | nil => cases h
  | cons x r ih =>
    rcases List.mem_cons.mp h with rfl | h
    · exact ⟨_, x, List.mem_cons_self, rfl⟩
    · obtain ⟨j, y, hy, rfl⟩ := ih h
      exact ⟨j, y, List.mem_cons_of_mem _ hy, rfl⟩

variable (P primary v salt now)

theorem bindSubkeys_map {β : Type} (f : SignedSub M σ → β) (g : SubMaterial M S σ → β)
    (h : ∀ s x, f (bindSubkey P primary v s now x) = g x) (l : List (SubMaterial M S σ)) (i : Nat) :
    (bindSubkeys P primary v salt now i l).map f = l.map g := by
  induction l generalizing i with
  | nil => rfl
  | cons x r ih => simp only [bindSubkeys, List.map_cons, h, ih]

theorem bindSubkeys_length (l : List (SubMaterial M S σ)) (i : Nat) :
    (bindSubkeys P primary v salt now i l).length = l.length := by
  induction l generalizing i with
  | nil => rfl
  | cons x rr ih => simp [bindSubkeys, ih]

end

variable (P : KeyPrims M S σ)

section
variable (law : SignLaw P) (signer : SecKey M S) (hm : signer.pub.mat = P.pubOf signer.sec)
include law hm

theorem mkSig_verify (typ ver : Nat) (salt : Bytes) (hashed unhashed : List (Subpkt (BackSig σ))) (subj : Subject M) :
    P.verify signer.pub.mat ((mkSig P signer typ ver salt hashed unhashed subj).msg subj)
      (mkSig P signer typ ver salt hashed unhashed subj).value = true := by
  simp only [mkSig, Sig.msg, hm]; exact law _ _

theorem mkBackSig_verify (ver : Nat) (salt : Bytes) (now : Nat) (primary : PubKey M) :
    P.verify signer.pub.mat ((mkBackSig P signer ver salt now primary).msg (.binding primary signer.pub))
      (mkBackSig P signer ver salt now primary).value = true := by
  simp only [mkBackSig, BackSig.msg, hm]; exact law _ _

end

/-! ## User ID certifications -/

section
variable (primary : SecKey M S) (v now : Nat) (fl : Flags) (pr : Prefs)

variable (salt : Bytes) (isP : Bool) (uid : Bytes)

/-- the issuer fingerprint is the second subpacket of either hashed area -/
theorem certifyUid_hashed_fpr :
    ∀ s ∈ (certifyUid P primary v salt now fl pr isP uid).sigs,
      Subpkt.issuerFpr (P.fingerprint primary.pub) ∈ s.hashed := by
  by_cases h6 : primary.pub.version = 6 <;> cases isP <;>
    simp only [certifyUid, h6, ↓reduceIte, List.mem_singleton, forall_eq] <;> exact .tail _ (.head _)

variable {primary v now fl pr salt isP uid}

theorem certifyUid_verifies (law : SignLaw P) (hm : primary.pub.mat = P.pubOf primary.sec)
    (hv : sigVersionOf primary.pub.version = some v) :
    verifyUser (checksOf P) primary.pub (certifyUid P primary v salt now fl pr isP uid).id
      (certifyUid P primary v salt now fl pr isP uid).sigs = true := by
  have hf := certifyUid_hashed_fpr P primary v now fl pr salt isP uid
  simp only [certifyUid, List.mem_singleton, forall_eq] at hf
  simp only [verifyUser, certifyUid, checksOf, List.isEmpty_cons, Bool.not_false, Bool.true_and,
    List.all_cons, List.all_nil, Bool.and_true, verifyCertification]
  rw [matchIdentity_of_fpr P _ _ hf, mkSig_verify P law primary hm]
  have ht : isCertType Gen.sigTypeCertPositive = true := by decide
  simp [mkSig, ht, versionAligned_of hv]

theorem certifyUid_sigIsPrimary :
    (certifyUid P primary v salt now fl pr isP uid).sigs.any sigIsPrimary = isP := by
  by_cases h6 : primary.pub.version = 6 <;> cases isP <;>
    simp only [certifyUid, h6, ↓reduceIte, List.any_cons, List.any_nil, Bool.or_false] <;> rfl

theorem certifyUids_notPrimary (salt : Nat → Bytes) (i : Nat) (uids : List Bytes) :
    (certifyUids P primary v salt now fl pr i uids).find? (fun u => u.sigs.any sigIsPrimary) = none := by
  refine List.find?_eq_none.mpr fun u hu => ?_
  obtain ⟨j, a, rfl⟩ := mem_certifyUids hu
  simp [certifyUid_sigIsPrimary]

theorem certifyUid_read (h6 : primary.pub.version ≠ 6) :
    ((certifyUid P primary v salt now fl pr isP uid).sigs.head?).bind hashedFlags = some fl ∧
    ((certifyUid P primary v salt now fl pr isP uid).sigs.head?).map hashedPrefs = some pr := by
  simp only [certifyUid, if_neg h6, List.head?_cons, Option.bind_some, Option.map_some]
  cases isP
  · exact (hashed_metadata_read P List.prefix_rfl).imp id (congrArg some)
  · exact (hashed_metadata_read P (List.prefix_append _ _)).imp id (congrArg some)

end

/-! ## subkeys -/

/-- what `generate` guarantees about one subkey before it is bound: it carries a back-signature,
which verifies, exactly when its flags say "sign" -/
def SubOk (primary : PubKey M) (x : SubMaterial M S σ) : Prop :=
  x.2.1.sign = x.2.2.isSome ∧ ∀ b, x.2.2 = some b → verifyPrimaryKeyBinding P x.1.pub primary b = true

section
variable {primary : PubKey M} {created : Nat}

section
variable {sp : SubParams} {sec : S} {salt : Bytes} {now : Nat} {x : SubMaterial M S σ}

theorem genSubMaterial_view (h : genSubMaterial P primary sp created sec salt now = .ok x) :
    (x.2.1, x.2.2.isSome, x.1.pub.version, x.1.pub.keyType) = (subFlags sp, sp.canSign, sp.version, sp.keyType) := by
  revert h
  fun_cases genSubMaterial P primary sp created sec salt now <;> rintro ⟨⟩
  next hs _ _ => rw [hs]; rfl
  next hs => rw [Bool.eq_false_iff.mpr hs]; rfl

theorem genSubMaterial_subOk (law : SignLaw P) (h : genSubMaterial P primary sp created sec salt now = .ok x) :
    SubOk P primary x := by
  revert h
  fun_cases genSubMaterial P primary sp created sec salt now <;> rintro ⟨⟩
  next pk sk hs v hv =>
    refine ⟨hs, ?_⟩
    rintro b ⟨rfl⟩
    simp only [verifyPrimaryKeyBinding]
    rw [mkBackSig_verify P law sk rfl]
    simp +zetaDelta [mkBackSig, versionAligned_of (signerCheck_ok_iff.mp hv).1]
  next hs => exact ⟨Bool.eq_false_iff.mpr hs, nofun⟩

end

variable (primary created) in
theorem genSubMaterial_total (sp : SubParams) (sec : S) (salt : Bytes) (now : Nat)
    (hk : keygenCheck sp.keyType = .ok ()) (hn : pubKeyNewCheck sp.version sp.keyType = .ok ())
    (hs : sp.canSign = true → ∃ v, signerCheck sp.version sp.keyType = .ok v) :
    ∃ x, genSubMaterial P primary sp created sec salt now = .ok x := by
  unfold genSubMaterial
  simp only [hk, hn]
  by_cases hc : sp.canSign = true
  · obtain ⟨v, hv⟩ := hs hc
    simp [hc, hv]
  · simp [hc]

variable {salt : Nat → Bytes} {now i : Nat} {sps : List SubParams} {secs : List S} {subs : List (SubMaterial M S σ)}

theorem genSubMaterials_cons_ok {sp : SubParams} {sec : S} :
    genSubMaterials P primary created salt now i (sp :: sps) (sec :: secs) = .ok subs ↔
      ∃ x r, genSubMaterial P primary sp created sec (salt (2 * i)) now = .ok x ∧
        genSubMaterials P primary created salt now (i + 1) sps secs = .ok r ∧ subs = x :: r := by
  simp only [genSubMaterials]
  cases genSubMaterial P primary sp created sec (salt (2 * i)) now with
  | error e => exact ⟨nofun, by rintro ⟨_, _, ⟨⟩, _⟩⟩
  | ok x =>
    cases genSubMaterials P primary created salt now (i + 1) sps secs with
    | error e => exact ⟨nofun, by rintro ⟨_, _, _, ⟨⟩, _⟩⟩
    | ok rr => exact ⟨fun h => by cases h; exact ⟨_, _, rfl, rfl, rfl⟩, by rintro ⟨_, _, ⟨rfl⟩, ⟨rfl⟩, rfl⟩; rfl⟩

theorem mem_genSubMaterials (h : genSubMaterials P primary created salt now i sps secs = .ok subs)
    {x : SubMaterial M S σ} (hx : x ∈ subs) :
    ∃ sp sec j, genSubMaterial P primary sp created sec (salt j) now = .ok x := by
  induction sps generalizing i secs subs with
  | nil => cases h; cases hx
  | cons sp r ih =>
    cases secs with
    | nil => cases h; cases hx
    | cons sec secs =>
      obtain ⟨y, rr, hy, hr, rfl⟩ := (genSubMaterials_cons_ok P).mp h
      rcases List.mem_cons.mp hx with rfl | hx
      · exact ⟨_, _, _, hy⟩
      · exact ih hr hx

theorem genSubMaterials_view (h : genSubMaterials P primary created salt now i sps secs = .ok subs)
    (hl : sps.length ≤ secs.length) :
    subs.map (fun x => (x.2.1, x.2.2.isSome, x.1.pub.version, x.1.pub.keyType)) =
      sps.map (fun sp => (subFlags sp, sp.canSign, sp.version, sp.keyType)) := by
  induction sps generalizing i secs subs with
  | nil => cases h; rfl
  | cons sp r ih =>
    cases secs with
    | nil => exact nomatch hl
    | cons sec secs =>
      obtain ⟨y, rr, hy, hr, rfl⟩ := (genSubMaterials_cons_ok P).mp h
      rw [List.map_cons, List.map_cons, genSubMaterial_view P hy, ih hr (Nat.le_of_succ_le_succ hl)]

end

section
variable (primary : SecKey M S) (v : Nat)

theorem bindSubkey_read (salt : Bytes) (now : Nat) (x : SubMaterial M S σ) :
    ∀ s ∈ (bindSubkey P primary v salt now x).sigs, sigFlagsSign s = x.2.1.sign ∧ sigEmbedded s = x.2.2 ∧
      hashedFlags s = some x.2.1 := by
  simp only [bindSubkey, List.mem_singleton, forall_eq]
  refine ⟨rfl, ?_, rfl⟩
  cases x.2.2 with
  | some b => rfl
  | none =>
    by_cases h4 : primary.pub.version ≤ 4 <;> simp only [sigEmbedded, mkSig, issuerUnhashed, h4, ↓reduceIte] <;> rfl

theorem bindSubkey_view (salt : Bytes) (now : Nat) (x : SubMaterial M S σ) :
    ((bindSubkey P primary v salt now x).sigs.map (fun s => (hashedFlags s, (sigEmbedded s).isSome)),
      (bindSubkey P primary v salt now x).key.version, (bindSubkey P primary v salt now x).key.keyType) =
    ([(some x.2.1, x.2.2.isSome)], x.1.pub.version, x.1.pub.keyType) := by
  have hf := bindSubkey_read P primary v salt now x
  simp only [bindSubkey, List.mem_singleton, forall_eq] at hf
  simp only [bindSubkey, List.map_cons, List.map_nil, hf]

theorem bindSubkey_public (salt : Bytes) (now : Nat) (x : SubMaterial M S σ) :
    (publicSubSigs (fun y => isBindingType y.typ) (bindSubkey P primary v salt now x).sigs).map
      (fun k => { bindSubkey P primary v salt now x with sigs := k }) = some (bindSubkey P primary v salt now x) := by
  have ht : isBindingType Gen.sigTypeSubkeyBinding = true := by decide
  simp [bindSubkey, publicSubSigs, mkSig, ht]

theorem binding_verifies (law : SignLaw P) (hm : primary.pub.mat = P.pubOf primary.sec)
    (hv : sigVersionOf primary.pub.version = some v) (salt : Bytes) (hashed unhashed : List (Subpkt (BackSig σ)))
    (sub : PubKey M) :
    verifySubkeyBinding P primary.pub sub
      (mkSig P primary Gen.sigTypeSubkeyBinding v salt hashed unhashed (.binding primary.pub sub)) = true := by
  simp only [verifySubkeyBinding]
  rw [mkSig_verify P law primary hm]
  simp [mkSig, versionAligned_of hv]

theorem bindSubkey_verifies (law : SignLaw P) (hm : primary.pub.mat = P.pubOf primary.sec)
    (hv : sigVersionOf primary.pub.version = some v) (salt : Bytes) (now : Nat) (x : SubMaterial M S σ)
    (hx : SubOk P primary.pub x) :
    verifySubPublic (checksOf P) primary.pub (bindSubkey P primary v salt now x).key
      (bindSubkey P primary v salt now x).sigs = true := by
  have hfl := bindSubkey_read P primary v salt now x
  simp only [bindSubkey, List.mem_singleton, forall_eq] at hfl
  obtain ⟨hfs, hemb, _⟩ := hfl
  obtain ⟨hsign, hb⟩ := hx
  simp only [verifySubPublic, bindSubkey, checksOf, List.isEmpty_cons, Bool.not_false, Bool.true_and,
    List.all_cons, List.all_nil, Bool.and_true]
  rw [binding_verifies P primary v law hm hv]
  simp only [hfs, hemb, hsign]
  cases he : x.2.2 with
  | some b => simpa using hb b he
  | none => rfl

end

/-! ## the self-signatures of the primary: direct key signature (v6) and User ID certifications -/

section
variable (primary : SecKey M S) (p : GenParams) (salt : Nat → Bytes) (now : Nat)

theorem direct_verifies (law : SignLaw P) (hm : primary.pub.mat = P.pubOf primary.sec)
    (h6 : primary.pub.version = 6) (salt : Bytes) (fl : Flags) (pr : Prefs) :
    verifyKeySig P primary.pub
      (mkSig P primary Gen.sigTypeKey 6 salt (metadataSubpackets P primary.pub now fl pr) [] (.key primary.pub)) = true := by
  simp only [verifyKeySig]
  rw [matchIdentity_of_fpr P _ _ (fpr_mem_metadata P primary.pub now fl pr), mkSig_verify P law primary hm]
  simp [mkSig, versionAligned, h6]

theorem directSigs_ok_iff (direct : List (Sig σ)) :
    directSigs P primary p salt now = .ok direct ↔
      if primary.pub.version = 6 then
        primary.pub.keyType.canSign = true ∧
        direct = [mkSig P primary Gen.sigTypeKey 6 (salt 1000) (metadataSubpackets P primary.pub now p.flags p.prefs) []
                    (.key primary.pub)]
      else direct = [] := by
  unfold directSigs
  by_cases h6 : primary.pub.version = 6
  · cases primary.pub.keyType.canSign <;> simp [h6, eq_comm]
  · simp [h6, eq_comm]

theorem signDetails_ok_iff (direct : List (Sig σ)) (users : List (SignedUser σ)) :
    signDetails P primary p salt now = .ok (direct, users) ↔
      directSigs P primary p salt now = .ok direct ∧
      if p.primaryUid = none ∧ p.uids = [] then users = []
      else ∃ v, signerCheck primary.pub.version primary.pub.keyType = .ok v ∧
        users = p.primaryUid.toList.map (certifyUid P primary v (salt 1001) now p.flags p.prefs true) ++
          certifyUids P primary v salt now p.flags p.prefs 1002 p.uids := by
  unfold signDetails
  cases directSigs P primary p salt now with
  | error e => exact ⟨nofun, fun h => nomatch h.1⟩
  | ok d =>
    dsimp only
    split
    · exact ⟨fun h => by cases h; exact ⟨rfl, rfl⟩, by rintro ⟨⟨rfl⟩, rfl⟩; rfl⟩
    · cases signerCheck primary.pub.version primary.pub.keyType with
      | error e => exact ⟨nofun, by rintro ⟨_, _, ⟨⟩, _⟩⟩
      | ok v =>
        -- the model's `match` on the primary User ID and `Option.toList` agree on both constructors
        exact ⟨fun h => by cases h; exact ⟨rfl, v, rfl, by cases p.primaryUid <;> rfl⟩,
          by rintro ⟨⟨rfl⟩, _, ⟨rfl⟩, rfl⟩; cases p.primaryUid <;> rfl⟩

theorem signDetails_verifies (law : SignLaw P) (hm : primary.pub.mat = P.pubOf primary.sec)
    {direct : List (Sig σ)} {users : List (SignedUser σ)}
    (h : signDetails P primary p salt now = .ok (direct, users)) :
    (∀ s ∈ direct, verifyKeySig P primary.pub s = true) ∧
    (∀ u ∈ users, verifyUser (checksOf P) primary.pub u.id u.sigs = true) := by
  obtain ⟨hd, hu⟩ := (signDetails_ok_iff ..).mp h
  replace hd := (directSigs_ok_iff ..).mp hd
  constructor
  · intro s hs
    split at hd
    · rename_i h6
      obtain ⟨_, rfl⟩ := hd
      cases List.mem_singleton.mp hs
      exact direct_verifies P primary now law hm h6 ..
    · subst hd; cases hs
  · intro u hu'
    split at hu
    · subst hu; cases hu'
    · obtain ⟨v, hv, rfl⟩ := hu
      replace hv := (signerCheck_ok_iff.mp hv).1
      rcases List.mem_append.mp hu' with hu' | hu'
      · obtain ⟨a, _, rfl⟩ := List.mem_map.mp hu'
        exact certifyUid_verifies P law hm hv
      · obtain ⟨j, a, rfl⟩ := mem_certifyUids hu'
        exact certifyUid_verifies P law hm hv

theorem signDetails_total {v : Nat} (hsc : signerCheck primary.pub.version primary.pub.keyType = .ok v) :
    ∃ direct users, signDetails P primary p salt now = .ok (direct, users) := by
  have hcan := (signerCheck_ok_iff.mp hsc).2
  obtain ⟨d, hd⟩ : ∃ d, directSigs P primary p salt now = .ok d := by
    simp only [directSigs, hcan, if_true]
    split <;> exact ⟨_, rfl⟩
  unfold signDetails
  rw [hd]
  by_cases hnone : p.primaryUid = none ∧ p.uids = [] <;> simp [hnone, hsc]

end

/-! ## `generate` -/

section
variable (p : GenParams) (r : GenRand S)

/-- the primary secret key packet `generate` builds from the parameters and the seed material -/
abbrev primaryKey : SecKey M S :=
  { pub := { version := p.version, keyType := p.keyType, created := p.created, mat := P.pubOf r.primarySec },
    sec := r.primarySec }

/-- Without subkeys `bindSubkeys` returns `[]` whatever the signature version `v`, so the two branches
of `generate` are one: `v` matters only if there are subkeys. -/
theorem generate_ok_iff (c : Cert M σ) :
    generate P p r = .ok c ↔
      keygenCheck p.keyType = .ok () ∧ pubKeyNewCheck p.version p.keyType = .ok () ∧
      ∃ subs direct users v,
        genSubMaterials P (primaryKey P p r).pub p.subCreated r.salt r.now 0 p.subkeys r.subSecs = .ok subs ∧
        signDetails P (primaryKey P p r) p r.salt r.now = .ok (direct, users) ∧
        (subs ≠ [] → signerCheck p.version p.keyType = .ok v) ∧
        c = { primary := (primaryKey P p r).pub, direct := direct, users := users,
              subkeys := bindSubkeys P (primaryKey P p r) v r.salt r.now 0 subs } := by
  simp only [generate]
  cases keygenCheck p.keyType with
  | error e => exact ⟨nofun, fun h => nomatch h.1⟩
  | ok u =>
  cases pubKeyNewCheck p.version p.keyType with
  | error e => exact ⟨nofun, fun h => nomatch h.2.1⟩
  | ok u =>
  cases genSubMaterials P (primaryKey P p r).pub p.subCreated r.salt r.now 0 p.subkeys r.subSecs with
  | error e => exact ⟨nofun, by rintro ⟨_, _, _, _, _, _, ⟨⟩, _⟩⟩
  | ok subs =>
  cases signDetails P (primaryKey P p r) p r.salt r.now with
  | error e => exact ⟨nofun, by rintro ⟨_, _, _, _, _, _, _, ⟨⟩, _⟩⟩
  | ok du =>
  obtain ⟨direct, users⟩ := du
  dsimp only
  by_cases he : subs = []
  · subst he
    exact ⟨fun h => by cases h; exact ⟨rfl, rfl, _, _, _, 0, rfl, rfl, nofun, rfl⟩,
      by rintro ⟨_, _, _, _, _, _, ⟨rfl⟩, ⟨rfl⟩, _, rfl⟩; rfl⟩
  · rw [if_neg he]
    cases hs : signerCheck p.version p.keyType with
    | error e => exact ⟨nofun, by rintro ⟨_, _, _, _, _, _, ⟨rfl⟩, _, h, _⟩; cases h he⟩
    | ok v =>
      exact ⟨fun h => by cases h; exact ⟨rfl, rfl, _, _, _, v, rfl, rfl, fun _ => rfl, rfl⟩,
        by rintro ⟨_, _, _, _, _, _, ⟨rfl⟩, ⟨rfl⟩, h, rfl⟩; cases h he; rfl⟩

variable {p r}

/-- the secret form of a certificate is checked exactly as the public form (rpgp after the repair of D15a) -/
theorem verifyBindingsSecret_eq (C : SigChecks (PubKey M) Bytes (Sig σ) (BackSig σ)) (c : Cert M σ) :
    verifyBindingsSecret C c = verifyBindingsPublic C c := rfl

theorem generate_verifiesPublic (law : SignLaw P) {c : Cert M σ} (h : generate P p r = .ok c) :
    verifyBindingsPublic (checksOf P) c = true := by
  obtain ⟨_, _, subs, direct, users, v, hsubs, hdet, hv, rfl⟩ := (generate_ok_iff ..).mp h
  obtain ⟨hd, hu⟩ := signDetails_verifies P (primaryKey P p r) p r.salt r.now law rfl hdet
  simp only [verifyBindingsPublic, verifyDetails, Cert.userPairs, List.all_nil, Bool.and_true, Bool.and_eq_true,
    List.all_eq_true, List.mem_map, forall_exists_index, and_imp]
  refine ⟨⟨?_, hd⟩, fun s hs => ?_⟩
  · rintro _ u hu' rfl
    exact hu u hu'
  · obtain ⟨j, x, hx, rfl⟩ := mem_bindSubkeys hs
    obtain ⟨_, _, _, hy⟩ := mem_genSubMaterials P hsubs hx
    exact bindSubkey_verifies P (primaryKey P p r) v law rfl (signerCheck_ok_iff.mp (hv (List.ne_nil_of_mem hx))).1 _
      r.now x (genSubMaterial_subOk P law hy)

theorem filterMap_eq_self {α : Type} {f : α → Option α} {l : List α} (h : ∀ a ∈ l, f a = some a) :
    l.filterMap f = l := by
  induction l with
  | nil => rfl
  | cons a r ih =>
    rw [List.filterMap_cons_some (h a List.mem_cons_self), ih fun b hb => h b (List.mem_cons_of_mem a hb)]

theorem generate_toPublic {c : Cert M σ} (h : generate P p r = .ok c) : c.toPublic = c := by
  obtain ⟨_, _, subs, direct, users, v, _, _, _, rfl⟩ := (generate_ok_iff ..).mp h
  have hkeep : ∀ s ∈ bindSubkeys P (primaryKey P p r) v r.salt r.now 0 subs,
      (publicSubSigs (fun y => isBindingType y.typ) s.sigs).map (fun k => { s with sigs := k }) = some s := by
    intro s hs
    obtain ⟨j, x, _, rfl⟩ := mem_bindSubkeys hs
    exact bindSubkey_public ..
  simp only [Cert.toPublic, filterMap_eq_self hkeep]

end

end Rpgp.KeyGen
