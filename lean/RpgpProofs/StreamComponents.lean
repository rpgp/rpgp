import RpgpProofs.Stream
import RpgpProofs.Seipd2
/-! Streaming components as buffered producers: no spurious end of stream (C09). -/
namespace Rpgp

theorem flatten_pieces (B : Nat) : ∀ (m : Nat) (xs : Bytes), xs.length ≤ m * B →
    ((List.range m).map fun i => (xs.drop (i * B)).take B).flatten = xs := by
  intro m
  induction m with
  | zero =>
    intro xs h
    rw [Nat.zero_mul] at h
    cases List.length_eq_zero_iff.mp (Nat.le_zero.mp h)
    rfl
  | succ m ih =>
    intro xs h
    have hshift : ∀ i, List.take B (List.drop ((i + 1) * B) xs) = List.take B (List.drop (i * B) (xs.drop B)) :=
      fun i => by rw [List.drop_drop, Nat.succ_mul, Nat.add_comm]
    rw [List.range_succ_eq_map, List.map_cons, List.flatten_cons, List.map_map, Nat.zero_mul, List.drop_zero]
    simp only [Function.comp_def, Nat.succ_eq_add_one, hshift]
    rw [ih (xs.drop B) (by rw [List.length_drop, Nat.succ_mul] at *; omega), List.take_append_drop]

/-- the number of `B`-octet buffers the encryptor fills: they cover the plaintext, and each starts inside it -/
theorem ceilDiv_spec (len B : Nat) (hB : 0 < B) :
    len ≤ (len + B - 1) / B * B ∧ ∀ i < (len + B - 1) / B, i * B < len := by
  have hd := Nat.div_add_mod (len + B - 1) B
  have hm := Nat.mod_lt (len + B - 1) hB
  rw [Nat.mul_comm] at hd
  refine ⟨by omega, fun i hi => ?_⟩
  have := Nat.mul_le_mul_right B (Nat.succ_le_of_lt hi)
  rw [Nat.succ_mul] at this
  omega

theorem cfbEncBlocks_flatten (B : Nat) (hB : 0 < B) (pre pt mdc : Bytes) :
    (cfbEncBlocks B pre pt mdc).flatten = pre ++ pt ++ mdc := by
  rw [cfbEncBlocks, if_neg (Nat.ne_of_gt hB), List.flatten_append, List.flatten_append,
    flatten_pieces B _ pt (ceilDiv_spec pt.length B hB).1]
  simp only [List.flatten_cons, List.flatten_nil, List.append_nil]

theorem cfbEncBlocks_nonempty (B : Nat) (hB : 0 < B) (pre pt mdc : Bytes) (hp : pre ≠ []) (hm : mdc ≠ []) :
    AllNonEmpty (cfbEncBlocks B pre pt mdc) := by
  intro b hb
  simp only [cfbEncBlocks, if_neg (Nat.ne_of_gt hB), List.mem_append, List.mem_singleton, List.mem_map,
    List.mem_range] at hb
  rcases hb with (rfl | ⟨i, hi, rfl⟩) | rfl
  · exact hp
  · have := (ceilDiv_spec pt.length B hB).2 i hi
    exact fun he => by
      have := congrArg List.length he
      simp only [List.length_take, List.length_drop, List.length_nil] at this
      omega
  · exact hm

theorem seipd2Dec_noSpurious (A : Aead) (T : Nat) (L : AeadLaws A T) (info : Bytes) (cs k : Nat)
    (hcs : 0 < cs) (hk : 0 < k) :
    ∀ (fuel : Nat) (enc : Bytes) (idx written : Nat) (src : Bytes), enc.length ≤ k * (cs + T) →
    NoSpuriousEOF (seipd2Dec A info cs T k fuel enc idx written src).1 := by
  intro fuel enc idx written src
  fun_induction seipd2Dec A info cs T k fuel enc idx written src with
  | case1 | case2 | case4 | case5 => exact fun _ => .nil
  | case3 => exact fun _ => .singleton _
  | case6 fuel enc idx written src window toRead got buf hfull e p hdec bl ok hrec ih =>
    intro henc
    -- the window is full, so the chunk opened is a full one
    have hgot : got.length = toRead := Nat.le_antisymm (List.length_take_le _ _) (Nat.le_of_not_lt hfull)
    have hbl : buf.length = k * (cs + T) := by
      rw [List.length_append, hgot]; exact Nat.add_sub_cancel' henc
    have he : e = cs + T := Nat.min_eq_left (hbl ▸ Nat.le_mul_of_pos_left _ hk)
    have hpl : p.length + T = cs + T := by
      rw [← L.dec_len _ _ _ _ hdec, List.length_take, ← he]; exact Nat.min_eq_left (Nat.min_le_right _ _)
    rw [hrec] at ih
    refine .cons (fun h => ?_) (ih ?_)
    · rw [h] at hpl; exact absurd (Nat.add_right_cancel hpl) (Nat.ne_of_lt hcs)
    · rw [List.length_drop, hbl]; exact Nat.sub_le _ _

end Rpgp
