import RpgpModel.Message
import RpgpProofs.Framing
import RpgpProofs.Seipd2
/-! Splitting a stream of framed packets, and the layer round trips of the message builder / reader
composition of `RpgpModel/Message.lean` (C01).  The splitting lemmas also serve the end-to-end model:
both the signed level `OPS* literal SIG*` and the top level `ESK* SEIPD` have the shape
`fixed* ‖ one data packet ‖ fixed*`. -/
namespace Rpgp

/-! ### one packet -/

/-- in front of anything, `s` is read as one packet with tag `tag` and body `body` -/
def FramedAs (tag : Nat) (body s : Bytes) : Prop :=
  ∀ rest, ∃ h, deframe (s ++ rest) = .ok (h, body, rest) ∧ h.tag = tag

theorem FramedAs.ne_nil {tag : Nat} {body s : Bytes} (hf : FramedAs tag body s) : s ≠ [] := by
  intro hs
  obtain ⟨h, hd, _⟩ := hf []
  rw [hs, List.append_nil, deframe_nil] at hd
  cases hd

theorem framedAs_fixedPkt (tag : Nat) (ht : tag < 64) (body : Bytes) (hb : body.length < 4294967296) :
    FramedAs tag body (fixedPkt tag body) :=
  fun rest => ⟨_, deframe_fixed true tag ht body rest hb, rfl⟩

/-- every inner header of the builder (literal header, compression octet, SEIPD configuration) is far
shorter than the smallest chunk, 2⁹ -/
theorem le_two_pow_of_le_512 {n k : Nat} (hn : n ≤ 512) (hk : 9 ≤ k) : n ≤ 2 ^ k :=
  Nat.le_trans hn (Nat.pow_le_pow_right (by decide) hk : 2 ^ 9 ≤ 2 ^ k)

theorem framedAs_emitPartial (tag k : Nat) (hdr body : Bytes) (hallow : partialAllowed tag = true)
    (hk : 9 ≤ k ∧ k ≤ 30) (hh : hdr.length ≤ 2 ^ k) (hb : hdr.length + body.length < 4294967296) :
    FramedAs tag (hdr ++ body) (emitPartial tag k hdr body) :=
  fun rest => deframe_emitPartial tag k hdr body rest hallow hk.1 hk.2 hh hb

/-- the compressed data packet of either builder model: algorithm octet, then the compressed stream -/
theorem framedAs_compressedPkt (k a : Nat) (data : Bytes) (hk : 9 ≤ k ∧ k ≤ 30)
    (hl : 1 + data.length < 4294967296) :
    FramedAs 8 (a.toUInt8 :: data) (emitPartial 8 k [a.toUInt8] data) :=
  framedAs_emitPartial 8 k [a.toUInt8] data (by decide) hk (le_two_pow_of_le_512 (Nat.le_add_left 1 511) hk.1) hl

/-! ### a stream of packets -/

/-- packets as `(tag, body, octets)`; more fuel than the stream has octets is enough, since every packet
uses one unit and is not empty -/
theorem splitPackets_framed : ∀ (ps : List (Nat × Bytes × Bytes)) (fuel : Nat),
    (∀ p ∈ ps, FramedAs p.1 p.2.1 p.2.2) → (ps.map (·.2.2)).flatten.length < fuel →
    splitPackets fuel (ps.map (·.2.2)).flatten = some (ps.map fun p => (p.1, p.2.1))
  | [], fuel + 1, _, _ => by simp [splitPackets]
  | p :: ps, fuel + 1, hf, hlen => by
    have hp := hf p (List.mem_cons_self ..)
    obtain ⟨h, hd, ht⟩ := hp ((ps.map (·.2.2)).flatten)
    have hne : p.2.2 ++ (ps.map (·.2.2)).flatten ≠ [] := fun h => hp.ne_nil (List.append_eq_nil_iff.mp h).1
    rw [List.map_cons, List.flatten_cons] at hlen ⊢
    have ih := splitPackets_framed ps fuel (fun q hq => hf q (List.mem_cons_of_mem _ hq)) (by
      have := List.length_pos_iff.mpr hp.ne_nil
      rw [List.length_append] at hlen
      omega)
    rw [splitPackets, if_neg hne, hd]
    simp only [ih, ht, List.map_cons]

/-- `fixed* ‖ L ‖ fixed*`: runs of small packets `fixedPkt (f x).1 (f x).2` before and after `L`, which
is framed as `(tagL, body)`; with the fuel the readers give -/
theorem splitPackets_around {α β : Type} (f : α → Nat × Bytes) (g : β → Nat × Bytes) (xs : List α) (ys : List β)
    (L body : Bytes) (tagL : Nat)
    (hf : ∀ x ∈ xs, (f x).1 < 64 ∧ (f x).2.length < 4294967296)
    (hg : ∀ y ∈ ys, (g y).1 < 64 ∧ (g y).2.length < 4294967296)
    (hL : FramedAs tagL body L) (S : Bytes)
    (hS : S = (xs.map fun x => fixedPkt (f x).1 (f x).2).flatten ++ L ++
      (ys.map fun y => fixedPkt (g y).1 (g y).2).flatten) :
    splitPackets (S.length + 1) S = some (xs.map f ++ (tagL, body) :: ys.map g) := by
  let fr : Nat × Bytes → Nat × Bytes × Bytes := fun p => (p.1, p.2, fixedPkt p.1 p.2)
  have hall : ∀ q ∈ xs.map (fr ∘ f) ++ (tagL, body, L) :: ys.map (fr ∘ g), FramedAs q.1 q.2.1 q.2.2 := by
    simp only [List.mem_append, List.mem_cons, List.mem_map]
    rintro q (⟨x, hx, rfl⟩ | rfl | ⟨y, hy, rfl⟩)
    · exact framedAs_fixedPkt _ (hf x hx).1 _ (hf x hx).2
    · exact hL
    · exact framedAs_fixedPkt _ (hg y hy).1 _ (hg y hy).2
  have hbytes : ((xs.map (fr ∘ f) ++ (tagL, body, L) :: ys.map (fr ∘ g)).map (·.2.2)).flatten = S := by
    simp [hS, fr, List.map_map, Function.comp_def]
  have hpkts : ((xs.map (fr ∘ f) ++ (tagL, body, L) :: ys.map (fr ∘ g)).map fun p => (p.1, p.2.1)) =
      xs.map f ++ (tagL, body) :: ys.map g := by
    simp [fr, List.map_map, Function.comp_def]
  have := splitPackets_framed _ (S.length + 1) hall (by rw [hbytes]; exact Nat.lt_succ_self _)
  rwa [hbytes, hpkts] at this

theorem splitPackets_head (fuel : Nat) (s : Bytes) (p : Nat × Bytes) (ps : List (Nat × Bytes))
    (h : splitPackets fuel s = some (p :: ps)) : ∃ hd r, deframe s = .ok (hd, p.2, r) ∧ hd.tag = p.1 := by
  cases fuel with
  | zero => simp [splitPackets] at h
  | succ fuel =>
    unfold splitPackets at h
    split at h
    · cases h
    · split at h
      · cases h
      · rename_i hd body rest hdf
        split at h
        · cases h
        · injection h with h
          injection h with h _
          exact ⟨hd, rest, by rw [hdf, ← h], by rw [← h]⟩

theorem takeWhile_all {α : Type} (p : α → Bool) (l r : List α) (h : ∀ x ∈ l, p x = true) (x : α) (hx : p x = false) :
    (l ++ x :: r).takeWhile p = l ∧ (l ++ x :: r).dropWhile p = x :: r := by
  have hx' : ¬ p x = true := by simp [hx]
  rw [List.takeWhile_append_of_pos h, List.dropWhile_append_of_pos h, List.takeWhile_cons_of_neg hx',
    List.dropWhile_cons_of_neg hx', List.append_nil]
  exact ⟨rfl, rfl⟩

/-! ### the signed level -/

theorem framedAs_literalPkt (c : MsgCfg) (payload : Bytes)
    (hk : ∀ k, c.lit = .part k → 9 ≤ k ∧ k ≤ 30 ∧ c.litHdr.length ≤ 2 ^ k)
    (hlen : c.litHdr.length + payload.length < 4294967296) :
    FramedAs 11 (c.litHdr ++ payload) (literalPkt c payload) := by
  unfold literalPkt
  cases hl : c.lit with
  | fixed => exact framedAs_fixedPkt 11 (by decide) _ (by simpa using hlen)
  | part k =>
    obtain ⟨h9, h30, hh⟩ := hk k hl
    exact framedAs_emitPartial 11 k c.litHdr payload (by decide) ⟨h9, h30⟩ hh hlen

structure SigLaws (P : MsgPrims) : Prop where
  verify_sign : ∀ i d, P.sigOk i d (P.sigBody i d) = true

theorem zip_map_self {α β : Type} (l : List α) (f : α → β) (g : α → β → Bool) (h : ∀ a, g a (f a) = true) :
    ((l.zip (l.map f)).map fun (p : α × β) => g p.1 p.2) = List.replicate l.length true := by
  induction l with
  | nil => rfl
  | cons a l ih => simp [List.replicate_succ, h, ih]

theorem readSigned_signedStream (P : MsgPrims) (L : SigLaws P) (c : MsgCfg) (payload : Bytes)
    (hk : ∀ k, c.lit = .part k → 9 ≤ k ∧ k ≤ 30 ∧ c.litHdr.length ≤ 2 ^ k)
    (hlen : c.litHdr.length + payload.length < 4294967296)
    (hops : ∀ i ∈ c.signers, (P.opsBody i).length < 4294967296)
    (hsig : ∀ i ∈ c.signers, (P.sigBody i (P.preimage i payload)).length < 4294967296) :
    readSigned P c.litHdr.length c.signers (signedStream P c payload) =
      some { payload := payload, verified := List.replicate c.signers.length true } := by
  let sigOf : Nat → Bytes := fun i => P.sigBody i (P.preimage i payload)
  have hsplit := splitPackets_around (fun i => (4, P.opsBody i)) (fun i => (2, sigOf i)) c.signers c.signers.reverse
    (literalPkt c payload) (c.litHdr ++ payload) 11 (fun i hi => ⟨(by decide : 4 < 64), hops i hi⟩)
    (fun i hi => ⟨(by decide : 2 < 64), hsig i (List.mem_reverse.mp hi)⟩) (framedAs_literalPkt c payload hk hlen)
    (signedStream P c payload) rfl
  have hn : (c.signers.map fun i => ((4 : Nat), P.opsBody i)).length = c.signers.length := List.length_map ..
  have hrev : ((c.signers.reverse.map fun i => ((2 : Nat), sigOf i)).map (·.2)).reverse = c.signers.map sigOf := by
    simp [List.map_map, Function.comp_def, List.map_reverse]
  unfold readSigned
  simp only [hsplit]
  rw [List.take_left' hn, List.drop_left' hn, ← List.drop_drop, List.drop_left' hn]
  have hcond : ¬ ((11 : Nat) ≠ 11 ∨ (c.signers.map fun i => ((4 : Nat), P.opsBody i)).any (fun p => p.1 ≠ 4) = true ∨
      (c.signers.reverse.map fun i => ((2 : Nat), sigOf i)).any (fun p => p.1 ≠ 2) = true ∨
      (c.signers.reverse.map fun i => ((2 : Nat), sigOf i)).length ≠ c.signers.length ∨
      (c.signers.map fun i => ((4 : Nat), P.opsBody i)).length ≠ c.signers.length ∨
      (c.litHdr ++ payload).length < c.litHdr.length) := by
    simp
  simp only [List.head?_cons, List.drop_one, List.tail_cons, hcond, if_false, hrev, List.drop_left' rfl]
  rw [zip_map_self c.signers sigOf (fun i sb => P.sigOk i (P.preimage i payload) sb) (fun i => L.verify_sign ..)]

/-! ### compression and encryption layers -/

structure CompLaws (P : MsgPrims) : Prop where
  decompress_compress : ∀ a x, P.decompress a (P.compress a x) = some x

theorem readCompressed_layer (P : MsgPrims) (L : CompLaws P) (c : MsgCfg) (inner : Bytes)
    (hk : 9 ≤ c.k ∧ c.k ≤ 30)
    (hlen : ∀ a, c.compression = some a → a < 256 ∧ 1 + (P.compress a inner).length < 4294967296) :
    readCompressed P c (compressedLayer P c inner) = some inner := by
  unfold readCompressed compressedLayer
  cases hc : c.compression with
  | none => rfl
  | some a =>
    obtain ⟨ha, hl⟩ := hlen a hc
    obtain ⟨h, hd, htag⟩ := framedAs_compressedPkt c.k a (P.compress a inner) hk hl []
    rw [List.append_nil] at hd
    simp [hd, htag, toUInt8_toNat_of_lt a ha, L.decompress_compress]

theorem seipd2Decrypt_encrypt (A : Aead) (L : AeadLaws A 16) (info : Bytes) (cs : Nat) (hcs : 0 < cs) (pt : Bytes) :
    seipd2Decrypt A info cs (seipd2Encrypt A info cs pt) = (pt, true) := by
  obtain ⟨bl, h1, h2⟩ := seipd2_roundtrip A 16 L (by decide) info cs hcs pt
  unfold seipd2Decrypt
  have e1 : Gen.aeadTagSize = 16 := rfl
  have e2 : Gen.aeadWindowFactor = 2 := rfl
  simp only [e1, e2, h1, h2]

theorem readEncrypted_layer (P : MsgPrims) (L : AeadLaws P.aead 16) (c : MsgCfg) (inner : Bytes)
    (hk : 9 ≤ c.k ∧ c.k ≤ 30)
    (henc : ∀ co info cs, c.encryption = some (co, info, cs) →
      0 < cs ∧ co.length ≤ 2 ^ c.k ∧ co.length + (seipd2Encrypt P.aead info cs inner).length < 4294967296) :
    readEncrypted P c (encryptedLayer P c inner) = some inner := by
  unfold readEncrypted encryptedLayer
  cases hc : c.encryption with
  | none => rfl
  | some v =>
    obtain ⟨co, info, cs⟩ := v
    obtain ⟨hcs, hco, hl⟩ := henc co info cs hc
    obtain ⟨h, hd, htag⟩ := framedAs_emitPartial 18 c.k co (seipd2Encrypt P.aead info cs inner) (by decide)
      hk hco hl []
    rw [List.append_nil] at hd
    simp [hd, htag, List.take_left' rfl, List.drop_left' rfl, seipd2Decrypt_encrypt P.aead L info cs hcs]

end Rpgp
