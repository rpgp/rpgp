import RpgpModel.Policy
/-!
# Lemmas about the decision tables of `RpgpModel/Policy.lean` (property C15)

Each coded predicate gets its characterisation once (`decryptEdata_iff`, `verifyPath_iff`,
`hashSignatureData_iff`, `subOk_iff`, `verifyBindings_sigs`, …); `RpgpProps/C15.lean` reads the
property's clauses off these.
-/
namespace Rpgp.Policy

/-! ## version enums -/

/-- the octet a version was read from: `from(u8)` loses nothing, `Other(u8)` catches the rest -/
def PkeskVersion.toNat : PkeskVersion → Nat
  | .v3 => 3 | .v6 => 6 | .other n => n

theorem PkeskVersion.toNat_ofNat (n : Nat) : (PkeskVersion.ofNat n).toNat = n :=
  if h3 : n = Gen.pkeskV3 then by subst h3; rfl
  else if h6 : n = Gen.pkeskV6 then by subst h6; rfl
  else by rw [PkeskVersion.ofNat, if_neg h3, if_neg h6]; rfl

theorem pkesk_ofNat_inj (n m : Nat) : PkeskVersion.ofNat n = .ofNat m ↔ n = m :=
  ⟨fun h => by rw [← PkeskVersion.toNat_ofNat n, h, PkeskVersion.toNat_ofNat], congrArg _⟩

def SkeskVersion.toNat : SkeskVersion → Nat
  | .v4 => 4 | .v5 => 5 | .v6 => 6 | .other n => n

theorem SkeskVersion.toNat_ofNat (n : Nat) : (SkeskVersion.ofNat n).toNat = n :=
  if h4 : n = Gen.skeskV4 then by subst h4; rfl
  else if h5 : n = Gen.skeskV5 then by subst h5; rfl
  else if h6 : n = Gen.skeskV6 then by subst h6; rfl
  else by rw [SkeskVersion.ofNat, if_neg h4, if_neg h5, if_neg h6]; rfl

theorem skesk_ofNat_inj (n m : Nat) : SkeskVersion.ofNat n = .ofNat m ↔ n = m :=
  ⟨fun h => by rw [← SkeskVersion.toNat_ofNat n, h, SkeskVersion.toNat_ofNat], congrArg _⟩

/-! ## session keys, `find_session_key` -/

theorem session_key_kind_table (c : ContainerCfg) (sk : SessKey) :
    sessionKeyFits c sk = (kindSpec c.kind sk.kind &&
      (match c.kind, sk.kind with
       | .gnupg, .v3_4 => decide (c.alg = sk.alg) && decide (sk.len = c.keySize)
       | .gnupg, .v5 => decide (sk.len = c.keySize)
       | .seipd2, .v6 => decide (sk.len = c.keySize)
       | _, _ => true)) := by
  obtain ⟨k, a, ks⟩ := c
  obtain ⟨kd, al, ky, ln⟩ := sk
  cases k <;> cases kd <;> rfl

theorem fits_implies_kind (c : ContainerCfg) (sk : SessKey) (h : sessionKeyFits c sk = true) :
    kindSpec c.kind sk.kind = true := by
  rw [session_key_kind_table, Bool.and_eq_true] at h
  exact h.1

theorem decryptEdata_iff (o : DecOpts) (c : ContainerCfg) (sk : SessKey) :
    decryptEdata o c sk = true ↔ sessionKeyFits c sk = true ∧
      (c.kind = .sed → o.legacy = true) ∧ (c.kind = .gnupg → o.gnupgAead = true) := by
  unfold decryptEdata
  cases c.kind <;> simp [and_comm]

theorem decryptParsed_ok_iff (c : ContainerCfg) (esks : List Esk) (r : Ring) (k : RawKey) (ab : Bool) :
    decryptParsed c esks r k ab = .ok ↔
      ∃ sk, findSessionKey r k esks ab = some (some sk) ∧ decryptEdata r.opts c sk = true := by
  unfold decryptParsed
  split <;> simp [*]

theorem pkeskYield_kind (r : Ring) (k : RawKey) (e : Esk) (sk : SessKey)
    (h : pkeskYield r k e = some sk) :
    e.isPk = true ∧ ((e.ver = 3 ∧ sk.kind = .v3_4) ∨ (e.ver = 6 ∧ sk.kind = .v6)) := by
  unfold pkeskYield at h
  split at h
  · rename_i hc
    refine ⟨(Bool.and_eq_true _ _ ▸ hc).1, ?_⟩
    split at h
    · rename_i h3; cases h; exact .inl ⟨(pkesk_ofNat_inj _ 3).1 h3, rfl⟩
    · rename_i h6; cases h; exact .inr ⟨(pkesk_ofNat_inj _ 6).1 h6, rfl⟩
    · cases h
  · cases h

theorem skeskYield_kind (r : Ring) (k : RawKey) (e : Esk) (sk : SessKey)
    (h : skeskYield r k e = some sk) :
    e.isPk = false ∧ ((e.ver = 4 ∧ sk.kind = .v3_4) ∨ (e.ver = 5 ∧ sk.kind = .v5 ∧ r.opts.gnupgAead = true) ∨
      (e.ver = 6 ∧ sk.kind = .v6)) := by
  unfold skeskYield at h
  split at h
  · rename_i hc
    simp only [Bool.and_eq_true, Bool.not_eq_true'] at hc
    refine ⟨hc.1, ?_⟩
    split at h
    · rename_i h4; cases h; exact .inl ⟨(skesk_ofNat_inj _ 4).1 h4, rfl⟩
    · rename_i h5
      split at h
      · rename_i hg; cases h; exact .inr (.inl ⟨(skesk_ofNat_inj _ 5).1 h5, rfl, hg⟩)
      · cases h
    · rename_i h6; cases h; exact .inr (.inr ⟨(skesk_ofNat_inj _ 6).1 h6, rfl⟩)
    · cases h
  · cases h

theorem head_filterMap_mem {α β} (f : α → Option β) (l : List α) (b : β)
    (h : (l.filterMap f).head? = some b) : ∃ a ∈ l, f a = some b :=
  List.mem_filterMap.1 (List.mem_of_head? h)

theorem findSessionKey_from_esk (r : Ring) (k : RawKey) (esks : List Esk) (ab : Bool) (sk : SessKey)
    (hs : r.sessionKeys = []) (h : findSessionKey r k esks ab = some (some sk)) :
    ∃ e ∈ esks, pkeskYield r k e = some sk ∨ skeskYield r k e = some sk := by
  have hsearch : searchSessionKey r k esks = some (some sk) := by
    unfold findSessionKey at h
    rw [hs] at h
    cases ab <;> exact h
  unfold searchSessionKey at hsearch
  rw [hs] at hsearch
  simp only [List.head?_nil, Option.or_none] at hsearch
  split at hsearch
  · simp only [Option.some.injEq, Option.or_eq_some_iff] at hsearch
    rcases hsearch with h1 | ⟨_, h2⟩
    · obtain ⟨e, he, hy⟩ := head_filterMap_mem _ _ _ h1
      exact ⟨e, he, .inl hy⟩
    · obtain ⟨e, he, hy⟩ := head_filterMap_mem _ _ _ h2
      exact ⟨e, he, .inr hy⟩
  · cases hsearch

/-! ## signatures -/

theorem verifyPath_iff (p : VPath) (kv : Nat) (s : SigDesc) :
    verifyPath p kv s = true ↔
      s.known = true ∧ typeOk p s.typ = true ∧ keyGuards p kv s = true ∧
      ((checksSaltLen p = true ∧ s.ver = Gen.sigV6) → s.saltLenOk = true) ∧
      hashSignatureData s.ver s.hashed = true ∧ s.prefixOk = true ∧ s.cryptoOk = true := by
  simp only [verifyPath, Bool.and_eq_true, Bool.or_eq_true, Bool.not_eq_true', and_assoc, Bool.and_eq_false_iff,
    decide_eq_false_iff_not, Decidable.or_iff_not_imp_left, Decidable.not_not, Decidable.not_imp_iff_and_not,
    Bool.not_eq_false]

theorem keyGuards_align (p : VPath) (kv : Nat) (s : SigDesc) (h : keyGuards p kv s = true) :
    alignSigKey kv s.ver = true := by
  simp [keyGuards, Gen.inlineChecksPreconditions] at h
  exact h.1.1

theorem verifyPath_false_of_hash (p : VPath) (kv : Nat) (s : SigDesc)
    (h : hashSignatureData s.ver s.hashed = false) : verifyPath p kv s = false := by
  simp [verifyPath, h]

theorem hashedAreaOk_iff (sv : Nat) (l : List Sub) : hashedAreaOk sv l = l.all (subOk sv) := by
  induction l with
  | nil => rfl
  | cons a t ih => simp [hashedAreaOk, ih]

theorem hashSignatureData_iff (sv : Nat) (l : List Sub) :
    hashSignatureData sv l = true ↔ sv = 2 ∨ sv = 3 ∨ ((sv = 4 ∨ sv = 6) ∧ ∀ x ∈ l, subOk sv x = true) := by
  rw [← or_assoc]
  show (if sv = 2 ∨ sv = 3 then true else if sv = 4 ∨ sv = 6 then hashedAreaOk sv l else false) = true ↔ _
  split
  · simp [*]
  · split <;> simp [*, hashedAreaOk_iff]

theorem hashSignatureData_false_of_mem (sv : Nat) (l : List Sub) (x : Sub) (hv : sv ≠ 2 ∧ sv ≠ 3)
    (hx : x ∈ l) (h : subOk sv x = false) : hashSignatureData sv l = false := by
  cases hr : hashSignatureData sv l
  · rfl
  · rcases (hashSignatureData_iff sv l).1 hr with h2 | h3 | ⟨_, hall⟩
    · exact absurd h2 hv.1
    · exact absurd h3 hv.2
    · rw [hall x hx] at h; cases h

theorem subOk_iff (sv : Nat) (x : Sub) :
    subOk sv x = true ↔ ¬ (x.critical = true ∧ subClass x.id = .other) ∧ (x.id = 33 → fpAligned sv x.fpVer = true) := by
  have e : Gen.spRdIssuerFingerprint = 33 := rfl
  have e1 : Gen.hashSigDataChecksCritical = 1 := rfl
  simp only [subOk, e, e1, true_and]
  split
  · rename_i hc; simp [hc]
  · rename_i hc
    split
    · rename_i hid; exact ⟨fun h => ⟨hc, fun _ => h⟩, fun h => h.2 hid⟩
    · rename_i hid; exact ⟨fun _ => ⟨hc, fun h => absurd h hid⟩, fun _ => rfl⟩

theorem subOk_critical_other (sv : Nat) (x : Sub) (hc : x.critical = true) (ho : subClass x.id = .other) :
    subOk sv x = false :=
  Bool.eq_false_iff.2 fun h => ((subOk_iff sv x).1 h).1 ⟨hc, ho⟩

/-- `SubpacketType::from_u8` answers `Other` exactly outside the registry and the private range —
for every id, since the reader table is the registry -/
theorem subClass_other_iff (id : Nat) :
    subClass id = .other ↔ (¬ id ∈ registryIds ∧ ¬ (100 ≤ id ∧ id ≤ 110)) := by
  show (if registryIds.contains id then SubClass.known
    else if 100 ≤ id ∧ id ≤ 110 then .experimental else .other) = .other ↔ _
  split
  · rename_i h; simp [List.contains_iff_mem.1 h]
  · rename_i h
    rw [List.contains_iff_mem] at h
    split <;> simp [*]

theorem ops_matches_iff (o : OpsDesc) (s : SigDesc) :
    opsMatches o s = true ↔
      s.known = true ∧ o.typ = s.typ ∧ o.hashAlg = s.hashAlg ∧ o.pubAlg = s.pubAlg ∧
      ((o.ver = 3 ∧ s.ver = 4) ∨ (o.ver = 6 ∧ s.ver = 6 ∧ o.salt = s.salt)) := by
  have e4 : Gen.sigV4 = 4 := rfl
  have e6 : Gen.sigV6 = 6 := rfl
  simp [opsMatches, e4, e6, and_assoc]

/-! ## certificates -/

theorem publicSubSigOk_iff (g : SubSig) :
    publicSubSigOk g = true ↔ g.bindingOk = true ∧ (g.signFlag = true → g.back = .good) := by
  cases hf : g.signFlag <;> simp [publicSubSigOk, Gen.publicSubkeyChecksBacksig, hf]

theorem verifyBindings_sigs (asSecret : Bool) (c : CertDesc) (h : verifyBindings asSecret c = true) :
    ∀ s ∈ c.subkeys, ∀ g ∈ s.sigs,
      (if asSecret && s.secret then secretSubSigOk g else publicSubSigOk g) = true := by
  intro s hs g hg
  simp only [verifyBindings, Bool.and_eq_true, List.all_eq_true] at h
  have hsub := h.2 s hs
  simp only [subkeyOk, Bool.or_eq_true, List.isEmpty_iff] at hsub
  rcases hsub with h0 | h1
  · rw [h0] at hg; cases hg
  · split at h1 <;> simp only [*, if_true] <;> exact List.all_eq_true.1 h1 g hg

/-- guard: every signing-capable binding that verifies carries a good back signature -/
def backsigsPresent (c : CertDesc) : Bool :=
  c.subkeys.all fun s => s.sigs.all fun g => !(g.bindingOk && g.signFlag) || decide (g.back = .good)

theorem subSig_agree (g : SubSig) (h : (!(g.bindingOk && g.signFlag) || decide (g.back = .good)) = true) :
    secretSubSigOk g = publicSubSigOk g := by
  unfold secretSubSigOk publicSubSigOk
  cases hb : g.bindingOk <;> cases hf : g.signFlag <;> simp [hb, hf] at h ⊢
  simp [h]

theorem all_congr_mem {α} (l : List α) (f g : α → Bool) (h : ∀ x ∈ l, f x = g x) : l.all f = l.all g := by
  induction l with
  | nil => rfl
  | cons a t ih =>
    simp only [List.all_cons]
    rw [h a (by simp), ih (fun x hx => h x (by simp [hx]))]

/-- witness: v4 cert, one secret signing subkey whose binding lacks the 0x19 back signature -/
def d15aWitness : CertDesc :=
  { primaryVer := 4, detailsOk := true,
    subkeys := [{ secret := true, ver := 4, sigs := [{ bindingOk := true, signFlag := true, back := .absent }] }] }

end Rpgp.Policy
