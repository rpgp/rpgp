import RpgpModel.PacketIter
/-! Proofs about the end of a packet stream (C09). -/
namespace Rpgp.PacketIter
open Rpgp

theorem fixD4n_on : Gen.fixD4nNextRefTracksErrors = 1 := by decide
theorem fixD4p_on : Gen.fixD4pIteratorTracksErrors = 1 := by decide

theorem nextRef_eq : nextRef = nextWith true := by
  funext pre t; simp [nextRef, fixD4n_on]

theorem nextIter_eq : nextIter = nextWith true := by
  funext pre t; simp [nextIter, fixD4p_on]

theorem nextWith_failed_is_err (pre : Bytes) (k : Bool) (h : ∀ hd rest, parseHeader pre ≠ .ok (hd, rest)) :
    nextWith true pre (.failed k) = .err := by
  unfold nextWith
  cases hp : parseHeader pre with
  | ok v => exact absurd hp (h v.1 v.2)
  | error e => cases e <;> rfl

theorem nextWith_done_only_at_end (pre : Bytes) (t : Tail) (h : nextWith true pre t = .done) : t = .ended := by
  cases t with
  | ended => rfl
  | failed k =>
    unfold nextWith at h
    split at h
    · split at h
      · split at h <;> cases h
      · cases h
    · cases h
    · cases h

theorem nextWith_complete_header (fixed : Bool) (pre : Bytes) (t : Tail) (hd : Hdr) (rest : Bytes)
    (h : parseHeader pre = .ok (hd, rest)) (hf : ∀ n, hd.len ≠ .part n) : nextWith fixed pre t = .hdr hd rest := by
  unfold nextWith
  rw [h]
  cases hl : hd.len with
  | part n => exact absurd hl (hf n)
  | fixed n => simp [hl]
  | indet => simp [hl]

theorem nextWith_clean_end (fixed : Bool) : nextWith fixed [] .ended = .done := rfl

/-- regression witness: before the repairs a reader that fails with `UnexpectedEof` after the first
octet of a header was taken for the end of the packets -/
theorem prefix_swallows_unexpected_eof_witness :
    nextWith false [0xC2] (.failed true) = .done ∧ nextWith true [0xC2] (.failed true) = .err ∧
    nextWith false [0xC2] (.failed false) = .err := by decide

end Rpgp.PacketIter
