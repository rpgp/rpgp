import RpgpModel.Framing
import RpgpProofs.Bytes
/-! Length codecs, packet headers, partial-body framing and packet streams (C17, used by C01/C05). -/
namespace Rpgp

/-- the two digits of `a * m + b` in radix `m` -/
theorem mul_add_div_mod {a b m : Nat} (h : b < m) : (a * m + b) / m = a ∧ (a * m + b) % m = b :=
  ⟨by rw [Nat.mul_comm, Nat.mul_add_div (Nat.zero_lt_of_lt h), Nat.div_eq_of_lt h, Nat.add_zero],
    Nat.mul_add_mod_of_lt h⟩

/-! ## the new-format length codec -/

theorem decodeNewLen_one (o : Byte) (r : Bytes) (h : o.toNat ≤ 191) :
    decodeNewLen (o :: r) = some (.fixed o.toNat, r) :=
  if_pos h

theorem decodeNewLen_two (o a : Byte) (r : Bytes) (h1 : 192 ≤ o.toNat) (h2 : o.toNat ≤ 223) :
    decodeNewLen (o :: a :: r) = some (.fixed ((o.toNat - 192) * 256 + 192 + a.toNat), r) :=
  (if_neg (Nat.not_le.mpr h1)).trans (if_pos h2)

theorem decodeNewLen_part (o : Byte) (r : Bytes) (h1 : 224 ≤ o.toNat) (h2 : o.toNat ≤ 254) :
    decodeNewLen (o :: r) = some (.part (2 ^ (o.toNat % 32)), r) :=
  (if_neg (Nat.not_le.mpr (Nat.lt_of_lt_of_le (by decide : 191 < 224) h1))).trans
    ((if_neg (Nat.not_le.mpr h1)).trans (if_pos h2))

theorem decodeNewLen_four (l : Bytes) (hl : l.length = 4) (r : Bytes) :
    decodeNewLen (255 :: l ++ r) = some (.fixed (beNat l), r) :=
  match l, hl with
  | [_, _, _, _], _ => rfl

theorem decodeNewLen_encodeNewLenAs (form n : Nat) (l rest : Bytes)
    (h : encodeNewLenAs form n = some l) : decodeNewLen (l ++ rest) = some (Len.fixed n, rest) := by
  unfold encodeNewLenAs at h
  split at h
  · split at h <;> cases h
    rename_i hn
    have h1 := decodeNewLen_one n.toUInt8 rest
    rw [toUInt8_toNat_of_lt n (Nat.lt_trans hn (by decide))] at h1
    exact h1 (Nat.le_of_lt_succ hn)
  · split at h <;> cases h
    rename_i hn
    have hq : (n - 192) / 256 + 192 < 224 :=
      Nat.add_lt_add_right (Nat.div_lt_of_lt_mul (Nat.sub_lt_left_of_lt_add hn.1 hn.2)) 192
    have h2 := decodeNewLen_two ((n - 192) / 256 + 192).toUInt8 ((n - 192) % 256).toUInt8 rest
    rw [toUInt8_toNat_of_lt _ (Nat.lt_trans hq (by decide)), toUInt8_toNat_of_lt _ (Nat.mod_lt _ (by decide)),
      Nat.add_sub_cancel, Nat.add_right_comm, Nat.mul_comm, Nat.div_add_mod, Nat.sub_add_cancel hn.1] at h2
    exact h2 (Nat.le_add_left _ _) (Nat.le_of_lt_succ hq)
  · split at h <;> cases h
    rw [decodeNewLen_four _ (be32_length n), beNat_be32 n ‹_›]
  · cases h

theorem encodeNewLen_minimal (n : Nat) (hn : n < 4294967296) :
    ∃ form, encodeNewLenAs form n = some (encodeNewLen n) := by
  unfold encodeNewLen
  split
  · exact ⟨1, if_pos ‹_›⟩
  · split
    · exact ⟨2, if_pos ⟨Nat.le_of_not_lt ‹_›, ‹_›⟩⟩
    · exact ⟨5, if_pos hn⟩

theorem decodeNewLen_encodeNewLen (n : Nat) (h : n < 4294967296) (rest : Bytes) :
    decodeNewLen (encodeNewLen n ++ rest) = some (Len.fixed n, rest) :=
  let ⟨form, hf⟩ := encodeNewLen_minimal n h
  decodeNewLen_encodeNewLenAs form n _ rest hf

theorem encodeNewLenHdr_eq (n : Nat) : encodeNewLenHdr n = encodeNewLen n := rfl

theorem decodeNewLen_partialOctet (k : Nat) (hk : k ≤ 30) (r : Bytes) :
    decodeNewLen (partialOctet k :: r) = some (Len.part (2 ^ k), r) := by
  have hk' : 224 + k < 255 := Nat.add_lt_add_left (Nat.lt_succ_of_le hk) 224
  have hb : (partialOctet k).toNat = 7 * 32 + k := toUInt8_toNat_of_lt (224 + k) (Nat.lt_trans hk' (by decide))
  have h := decodeNewLen_part (partialOctet k) r
  rw [hb, Nat.mul_add_mod_of_lt (Nat.lt_of_le_of_lt hk (by decide))] at h
  exact h (Nat.le_add_right 224 k) (Nat.le_of_lt_succ hk')

theorem decodeNewLen_partial_range (o : Byte) (r : Bytes) (n : Nat) (r' : Bytes)
    (h : decodeNewLen (o :: r) = some (Len.part n, r')) : ∃ k, k ≤ 30 ∧ n = 2 ^ k ∧ r' = r := by
  generalize hi : o :: r = inp at h
  revert h
  fun_cases decodeNewLen inp <;> intro h <;>
    simp only [Option.some.injEq, Prod.mk.injEq, reduceCtorEq, Len.part.injEq, false_and] at h
  rename_i h223 h254
  cases hi
  simp only [Gen.rdTwoOctetMax, Gen.rdPartialMax] at h223 h254
  exact ⟨o.toNat % 32, by omega, h.1.symm, h.2.symm⟩

theorem decodeNewLen_rest_lt (inp : Bytes) (l : Len) (r : Bytes) (h : decodeNewLen inp = some (l, r)) :
    r.length < inp.length := by
  revert h
  fun_cases decodeNewLen inp <;> intro h <;> simp only [Option.some.injEq, Prod.mk.injEq, reduceCtorEq] at h
  all_goals (rw [← h.2]; simp only [List.length_cons]; omega)

/-! ## headers -/

theorem parseHeader_new (tag : Nat) (ht : tag < 64) (t : Bytes) (l : Len) (r : Bytes)
    (h : decodeNewLen t = some (l, r)) :
    parseHeader ((192 + tag).toUInt8 :: t) = .ok ({ newFormat := true, tag := tag, len := l }, r) := by
  have hx : (192 + tag).toUInt8.toNat = 3 * 64 + tag := toUInt8_toNat_of_lt _ (Nat.add_lt_add_left ht 192)
  refine (if_pos ?_).trans ?_ <;> rw [hx]
  · exact (mul_add_div_mod ht).1
  · rw [h, (mul_add_div_mod ht).2]

theorem parseHeader_old (x : Byte) (lt : Nat) (hlt : lt < 3) (h64 : x.toNat / 64 = 2) (h4 : x.toNat % 4 = lt)
    (l r : Bytes) (hl : l.length = 2 ^ lt) :
    parseHeader (x :: (l ++ r)) =
      .ok ({ newFormat := false, tag := x.toNat / 4 % 16, len := .fixed (beNat l) }, r) := by
  refine (if_neg (by rw [h64]; decide)).trans ((if_pos h64).trans ?_)
  rw [h4]
  -- `be16_beNat`, `be32_beNat` spell a list of two / four octets out without a case split on it
  match lt, hlt with
  | 0, _ =>
    obtain ⟨a, rfl⟩ := List.length_eq_one_iff.mp hl
    exact congrArg (fun n => Except.ok (Hdr.mk false _ (.fixed n), r)) (Nat.zero_add a.toNat).symm
  | 1, _ => rw [← be16_beNat l hl, be16_eq]; rfl
  | 2, _ => rw [← be32_beNat l hl, be32_eq]; rfl

theorem parseHeader_old3 (x : Byte) (h64 : x.toNat / 64 = 2) (h4 : x.toNat % 4 = 3) (r : Bytes) :
    parseHeader (x :: r) = .ok ({ newFormat := false, tag := x.toNat / 4 % 16, len := .indet }, r) := by
  simp [parseHeader, h64, h4]

/-- the fields of the old-format header octet `write_header` writes: format bits `10`, tag, length type -/
theorem oldHeaderOctet_fields (tag lt : Nat) (ht : tag < 16) (hlt : lt < 4) :
    (128 + tag * 4 + lt).toUInt8.toNat / 64 = 2 ∧ (128 + tag * 4 + lt).toUInt8.toNat / 4 % 16 = tag ∧
      (128 + tag * 4 + lt).toUInt8.toNat % 4 = lt := by
  have hx : 128 + tag * 4 + lt = (2 * 16 + tag) * 4 + lt := by rw [Nat.add_mul]
  have h4 := mul_add_div_mod (a := 2 * 16 + tag) hlt
  have h16 := mul_add_div_mod (a := 2) ht
  rw [toUInt8_toNat_of_lt _ (by omega), hx, ← Nat.div_div_eq_div_mul _ 4 16, h4.1, h4.2, h16.1, h16.2]
  exact ⟨rfl, rfl, rfl⟩

theorem encodeOldLenAs_eq_some {lt n : Nat} {l : Bytes} (h : encodeOldLenAs lt n = some l) :
    lt < 3 ∧ l.length = 2 ^ lt ∧ beNat l = n := by
  unfold encodeOldLenAs at h
  split at h
  · split at h <;> cases h
    exact ⟨by decide, rfl, by simp [beNat, toUInt8_toNat_of_lt n ‹_›]⟩
  · split at h <;> cases h
    exact ⟨by decide, be16_length n, beNat_be16 n ‹_›⟩
  · split at h <;> cases h
    exact ⟨by decide, be32_length n, beNat_be32 n ‹_›⟩
  · cases h

theorem encodeOldLen_minimal (n : Nat) (hn : n < 4294967296) :
    encodeOldLenAs (encodeOldLen n).1 n = some (encodeOldLen n).2 := by
  unfold encodeOldLen
  split
  · exact if_pos ‹_›
  · split
    · exact if_pos ‹_›
    · exact if_pos hn

theorem parseHeader_encodeOldLenAs (tag lt n : Nat) (ht : tag < 16) (l rest : Bytes)
    (hl : encodeOldLenAs lt n = some l) :
    parseHeader ((128 + tag * 4 + lt).toUInt8 :: (l ++ rest)) =
      .ok ({ newFormat := false, tag := tag, len := .fixed n }, rest) := by
  obtain ⟨hlt, hlen, hv⟩ := encodeOldLenAs_eq_some hl
  obtain ⟨h64, htag, h4⟩ := oldHeaderOctet_fields tag lt ht (by omega)
  rw [parseHeader_old _ lt hlt h64 h4 l rest hlen, hv, htag]

theorem parseHeader_writeHeader (newFormat : Bool) (tag n : Nat)
    (ht : if newFormat then tag < 64 else tag < 16) (hn : n < 4294967296) (rest : Bytes) :
    parseHeader (writeHeader newFormat tag n ++ rest) =
      .ok ({ newFormat := newFormat, tag := tag, len := .fixed n }, rest) :=
  match newFormat with
  | true => parseHeader_new tag ht _ _ _ (decodeNewLen_encodeNewLen n hn rest)
  | false => parseHeader_encodeOldLenAs tag _ n ht _ rest (encodeOldLen_minimal n hn)

/-! ## one packet -/

theorem deframe_ok {inp r b rest : Bytes} {h : Hdr} (hp : parseHeader inp = .ok (h, r))
    (hb : deframeBody h r = .ok (b, rest)) : deframe inp = .ok (h, b, rest) := by
  simp only [deframe, hp, hb]

theorem deframe_error {inp r : Bytes} {h : Hdr} {e : FrErr} (hp : parseHeader inp = .ok (h, r))
    (hb : deframeBody h r = .error e) : deframe inp = .error e := by
  simp only [deframe, hp, hb]

theorem deframeBody_fixed (h : Hdr) (body rest : Bytes) (hl : h.len = .fixed body.length) :
    deframeBody h (body ++ rest) = .ok (body, rest) := by
  simp [deframeBody, hl]

theorem deframeBody_fixed_short (h : Hdr) (n : Nat) (r : Bytes) (hl : h.len = .fixed n) (hs : r.length < n) :
    deframeBody h r = .error .bad := by
  simp only [deframeBody, hl, hs, if_true]

theorem deframe_fixed (newFormat : Bool) (tag : Nat) (ht : if newFormat then tag < 64 else tag < 16)
    (body rest : Bytes) (hb : body.length < 4294967296) :
    deframe (writeHeader newFormat tag body.length ++ body ++ rest) =
      .ok ({ newFormat := newFormat, tag := tag, len := .fixed body.length }, body, rest) := by
  rw [List.append_assoc]
  exact deframe_ok (parseHeader_writeHeader newFormat tag _ ht hb _) (deframeBody_fixed _ body rest rfl)

theorem deframe_frameFixedAs (newFormat : Bool) (tag form : Nat)
    (ht : if newFormat then tag < 64 else tag < 16) (body s rest : Bytes)
    (hs : frameFixedAs newFormat tag form body = some s) :
    deframe (s ++ rest) =
      .ok ({ newFormat := newFormat, tag := tag, len := .fixed body.length }, body, rest) := by
  unfold frameFixedAs at hs
  cases newFormat
  · obtain ⟨l, hl, rfl⟩ := Option.map_eq_some_iff.mp ((if_neg Bool.false_ne_true).symm.trans hs)
    rw [List.cons_append, List.append_assoc]
    exact deframe_ok (parseHeader_encodeOldLenAs tag form _ ht l _ hl) (deframeBody_fixed _ body rest rfl)
  · obtain ⟨l, hl, rfl⟩ := Option.map_eq_some_iff.mp ((if_pos rfl).symm.trans hs)
    rw [List.cons_append, List.append_assoc]
    exact deframe_ok (parseHeader_new tag ht _ _ _ (decodeNewLen_encodeNewLenAs form _ l _ hl))
      (deframeBody_fixed _ body rest rfl)

theorem deframe_indeterminate (tag : Nat) (ht : tag < 16) (body : Bytes) :
    deframe ((128 + tag * 4 + 3).toUInt8 :: body) =
      .ok ({ newFormat := false, tag := tag, len := .indet }, body, []) := by
  obtain ⟨h64, htag, h4⟩ := oldHeaderOctet_fields tag 3 ht (by decide)
  exact deframe_ok ((parseHeader_old3 _ h64 h4 body).trans (by rw [htag])) rfl

theorem deframe_rejects_truncated_fixed (newFormat : Bool) (tag n : Nat)
    (ht : if newFormat then tag < 64 else tag < 16) (hn : n < 4294967296)
    (avail : Bytes) (hshort : avail.length < n) :
    deframe (writeHeader newFormat tag n ++ avail) = .error .bad :=
  deframe_error (parseHeader_writeHeader newFormat tag n ht hn avail) (deframeBody_fixed_short _ n avail rfl hshort)

theorem partialAllowed_lt (tag : Nat) (h : partialAllowed tag = true) : tag < 64 := by
  simp [partialAllowed] at h; omega

/-! ## partial bodies -/

theorem encodeNewLen_ne_nil (n : Nat) : encodeNewLen n ≠ [] := by
  unfold encodeNewLen
  split
  · exact List.cons_ne_nil _ _
  · split <;> exact List.cons_ne_nil _ _

theorem frameSegs_cons_eq_some {k : Nat} {ks : List Nat} {body t : Bytes}
    (h : frameSegs (k :: ks) body = some t) :
    2 ^ k ≤ body.length ∧ ∃ t', frameSegs ks (body.drop (2 ^ k)) = some t' ∧
      t = partialOctet k :: (body.take (2 ^ k) ++ t') := by
  unfold frameSegs at h
  split at h
  · cases h
  · obtain ⟨t', ht', rfl⟩ := Option.map_eq_some_iff.mp h
    exact ⟨Nat.le_of_not_lt ‹_›, t', ht', rfl⟩

theorem frameSegs_length (segs : List Nat) : ∀ (body t : Bytes),
    frameSegs segs body = some t → segs.length + 1 ≤ t.length := by
  induction segs with
  | nil =>
    intro body t h
    cases h
    rw [List.length_append]
    exact Nat.le_trans (List.length_pos_iff.mpr (encodeNewLen_ne_nil body.length)) (Nat.le_add_right _ _)
  | cons k ks ih =>
    intro body t h
    obtain ⟨-, t', ht', rfl⟩ := frameSegs_cons_eq_some h
    rw [List.length_cons, List.length_cons, List.length_append]
    exact Nat.succ_le_succ (Nat.le_trans (ih _ _ ht') (Nat.le_add_left _ _))

theorem deframeCont_last (fuel : Nat) (inp body rest : Bytes)
    (hd : decodeNewLen inp = some (.fixed body.length, body ++ rest)) :
    deframeCont (fuel + 1) inp = .ok (body, rest) := by
  simp [deframeCont, hd]

theorem deframeCont_part (fuel n : Nat) (inp chunk t b rest : Bytes) (hc : chunk.length = n)
    (hd : decodeNewLen inp = some (.part n, chunk ++ t)) (ht : deframeCont fuel t = .ok (b, rest)) :
    deframeCont (fuel + 1) inp = .ok (chunk ++ b, rest) := by
  subst hc
  simp [deframeCont, hd, ht]

/-- once the tag and the 512-octet minimum are checked, the first partial segment is read like every
later one -/
theorem deframeBody_part (nf : Bool) (tag k : Nat) (r : Bytes) (ha : partialAllowed tag = true)
    (h9 : 9 ≤ k) (hk : k ≤ 30) :
    deframeBody { newFormat := nf, tag := tag, len := .part (2 ^ k) } r =
      deframeCont (r.length + 2) (partialOctet k :: r) := by
  have : ¬ 2 ^ k < 512 := Nat.not_lt.mpr (Nat.pow_le_pow_right (by decide : 2 > 0) h9)
  simp only [deframeBody, ha, Gen.rdFirstPartialMin, this, deframeCont, decodeNewLen_partialOctet k hk,
    Bool.not_true, Bool.false_eq_true, if_false]

theorem deframeCont_frameSegs (segs : List Nat) : ∀ (body t rest : Bytes) (fuel : Nat),
    frameSegs segs body = some t → (∀ k ∈ segs, k ≤ 30) → body.length < 4294967296 →
    segs.length + 1 ≤ fuel →
    deframeCont fuel (t ++ rest) = .ok (body, rest) := by
  induction segs with
  | nil =>
    intro body t rest fuel h _ hb hf
    cases h
    obtain ⟨f, rfl⟩ := Nat.exists_eq_succ_of_ne_zero (Nat.ne_zero_of_lt hf)
    rw [List.append_assoc]
    exact deframeCont_last _ _ _ _ (decodeNewLen_encodeNewLen _ hb _)
  | cons k ks ih =>
    intro body t rest fuel h hk hb hf
    obtain ⟨f, rfl⟩ := Nat.exists_eq_succ_of_ne_zero (Nat.ne_zero_of_lt hf)
    obtain ⟨hge, t', ht', rfl⟩ := frameSegs_cons_eq_some h
    have hlen : (body.take (2 ^ k)).length = 2 ^ k := List.length_take_of_le hge
    have ih' := ih (body.drop (2 ^ k)) t' rest f ht' (fun x hx => hk x (List.mem_cons_of_mem _ hx))
      (Nat.lt_of_le_of_lt (List.drop_sublist _ _).length_le hb) (Nat.le_of_succ_le_succ hf)
    have := deframeCont_part f _ _ _ _ _ _ hlen
      (decodeNewLen_partialOctet k (hk k List.mem_cons_self) (body.take (2 ^ k) ++ (t' ++ rest))) ih'
    rwa [List.take_append_drop, ← List.append_assoc] at this

theorem deframe_partial (tag : Nat) (k : Nat) (ks : List Nat) (body s rest : Bytes)
    (hs : framePartial tag (k :: ks) body = some s)
    (hallow : partialAllowed tag = true) (hfirst : 9 ≤ k)
    (hk : ∀ x ∈ k :: ks, x ≤ 30) (hb : body.length < 4294967296) :
    deframe (s ++ rest) =
      .ok ({ newFormat := true, tag := tag, len := .part (2 ^ k) }, body, rest) := by
  have hk30 := hk k List.mem_cons_self
  obtain ⟨t, ht, rfl⟩ := Option.map_eq_some_iff.mp hs
  have hfuel := frameSegs_length _ _ _ ht
  have hcont := deframeCont_frameSegs (k :: ks) body t rest
  obtain ⟨-, t', -, rfl⟩ := frameSegs_cons_eq_some ht
  rw [List.cons_append] at hcont
  rw [List.cons_append, List.cons_append]
  refine deframe_ok (parseHeader_new tag (partialAllowed_lt tag hallow) _ _ _
    (decodeNewLen_partialOctet k hk30 _)) ?_
  rw [deframeBody_part true tag k _ hallow hfirst hk30]
  refine hcont _ ht hk hb (Nat.le_trans hfuel ?_)
  rw [List.length_cons, List.length_append (bs := rest)]
  exact Nat.succ_le_succ (Nat.le_succ_of_le (Nat.le_add_right _ _))

theorem deframeBody_part_rejects (h : Hdr) (n : Nat) (r : Bytes) (hl : h.len = .part n)
    (hbad : partialAllowed h.tag = false ∨ n < 512) : deframeBody h r = .error .bad := by
  rcases hbad with hbad | hbad <;> simp [deframeBody, hl, Gen.rdFirstPartialMin, hbad]

theorem deframe_rejects_partial_tag (tag : Nat) (ht : tag < 64) (hna : partialAllowed tag = false)
    (k : Nat) (hk : k ≤ 30) (r : Bytes) :
    deframe ((192 + tag).toUInt8 :: partialOctet k :: r) = .error .bad :=
  deframe_error (parseHeader_new tag ht _ _ _ (decodeNewLen_partialOctet k hk r))
    (deframeBody_part_rejects _ _ r rfl (.inl hna))

theorem deframe_rejects_short_first (tag : Nat) (ht : tag < 64) (k : Nat) (hk : k < 9) (r : Bytes) :
    deframe ((192 + tag).toUInt8 :: partialOctet k :: r) = .error .bad :=
  deframe_error (parseHeader_new tag ht _ _ _ (decodeNewLen_partialOctet k (by omega) r))
    (deframeBody_part_rejects _ _ r rfl (.inr (Nat.pow_lt_pow_right (by decide) hk)))

/-- soundness ("never silently mis-split"): a successful continuation read consumed a sequence
of declared segments whose data, concatenated, is the body; `rest` is what follows -/
inductive ContFramed : Bytes → Bytes → Bytes → Prop
  | last (inp r : Bytes) (n : Nat) : decodeNewLen inp = some (.fixed n, r) → n ≤ r.length →
      ContFramed inp (r.take n) (r.drop n)
  | more (inp r b rest : Bytes) (n : Nat) : decodeNewLen inp = some (.part n, r) → n ≤ r.length →
      ContFramed (r.drop n) b rest → ContFramed inp (r.take n ++ b) rest

theorem deframeCont_sound (fuel : Nat) (inp b rest : Bytes)
    (h : deframeCont fuel inp = .ok (b, rest)) : ContFramed inp b rest := by
  fun_induction deframeCont fuel inp generalizing b rest with
  | case1 | case2 | case3 | case5 | case7 | case8 => cases h
  | case4 fuel inp n r hdec hge => cases h; exact .last inp r n hdec (Nat.le_of_not_lt hge)
  | case6 fuel inp n r hdec hge b' rest' hrec ih =>
    cases h; exact .more inp r b' rest' n hdec (Nat.le_of_not_lt hge) (ih _ _ hrec)

theorem ContFramed.length_lt {inp b rest : Bytes} (h : ContFramed inp b rest) :
    b.length + rest.length < inp.length := by
  induction h with
  | last inp r n hdec _ =>
    rw [← List.length_append, List.take_append_drop]
    exact decodeNewLen_rest_lt _ _ _ hdec
  | more inp r b rest n hdec _ _ ih =>
    rw [List.length_append, Nat.add_assoc]
    refine Nat.lt_trans (Nat.add_lt_add_left ih _) ?_
    rw [← List.length_append, List.take_append_drop]
    exact decodeNewLen_rest_lt _ _ _ hdec

/-! ## the emitters produce legal framings -/

theorem emitTail_eq_frameSegs (k : Nat) (body : Bytes) :
    frameSegs (List.replicate (body.length / 2 ^ k) k) body = some (emitTail k body) := by
  fun_induction emitTail k body with
  | case1 body hlt => rw [Nat.div_eq_of_lt hlt]; rfl
  | case2 body hge ih =>
    rw [List.length_drop] at ih
    rw [Nat.div_eq_sub_div (Nat.pow_pos (by decide)) (Nat.le_of_not_lt hge), List.replicate_succ, frameSegs,
      if_neg hge, ih]
    rfl

theorem emitPartial_eq_framePartial (tag k : Nat) (hdr body : Bytes) (hh : hdr.length ≤ 2 ^ k)
    (hbig : ¬ body.length < 2 ^ k - hdr.length) :
    framePartial tag (k :: List.replicate ((body.length - (2 ^ k - hdr.length)) / 2 ^ k) k) (hdr ++ body)
      = some (emitPartial tag k hdr body) := by
  have hlen : ¬ ((hdr ++ body).length < 2 ^ k) := by
    rw [List.length_append]; exact Nat.not_lt.mpr (Nat.sub_le_iff_le_add'.mp (Nat.le_of_not_lt hbig))
  have htail := emitTail_eq_frameSegs k (body.drop (2 ^ k - hdr.length))
  rw [List.length_drop] at htail
  rw [framePartial, frameSegs, if_neg hlen, List.take_append, List.take_of_length_le hh, List.drop_append,
    List.drop_eq_nil_of_le hh, List.nil_append, htail, emitPartial, if_neg hbig]
  simp only [Option.map_some, List.append_assoc]

theorem emitPartial_of_fits (tag k : Nat) (hdr body : Bytes) (hfit : body.length < 2 ^ k - hdr.length) :
    emitPartial tag k hdr body = writeHeader true tag (hdr ++ body).length ++ (hdr ++ body) := by
  rw [emitPartial, if_pos hfit, List.length_append, Nat.add_comm hdr.length, List.append_assoc]
  rfl

theorem deframe_emitPartial (tag k : Nat) (hdr body rest : Bytes)
    (hallow : partialAllowed tag = true) (hk9 : 9 ≤ k) (hk30 : k ≤ 30) (hh : hdr.length ≤ 2 ^ k)
    (hb : hdr.length + body.length < 4294967296) :
    ∃ h, deframe (emitPartial tag k hdr body ++ rest) = .ok (h, hdr ++ body, rest) ∧ h.tag = tag := by
  have hlen : (hdr ++ body).length < 4294967296 := by rwa [List.length_append]
  by_cases hfit : body.length < 2 ^ k - hdr.length
  · rw [emitPartial_of_fits tag k hdr body hfit]
    exact ⟨_, deframe_fixed true tag (partialAllowed_lt tag hallow) _ rest hlen, rfl⟩
  · refine ⟨_, deframe_partial tag k _ _ _ rest (emitPartial_eq_framePartial tag k hdr body hh hfit) hallow hk9
      (fun x hx => ?_) hlen, rfl⟩
    rcases List.mem_cons.mp hx with rfl | hx
    · exact hk30
    · exact (List.eq_of_mem_replicate hx) ▸ hk30

/-! ## packet streams -/

theorem deframe_nil : deframe [] = .error .eof := rfl

theorem deframeAll_of_ok (fuel : Nat) {inp b rest : Bytes} {h : Hdr} (hd : deframe inp = .ok (h, b, rest)) :
    deframeAll (fuel + 1) inp = ((h, b) :: (deframeAll fuel rest).1, (deframeAll fuel rest).2) := by
  match inp with
  | [] => cases hd
  | _ :: _ => rw [deframeAll, hd]

theorem deframeAll_framed_append : ∀ (ps : List (Hdr × Bytes × Bytes)) (fuel : Nat) (t : Bytes),
    (∀ p ∈ ps, Framed p.1 p.2.1 p.2.2) →
    deframeAll (ps.length + fuel) ((ps.map (·.2.2)).flatten ++ t) =
      (ps.map (fun p => (p.1, p.2.1)) ++ (deframeAll fuel t).1, (deframeAll fuel t).2)
  | [], fuel, t, _ => by rw [List.length_nil, Nat.zero_add]; rfl
  | p :: ps, fuel, t, hall => by
    rw [List.length_cons, Nat.add_right_comm, List.map_cons, List.flatten_cons, List.append_assoc,
      deframeAll_of_ok _ (hall p List.mem_cons_self _),
      deframeAll_framed_append ps fuel t fun q hq => hall q (List.mem_cons_of_mem _ hq)]
    rfl

/-! ## fixed-length emitter -/

theorem fixD17c_on : Gen.fixD17cFixedGeneratorHonoursLength = 1 := by decide

theorem fixedGen_legal (lit : Bytes) (n : Nat) (src out rest : Bytes)
    (hn : lit.length + n < 4294967296) (h : fixedGen lit n src = some out) :
    src.length = n ∧
    deframe (out ++ rest) = .ok ({ newFormat := true, tag := 11, len := .fixed (lit ++ src).length }, lit ++ src, rest) := by
  simp only [fixedGen, fixedGenWith, fixD17c_on, decide_true, if_true] at h
  split at h <;> cases h
  rename_i hlen
  subst hlen
  rw [← List.length_append, List.append_assoc (writeHeader ..)]
  exact ⟨rfl, deframe_fixed true 11 (by decide) (lit ++ src) rest (by rwa [List.length_append])⟩

/-- regression witness (D17c): before the repair a source that yields more than announced was
written as a packet followed by unframed octets -/
theorem fixedGen_prefix_witness :
    fixedGenWith false [98, 0, 0, 0, 0, 0] 0 [1, 2, 3] = some [0xCB, 6, 98, 0, 0, 0, 0, 0, 1, 2, 3] ∧
    fixedGenWith true [98, 0, 0, 0, 0, 0] 0 [1, 2, 3] = none ∧
    fixedGenWith true [98, 0, 0, 0, 0, 0] 3 [1, 2, 3] = some [0xCB, 9, 98, 0, 0, 0, 0, 0, 1, 2, 3] := by decide

end Rpgp
