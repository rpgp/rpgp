import RpgpModel.Kdf
import RpgpProofs.Bytes
/-! Proofs about `RpgpModel/Kdf.lean` (for `RpgpProps/C12.lean`). -/
namespace Rpgp.Sym
open Rpgp
open Ecdh

/-! ## PKCS5-style padding -/

theorem pad_eq (x : Bytes) :
    pad x = x ++ List.replicate (8 - x.length % 8) (8 - x.length % 8).toUInt8 := by
  show x ++ List.replicate (x.length + 8 - x.length % 8 - x.length) (x.length + 8 - x.length % 8 - x.length).toUInt8 = _
  rw [Nat.sub_right_comm, Nat.add_sub_cancel_left]

theorem pad_length (x : Bytes) :
    (pad x).length % 8 = 0 ∧ x.length < (pad x).length ∧ (pad x).length ≤ x.length + 8 := by
  rw [pad_eq, List.length_append, List.length_replicate]
  -- with `|x| = 8 q + r` the padded length is `8 q + 8`
  have hr := Nat.mod_lt x.length (by decide : 0 < 8)
  have hd := Nat.div_add_mod x.length 8
  generalize x.length % 8 = r at hr hd ⊢
  rw [← hd, Nat.add_assoc, Nat.add_sub_cancel' (Nat.le_of_lt hr)]
  exact ⟨Nat.mul_add_mod_self_left _ _ _, Nat.add_lt_add_left hr _, Nat.add_le_add_right (Nat.le_add_right _ _) 8⟩

theorem getLastD_append_replicate (x : Bytes) (k : Nat) (b : Byte) (hk : 0 < k) :
    (x ++ List.replicate k b).getLastD 0 = b := by
  obtain ⟨j, rfl⟩ := Nat.exists_eq_add_one_of_ne_zero (Nat.ne_of_gt hk)
  rw [List.replicate_succ', ← List.append_assoc, List.getLastD_eq_getLast?, List.getLast?_concat]; rfl

theorem all_eq_replicate (l : Bytes) (b : Byte) (h : l.any (fun x => x ≠ b) = false) :
    l = List.replicate l.length b := by
  induction l with
  | nil => rfl
  | cons a r ih =>
    simp only [List.any_cons, Bool.or_eq_false_iff, decide_eq_false_iff_not, ne_eq, Decidable.not_not] at h
    rw [List.length_cons, List.replicate_succ, ← ih h.2, h.1]

theorem unpad_parts (x : Bytes) (b : Byte) (hb : b ≠ 0) (hx : x ≠ []) (h8 : (x.length + b.toNat) % 8 = 0) :
    unpad (x ++ List.replicate b.toNat b) = some x := by
  have hk : 0 < b.toNat := Nat.pos_of_ne_zero (toNat_ne_zero b hb)
  have hne : x ++ List.replicate b.toNat b ≠ [] := fun h => hx (List.append_eq_nil_iff.mp h).1
  have hany : (List.replicate b.toNat b).any (fun c => c ≠ b) = false := by
    rw [List.any_replicate]; simp
  have h1 : ¬ (x.length + b.toNat) % Gen.ecdhUnpadBlock ≠ 0 := fun h => h h8
  have h3 : ¬ (b.toNat = 0 ∨ b.toNat > x.length + b.toNat) :=
    fun h => h.elim (Nat.ne_of_gt hk) (Nat.not_lt.mpr (Nat.le_add_left _ _))
  rw [unpad]
  simp only [getLastD_append_replicate x _ b hk, if_neg hne, List.length_append, List.length_replicate, if_neg h1,
    if_neg h3, Nat.add_sub_cancel, List.take_left' rfl, List.drop_left' rfl, hany, Bool.false_eq_true, if_false,
    if_neg hx]

theorem unpad_pad (x : Bytes) (hx : x ≠ []) : unpad (pad x) = some x := by
  have hlt := Nat.mod_lt x.length (by decide : 0 < 8)
  have hk : (8 - x.length % 8).toUInt8.toNat = 8 - x.length % 8 :=
    toUInt8_toNat_of_lt _ (Nat.lt_of_le_of_lt (Nat.sub_le _ _) (by decide))
  have hb : (8 - x.length % 8).toUInt8 ≠ 0 := fun h =>
    Nat.sub_ne_zero_of_lt hlt (hk.symm.trans (congrArg UInt8.toNat h))
  have h8 := (pad_length x).1
  rw [pad_eq, List.length_append, List.length_replicate] at h8
  have := unpad_parts x _ hb hx (by rw [hk]; exact h8)
  rwa [hk, ← pad_eq] at this

theorem unpad_sound (d x : Bytes) (h : unpad d = some x) :
    d.length % 8 = 0 ∧ x ≠ [] ∧ 1 ≤ (d.getLastD 0).toNat ∧
      d = x ++ List.replicate (d.getLastD 0).toNat (d.getLastD 0) := by
  rw [unpad] at h
  generalize d.getLastD 0 = p at h ⊢
  obtain ⟨c1, h⟩ := Option.ite_none_left_eq_some.mp h
  obtain ⟨_, h⟩ := Option.ite_none_left_eq_some.mp h
  obtain ⟨c3, h⟩ := Option.ite_none_left_eq_some.mp h
  obtain ⟨c4, h⟩ := Option.ite_none_left_eq_some.mp h
  obtain ⟨c5, h⟩ := Option.ite_none_left_eq_some.mp h
  obtain rfl := Option.some.inj h
  have hrep := all_eq_replicate _ p (Bool.eq_false_iff.mpr c4)
  rw [List.length_drop, Nat.sub_sub_self (Nat.le_of_not_lt fun h => c3 (Or.inr h))] at hrep
  refine ⟨Decidable.not_not.mp c1, c5, Nat.pos_of_ne_zero fun h => c3 (Or.inl h), ?_⟩
  rw [← hrep, List.take_append_drop]

theorem unpad_zero_pad_refused (d : Bytes) (h0 : d.getLastD 0 = 0) : unpad d = none := by
  cases h : unpad d with
  | none => rfl
  | some x =>
    have := (unpad_sound d x h).2.2.1
    rw [h0] at this
    exact absurd this (by decide)

/-! ## two-octet checksum -/

theorem foldl_add_mod {α} (g : α → Nat) (M : Nat) (hM : 0 < M) (l : List α) : ∀ acc, acc < M →
    l.foldl (fun a x => (a + g x) % M) acc = (acc + (l.map g).sum) % M := by
  induction l with
  | nil => intro acc h; exact (Nat.mod_eq_of_lt h).symm
  | cons a r ih =>
    intro acc _
    rw [List.foldl_cons, ih _ (Nat.mod_lt _ hM), List.map_cons, List.sum_cons, Nat.mod_add_mod, Nat.add_assoc]

theorem sum16_eq (bs : Bytes) : sum16 bs = (bs.map UInt8.toNat).sum % 65536 := by
  rw [sum16, foldl_add_mod UInt8.toNat _ (by decide) bs 0 (by decide), Nat.zero_add]; rfl

theorem plain_fold (c : Bytes) : ∀ s, c.foldl (fun s b => s + b.toNat) s = s + (c.map UInt8.toNat).sum := by
  induction c with
  | nil => intro s; rfl
  | cons a r ih => intro s; rw [List.foldl_cons, ih, List.map_cons, List.sum_cons, Nat.add_assoc]

theorem sum_map_flatten {α} (g : α → Nat) (cs : List (List α)) :
    (cs.flatten.map g).sum = (cs.map fun c => (c.map g).sum).sum := by
  induction cs with
  | nil => rfl
  | cons c r ih => rw [List.flatten_cons, List.map_append, List.sum_append_nat, ih, List.map_cons, List.sum_cons]

theorem sum16Chunks_eq (cs : List Bytes) : sum16Chunks cs = sum16 cs.flatten := by
  rw [sum16_eq, sum16Chunks, foldl_add_mod _ _ (by decide) cs 0 (by decide), Nat.zero_add, sum_map_flatten]
  show _ % 65536 = _
  congr 2
  exact List.map_congr_left fun c _ => (plain_fold c 0).trans (Nat.zero_add _)

/-! ## ECDH parameter block, HKDF info strings, plans -/

theorem param_length (oid : Bytes) (sym hash : Nat) (fp : Bytes) :
    (Ecdh.param oid sym hash fp).length = 1 + oid.length + 1 + 4 + 20 + fp.length := by
  rw [Ecdh.param, List.length_append, List.length_append, List.length_append, List.length_append, List.length_append,
    List.length_map]
  rfl

/-- ASCII "OpenPGP X25519" -/
theorem x25519_info_bytes : X25519.info = [79, 112, 101, 110, 80, 71, 80, 32, 88, 50, 53, 53, 49, 57] := by decide

/-- ASCII "OpenPGP X448" -/
theorem x448_info_bytes : X448.info = [79, 112, 101, 110, 80, 71, 80, 32, 88, 52, 52, 56] := by decide

theorem Ecdh.kekPlan_eval (P : Prims) (hash : Nat) (z : Bytes) (len : Nat) (par : Bytes) :
    (Ecdh.kekPlan hash z len par).map (PExpr.eval P) = Ecdh.kdf P hash z len par := by
  unfold Ecdh.kekPlan Ecdh.kdf
  cases S2k.digestSize hash <;> simp [PExpr.eval]

theorem Ecdh.wrapPlan_eval (P : Prims) (oid : Bytes) (hash sym : Nat) (fp z plain : Bytes)
    (hk : ∀ k, Ecdh.kdf P hash z (Gen.c12SymKeySize sym) (Ecdh.param oid sym hash fp) = some k → Ecdh.kekOk k = true) :
    (Ecdh.wrapPlan true oid hash sym fp z plain).map (PExpr.eval P) = Ecdh.wrap P oid hash sym fp z plain := by
  unfold Ecdh.wrapPlan Ecdh.wrap
  rw [← Ecdh.kekPlan_eval] at hk ⊢
  by_cases h1 : plain.length > Gen.ecdhMaxPlain
  · simp [h1]
  by_cases h2 : Ecdh.weakKdfHash hash = true
  · simp [h1, h2]
  cases h3 : Ecdh.kekPlan hash z (Gen.c12SymKeySize sym) (Ecdh.param oid sym hash fp) with
  | none => simp [h1, h2]
  | some e =>
    have hok := hk (e.eval P) (by rw [h3]; rfl)
    simp [h1, h2, hok, PExpr.eval]

end Rpgp.Sym
