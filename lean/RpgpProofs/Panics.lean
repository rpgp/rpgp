import RpgpModel.Panics
import RpgpProofs.PanicsAttr
/-!
# Proof helpers for the index-safety model (C04)

Every checked primitive is a guard `if c then ok v else panic` (or `… else err` for `ensure`, `readN`).
A guard followed by `f` is `if c then f v else panic`, so a `do` block of primitives is a nest of `if`s
whose other branch is a constant, and both questions asked of a region — `≠ panic`, `= ok r` — turn such
an `if` into a conjunction or an implication.  `simp only [out_simp]` therefore reduces a region to its
arithmetic side conditions with the intermediate values substituted.
-/
namespace Rpgp.Panics
open Rpgp Out

@[simp, out_simp] theorem bind_ok {α β} (a : α) (f : α → Out β) : (Out.ok a >>= f) = f a := rfl
@[simp, out_simp] theorem bind_err {α β} (f : α → Out β) : (Out.err >>= f) = Out.err := rfl
@[simp, out_simp] theorem bind_panic {α β} (f : α → Out β) : (Out.panic >>= f) = Out.panic := rfl
@[simp, out_simp] theorem pure_eq {α} (a : α) : (pure a : Out α) = Out.ok a := rfl

theorem bind_ne_panic {α β} (x : Out α) (f : α → Out β) :
    (x >>= f) ≠ .panic ↔ x ≠ .panic ∧ ∀ a, x = .ok a → f a ≠ .panic := by
  cases x <;> simp

theorem bind_eq_ok {α β} (x : Out α) (f : α → Out β) (b : β) :
    (x >>= f) = .ok b ↔ ∃ a, x = .ok a ∧ f a = .ok b := by
  cases x <;> simp

section guards
variable {α β : Type} {c : Prop} [Decidable c] (x : Out α) (v r : α) (f : α → Out β)

@[out_simp] theorem guard_panic_bind : ((if c then ok v else panic) >>= f) = if c then f v else panic := by
  split <;> rfl
@[out_simp] theorem guard_err_bind : ((if c then ok v else err) >>= f) = if c then f v else err := by
  split <;> rfl

/- as equations with `True`, so that `simp` rewrites the `≠` itself and `ne_eq` can stay out of the set -/
@[out_simp] theorem ok_ne_panic : (ok v ≠ panic) = True := eq_true nofun
@[out_simp] theorem err_ne_panic : ((err : Out α) ≠ panic) = True := eq_true nofun
@[out_simp] theorem err_ne_ok : (err : Out α) ≠ ok r := nofun
@[out_simp] theorem panic_ne_ok : (panic : Out α) ≠ ok r := nofun

@[out_simp] theorem ite_panic_ne_panic : (if c then x else panic) ≠ panic ↔ c ∧ x ≠ panic := by
  split <;> simp [*]
@[out_simp] theorem ite_err_ne_panic : (if c then x else err) ≠ panic ↔ (c → x ≠ panic) := by
  split <;> simp [*]
@[out_simp] theorem err_ite_ne_panic : (if c then err else x) ≠ panic ↔ (¬c → x ≠ panic) := by
  split <;> simp [*]
@[out_simp] theorem panic_ite_ne_panic : (if c then panic else x) ≠ panic ↔ ¬c ∧ x ≠ panic := by
  split <;> simp [*]

@[out_simp] theorem ite_panic_eq_ok : (if c then x else panic) = ok r ↔ c ∧ x = ok r := by
  split <;> simp [*]
@[out_simp] theorem ite_err_eq_ok : (if c then x else err) = ok r ↔ c ∧ x = ok r := by
  split <;> simp [*]
@[out_simp] theorem err_ite_eq_ok : (if c then err else x) = ok r ↔ ¬c ∧ x = ok r := by
  split <;> simp [*]
@[out_simp] theorem panic_ite_eq_ok : (if c then panic else x) = ok r ↔ ¬c ∧ x = ok r := by
  split <;> simp [*]

/-- an `if` neither of whose branches is a constant: one obligation per branch -/
@[out_simp low] theorem ite_ne_panic (y : Out α) :
    (if c then x else y) ≠ panic ↔ (c → x ≠ panic) ∧ (¬c → y ≠ panic) := by
  split <;> simp [*]
@[out_simp low] theorem ite_eq_ok (y : Out α) :
    (if c then x else y) = ok r ↔ (c ∧ x = ok r) ∨ (¬c ∧ y = ok r) := by
  split <;> simp [*]
end guards

attribute [out_simp low] bind_ne_panic bind_eq_ok
attribute [out_simp] chkIdx sub addW slice sliceFrom sliceTo chkRange copyLen ensure expectLen readN shl32 pow2u32
  Out.ok.injEq
  true_and and_true implies_true not_false_eq_true not_true_eq_false and_self false_and and_false
  true_implies false_implies if_true if_false exists_false
  Nat.zero_le Nat.le_refl Nat.sub_zero Nat.sub_self Nat.sub_le Nat.le_add_right Nat.le_add_left Nat.min_le_left Nat.min_le_right Nat.min_self
  Nat.add_sub_cancel Nat.add_sub_cancel_left Nat.not_lt Nat.not_le
  beq_iff_eq bne_iff_ne decide_eq_true_eq Bool.false_eq_true Bool.not_eq_true' Bool.and_eq_true Bool.or_eq_true
  List.length_take List.length_drop List.length_append List.length_cons List.length_nil

/-! ### primitives -/

theorem ensure_ne_panic (c : Bool) : ensure c ≠ .panic := by simp only [out_simp]
theorem ensure_eq_ok (c : Bool) (u : Unit) : ensure c = .ok u ↔ c = true := by simp only [out_simp]

@[out_simp] theorem idx_ne_panic (l : Bytes) (i : Nat) : idx l i ≠ .panic ↔ i < l.length := by
  unfold idx
  cases h : l[i]? with
  | none => simpa using List.getElem?_eq_none_iff.mp h
  | some b => simpa using (List.getElem?_eq_some_iff.mp h).1
@[out_simp] theorem idx_eq_ok (l : Bytes) (i : Nat) (b : Byte) : idx l i = .ok b ↔ l[i]? = some b := by
  unfold idx
  cases h : l[i]? <;> simp

theorem chkIdx_ne_panic (n i : Nat) : chkIdx n i ≠ .panic ↔ i < n := by simp only [out_simp]

theorem sub_ne_panic (a b : Nat) : sub a b ≠ .panic ↔ b ≤ a := by simp only [out_simp]
theorem sub_eq_ok (a b c : Nat) : sub a b = .ok c ↔ b ≤ a ∧ a - b = c := by simp only [out_simp]

theorem addW_ne_panic (w a b : Nat) : addW w a b ≠ .panic ↔ a + b < w := by simp only [out_simp]
theorem addW_eq_ok (w a b c : Nat) : addW w a b = .ok c ↔ a + b < w ∧ a + b = c := by simp only [out_simp]

theorem slice_ne_panic (l : Bytes) (a b : Nat) : slice l a b ≠ .panic ↔ a ≤ b ∧ b ≤ l.length := by
  simp only [out_simp]
theorem slice_eq_ok (l : Bytes) (a b : Nat) (s : Bytes) :
    slice l a b = .ok s ↔ (a ≤ b ∧ b ≤ l.length) ∧ (l.take b).drop a = s := by simp only [out_simp]
theorem slice_ok_length (l : Bytes) (a b : Nat) (s : Bytes) (h : slice l a b = .ok s) : s.length = b - a := by
  simp only [out_simp] at h
  obtain ⟨⟨_, h2⟩, rfl⟩ := h
  simp only [List.length_drop, List.length_take, Nat.min_eq_left h2]

theorem sliceFrom_ne_panic (l : Bytes) (a : Nat) : sliceFrom l a ≠ .panic ↔ a ≤ l.length := by
  simp only [out_simp]
theorem sliceFrom_ok_length (l : Bytes) (a : Nat) (s : Bytes) (h : sliceFrom l a = .ok s) : s.length = l.length - a :=
  slice_ok_length l a l.length s h

theorem sliceTo_ne_panic (l : Bytes) (b : Nat) : sliceTo l b ≠ .panic ↔ b ≤ l.length := by
  simp only [out_simp]

theorem chkRange_ne_panic (n a b : Nat) : chkRange n a b ≠ .panic ↔ a ≤ b ∧ b ≤ n := by simp only [out_simp]
theorem chkRange_eq_ok (n a b c : Nat) : chkRange n a b = .ok c ↔ (a ≤ b ∧ b ≤ n) ∧ b - a = c := by
  simp only [out_simp]

theorem copyLen_ne_panic (a b : Nat) : copyLen a b ≠ .panic ↔ a = b := by simp only [out_simp]

theorem expectLen_ne_panic (s : Bytes) (n : Nat) : expectLen s n ≠ .panic ↔ s.length = n := by
  simp only [out_simp]

theorem readN_ne_panic (n : Nat) (inp : Bytes) : readN n inp ≠ .panic := by simp only [out_simp]
theorem readN_eq_ok (n : Nat) (inp a b : Bytes) :
    readN n inp = .ok (a, b) ↔ n ≤ inp.length ∧ a = inp.take n ∧ b = inp.drop n := by
  simp only [out_simp, Prod.mk.injEq, eq_comm (a := a), eq_comm (a := b)]

theorem readN1 (r : Bytes) : readN 1 r = match r with
    | a :: r' => .ok ([a], r')
    | _ => .err := by
  cases r <;> rfl

theorem readN2 (r : Bytes) : readN 2 r = match r with
    | a :: b :: r' => .ok ([a, b], r')
    | _ => .err := by
  rcases r with _ | ⟨_, _ | _⟩ <;> rfl

theorem readN4 (r : Bytes) : readN 4 r = match r with
    | a :: b :: c :: d :: r' => .ok ([a, b, c, d], r')
    | _ => .err := by
  rcases r with _ | ⟨_, _ | ⟨_, _ | ⟨_, _ | _⟩⟩⟩ <;> rfl

theorem read1_ne_panic (inp : Bytes) : read1 inp ≠ .panic := by
  cases inp <;> nofun
@[out_simp] theorem read1_bind_ne_panic {β} (inp : Bytes) (f : Byte × Bytes → Out β) :
    (read1 inp >>= f) ≠ .panic ↔ ∀ b r, inp = b :: r → f (b, r) ≠ .panic := by
  cases inp <;> simp [read1]
@[out_simp] theorem read1_bind_eq_ok {β} (inp : Bytes) (f : Byte × Bytes → Out β) (x : β) :
    (read1 inp >>= f) = .ok x ↔ ∃ b r, inp = b :: r ∧ f (b, r) = .ok x := by
  cases inp with
  | nil => simp [read1]
  | cons b r => exact ⟨fun h => ⟨b, r, rfl, h⟩, fun ⟨_, _, e, h⟩ => by cases e; exact h⟩

theorem shl32_ne_panic (n : Nat) : shl32 n ≠ .panic ↔ n < 32 := by simp only [out_simp]

theorem pow2u32_ne_panic (e : Nat) : pow2u32 e ≠ .panic ↔ 2 ^ e < 4294967296 := by simp only [out_simp]

/-! ### tables -/

theorem lookup_le (t : List (Nat × Nat)) (k b : Nat) (h : ∀ e ∈ t, e.2 ≤ b) : lookup t k ≤ b := by
  unfold lookup
  cases hf : t.find? (fun e => e.1 == k) with
  | none => exact Nat.zero_le b
  | some e => exact h e (List.mem_of_find?_eq_some hf)

theorem symKeySize_le (a : Nat) : symKeySize a ≤ 32 :=
  lookup_le _ _ _ (by decide)

theorem symKeySize_le_okm (a : Nat) : symKeySize a ≤ Gen.aeadSetupOkmLen :=
  Nat.le_trans (symKeySize_le a) (by decide)

theorem aeadRow_of_tag {p : Nat × Nat × Nat × Nat → Prop} (hp : ∀ e ∈ Gen.aeadTable, p e) (a n : Nat)
    (h : aeadTagSize a = some n) : ∃ e, aeadRow a = some e ∧ p e := by
  unfold aeadTagSize at h
  cases hr : aeadRow a with
  | none => simp [hr] at h
  | some e => exact ⟨e, rfl, hp e (List.mem_of_find?_eq_some hr)⟩

theorem aead_setup_total_of_tag (sym aead n : Nat) (h : aeadTagSize aead = some n) :
    aeadSetup sym aead ≠ .panic := by
  have hk := symKeySize_le sym
  obtain ⟨e, hr, h1, h2⟩ := aeadRow_of_tag (p := fun e => Gen.aeadSetupNonceCounter ≤ e.2.1 ∧
    32 + (e.2.1 - Gen.aeadSetupNonceCounter) ≤ Gen.aeadSetupOkmLen) (by decide) aead n h
  have hn : aeadNonceSize aead = e.2.1 := by simp only [aeadNonceSize, hr]
  unfold aeadSetup
  simp only [out_simp, hn]
  omega

theorem aeadIv_eq_nonce (a : Nat) : aeadIvSize a = aeadNonceSize a := by
  unfold aeadIvSize aeadNonceSize
  cases hr : aeadRow a with
  | none => rfl
  | some e => exact (by decide : ∀ e ∈ Gen.aeadTable, e.2.2.1 = e.2.1) e (List.mem_of_find?_eq_some hr)

/-! ### region helpers -/

theorem read_checksum_loop_total (l : Bytes) : ∀ (i : Nat) (buf : Bytes), i = l.length → l.length < buf.length →
    readChecksumLoop l i buf ≠ .panic := by
  induction l with
  | nil => intro i buf _ _; simp only [readChecksumLoop, out_simp]
  | cons a r ih =>
    intro i buf hi hl
    simp only [List.length_cons] at hi hl
    unfold readChecksumLoop
    simp only [out_simp]
    exact ⟨by omega, by omega, ih _ _ (by omega) (by rw [List.length_set]; omega)⟩

theorem nr_tail_total (repl : Bytes) (lastChar : Byte) (b : Bytes) (read end_ : Nat)
    (hb : 0 < b.length) (he : end_ ≤ b.length) (h1 : read > 0 → b[0]? = some LF → 1 ≤ end_) :
    nrTail repl lastChar b read end_ ≠ .panic := by
  unfold nrTail
  simp only [out_simp]
  refine ⟨hb, fun a ha => ⟨?_, he⟩⟩
  split
  · split
    · next h => exact h1 h.2 (h.1 ▸ ha)
    · exact Nat.zero_le _
  · exact Nat.zero_le _

theorem lw_emit_total (N : Nat) (lb : Bytes) (st : LwState) (bp ip : Nat) (buffer : Bytes)
    (hlb : lb.length ≤ 2) (hbp : bp ≤ N) : lwEmit N lb st bp ip buffer ≠ .panic := by
  unfold lwEmit
  simp only [out_simp]
  omega

theorem lw_fill_total (N : Nat) (lb : Bytes) (st : LwState) (input : Bytes) (bp : Nat) (buffer : Bytes)
    (hlb : lb.length ≤ 2) (hbp : bp ≤ N) : lwFill N lb st input bp buffer ≠ .panic := by
  unfold lwFill
  simp only [out_simp, hbp]
  exact ⟨fun _ => ⟨by omega, lw_emit_total _ _ _ _ _ _ hlb (by omega)⟩, fun _ => lw_emit_total _ _ _ _ _ _ hlb hbp⟩

theorem lw_emit_state (N : Nat) (lb : Bytes) (st : LwState) (bp ip : Nat) (buffer : Bytes) (r : Nat × Bytes × LwState)
    (h : lwEmit N lb st bp ip buffer = .ok r) : r.2.2.extra = [] ∧ r.2.2.finished = st.finished := by
  unfold lwEmit at h
  simp only [out_simp] at h
  rcases h with ⟨_, rfl⟩ | ⟨_, _, _, rfl⟩ <;> exact ⟨rfl, rfl⟩

theorem lw_fill_state (N : Nat) (lb : Bytes) (st : LwState) (input : Bytes) (bp : Nat) (buffer : Bytes)
    (r : Nat × Bytes × LwState)
    (h : lwFill N lb st input bp buffer = .ok r) : r.2.2.extra = [] ∧ r.2.2.finished = st.finished := by
  unfold lwFill at h
  simp only [out_simp] at h
  rcases h with ⟨_, _, _, h⟩ | ⟨_, h⟩ <;> exact lw_emit_state _ _ _ _ _ _ _ h

/-- the `while count > data_size` loop ends at or below `data_size` -/
theorem s2kReduce_le (ds : Nat) (hds : 0 < ds) : ∀ (f c : Nat), c ≤ f → s2kReduce ds f c ≤ ds := by
  intro f
  induction f with
  | zero => intro c hc; unfold s2kReduce; omega
  | succ f ih =>
    intro c hc
    unfold s2kReduce
    split
    · exact ih _ (by omega)
    · omega

theorem ceilDiv_bounds (k d : Nat) (hd : 0 < d) : (k + d - 1) / d * d < k + d ∧ k ≤ (k + d - 1) / d * d := by
  have h1 := Nat.div_mul_le_self (k + d - 1) d
  have h2 := Nat.lt_div_mul_add (a := k + d - 1) hd
  omega

/-- the key window `start..end` of round `round` out of `⌈ksz / dsz⌉` (`t` rounds follow): inside the key, and
no longer than a digest -/
theorem s2k_round_window (dsz ksz round t e : Nat) (hd : 0 < dsz) (h : round + (t + 1) = (ksz + dsz - 1) / dsz)
    (he : e = if round = (ksz + dsz - 1) / dsz - 1 then ksz else (round + 1) * dsz) :
    round * dsz ≤ e ∧ e ≤ ksz ∧ e ≤ round * dsz + dsz := by
  obtain ⟨h1, h2⟩ := ceilDiv_bounds ksz dsz hd
  rw [← h] at h1 h2 he
  rw [Nat.add_mul, Nat.add_mul, Nat.one_mul] at h1 h2
  cases t with
  | zero =>
    rw [if_pos (Nat.add_sub_cancel round 1).symm] at he
    rw [Nat.zero_mul, Nat.zero_add] at h1 h2
    subst he
    exact ⟨Nat.le_of_lt (Nat.lt_of_add_lt_add_right h1), Nat.le_refl _, h2⟩
  | succ t =>
    rw [if_neg (by omega), Nat.add_mul, Nat.one_mul] at he
    have : dsz ≤ (t + 1) * dsz := Nat.le_mul_of_pos_left _ (Nat.succ_pos t)
    omega

theorem b64_skip_nl (buf : Bytes) : ∀ (f i : Nat), i < buf.length →
    b64SkipNl buf f i ≠ .panic ∧ ∀ j, b64SkipNl buf f i = .ok j → i ≤ j ∧ j ≤ buf.length := by
  intro f
  induction f with
  | zero => intro i hi; simp only [b64SkipNl, out_simp]; omega
  | succ f ih =>
    intro i hi
    unfold b64SkipNl
    simp only [out_simp]
    refine ⟨⟨hi, fun a _ _ hne => (ih _ (by omega)).1⟩, ?_⟩
    rintro j ⟨a, -, ⟨-, ⟨h, rfl⟩ | ⟨hne, hj⟩⟩ | ⟨-, rfl⟩⟩
    · omega
    · have := (ih _ (by omega)).2 j hj
      omega
    · omega

theorem b64_loop_total (intoLen : Nat) : ∀ (f : Nat) (buf : Bytes) (rest : List Bytes) (i : Nat) (out : Bytes),
    i < buf.length → out.length < intoLen → b64Loop intoLen f buf rest i out ≠ .panic := by
  intro f
  induction f with
  | zero => intro buf rest i out _ _; simp only [b64Loop, out_simp]
  | succ f ih =>
    intro buf rest i out hi ho
    unfold b64Loop
    have hs := b64_skip_nl buf (buf.length + 1) i hi
    simp only [out_simp]
    refine ⟨hs.1, fun j hj => ⟨fun hlt => ⟨hlt, fun _ _ _ => ho⟩, ?_⟩⟩
    rintro ⟨brk, i', out'⟩ hstep hbrk
    simp only [Prod.mk.injEq] at hstep
    dsimp only at hbrk ⊢
    -- a step that does not break leaves the cursor inside `buf` or at its end, and room in `into`;
    -- its four exits: not a base64 octet (break), `into` full (break), an octet written, end of the slice
    have key : i' ≤ buf.length ∧ out'.length < intoLen := by
      rcases hstep with ⟨hlt, c, -, ⟨-, rfl, -⟩ | ⟨-, -, ⟨-, rfl, -⟩ | ⟨hne, -, rfl, rfl⟩⟩⟩ | ⟨-, -, rfl, rfl⟩
      · exact absurd rfl hbrk
      · exact absurd rfl hbrk
      · exact ⟨hlt, by simp only [List.length_append, List.length_cons, List.length_nil]; omega⟩
      · exact ⟨(hs.2 j hj).2, ho⟩
    refine ⟨fun _ => ?_, fun hne => ih _ _ _ _ (by omega) key.2⟩
    split
    · exact nofun
    · exact nofun
    · exact ih _ _ _ _ (Nat.zero_lt_succ _) key.2

/-! ### `read_cleartext_body`: the cuts fall on ASCII octets -/

theorem rfindGo_spec (pat : Bytes) : ∀ (s : Bytes) (i : Nat) (acc : Option Nat) (p : Nat),
    rfindGo pat s i acc = some p →
    acc = some p ∨ ∃ k, p = i + k ∧ k < s.length ∧ pat.isPrefixOf (s.drop k) = true := by
  intro s
  induction s with
  | nil => intro i acc p h; exact Or.inl h
  | cons c r ih =>
    intro i acc p h
    unfold rfindGo at h
    rcases ih _ _ _ h with h1 | ⟨k, hk, hlt, hpre⟩
    · split at h1
      · next hp =>
        cases h1
        exact Or.inr ⟨0, rfl, Nat.zero_lt_succ _, hp⟩
      · exact Or.inl h1
    · exact Or.inr ⟨k + 1, by omega, Nat.succ_lt_succ hlt, hpre⟩

theorem rfind_spec (pat s : Bytes) (p : Nat) (h : rfind pat s = some p) :
    p < s.length ∧ ∃ t, s.drop p = pat ++ t := by
  rcases rfindGo_spec pat s 0 none p h with h1 | ⟨k, hk, hlt, hpre⟩
  · cases h1
  · obtain rfl : p = k := by omega
    obtain ⟨t, ht⟩ := List.isPrefixOf_iff_prefix.mp hpre
    exact ⟨hlt, t, ht.symm⟩

theorem getElem?_of_drop_eq (s pat t : Bytes) (p j : Nat) (h : s.drop p = pat ++ t) (hj : j < pat.length) :
    s[p + j]? = pat[j]? := by
  rw [← List.getElem?_drop, h, List.getElem?_append_left hj]

theorem length_of_drop_eq (s pat t : Bytes) (p : Nat) (h : s.drop p = pat ++ t) : p + pat.length ≤ s.length ∨ pat = [] := by
  have := congrArg List.length h
  rw [List.length_drop, List.length_append] at this
  cases pat with
  | nil => exact Or.inr rfl
  | cons a r => rw [List.length_cons] at this ⊢; omega

theorem isBoundary_of_ascii (s : Bytes) (n : Nat) (b : Byte) (h : s[n]? = some b) (hb : isCont b = false) :
    isBoundary s n = true := by
  unfold isBoundary
  split
  · rfl
  · simp only [h, hb, Bool.not_false]

theorem splitOff_of_ascii (s : Bytes) (n : Nat) (b : Byte) (h : s[n]? = some b) (hb : isCont b = false) :
    splitOff s n = .ok (s.take n, s.drop n) := by
  simp only [splitOff, isBoundary_of_ascii s n b h hb, if_true]

theorem truncate_of_ascii (s : Bytes) (n : Nat) (b : Byte) (h : s[n]? = some b) (hb : isCont b = false) :
    truncate s n ≠ .panic := by
  simp only [truncate, isBoundary_of_ascii s n b h hb, out_simp]

theorem endsWith_pair (s : Bytes) (a b : Byte) (h : endsWith s [a, b] = true) :
    2 ≤ s.length ∧ s[s.length - 2]? = some a := by
  obtain ⟨t, ht⟩ := List.isPrefixOf_iff_prefix.mp h
  obtain rfl : s = t.reverse ++ [a, b] := by simpa using (congrArg List.reverse ht).symm
  simp

theorem clear_body_loop_total : ∀ (lines : List Bytes) (out : Bytes), clearBodyLoop lines out ≠ .panic := by
  intro lines
  induction lines with
  | nil => intro out; exact nofun
  | cons l ls ih =>
    intro out
    unfold clearBodyLoop
    simp only [out_simp]
    intro _ _
    split
    · next pos hpos =>
      obtain ⟨hlt, t, hdrop⟩ := rfind_spec _ _ _ hpos
      generalize out ++ l = o at *
      have h0 : o[pos]? = some LF := getElem?_of_drop_eq o NLDASHES5 t pos 0 hdrop (by decide)
      have h1 : o[pos + 1]? = some DASH := getElem?_of_drop_eq o NLDASHES5 t pos 1 hdrop (by decide)
      have hlen : (o.take (pos + 1)).length = pos + 1 := by rw [List.length_take]; omega
      have hlast : (o.take (pos + 1))[pos]? = some LF := by
        rw [List.getElem?_take_of_lt (Nat.lt_succ_self _)]; exact h0
      rw [splitOff_of_ascii o (pos + 1) DASH h1 (by decide)]
      generalize o.take (pos + 1) = s at hlen hlast
      simp only [out_simp]
      refine ⟨fun he => ?_, fun _ => ⟨by omega, ?_⟩⟩
      · obtain ⟨h2, hcr⟩ := endsWith_pair s CR LF he
        exact ⟨h2, truncate_of_ascii s _ CR hcr (by decide)⟩
      · rw [hlen]
        exact truncate_of_ascii s pos LF hlast (by decide)
    · exact ih _

/-! ### `NormalizedReader`: a round hands the window on at its length -/

theorem nr_tail_buf (repl : Bytes) (lc : Byte) (b : Bytes) (read e : Nat) (r : Bytes × Bytes)
    (h : nrTail repl lc b read e = .ok r) : r.2 = b := by
  unfold nrTail at h
  simp only [out_simp] at h
  obtain ⟨_, _, _, rfl⟩ := h
  rfl

theorem nr_cleanup_buf_len (repl inBuf w : Bytes) (hw : w.length ≤ inBuf.length) (r : Bytes × Bytes)
    (h : nrCleanupC repl inBuf w = .ok r) : r.2.length = inBuf.length := by
  unfold nrCleanupC at h
  simp only [out_simp] at h
  obtain ⟨_, _, _, _, _, _, ⟨_, _, h⟩ | ⟨_, h⟩⟩ := h <;>
  · rw [nr_tail_buf _ _ _ _ _ _ h, List.length_append, List.length_drop]
    omega

/-! ### admission returns the sizes of the octets -/

theorem aeadSetup_eq_ok (sym aead : Nat) (r : Nat × Nat) (h : aeadSetup sym aead = .ok r) :
    r = (symKeySize sym, aeadNonceSize aead) := by
  unfold aeadSetup at h
  simp only [out_simp] at h
  exact h.2.2.2.symm

theorem seipd2Admit_eq_ok (sym aead cs keyLen : Nat) (r : Nat × Nat) (h : seipd2Admit sym aead cs keyLen = .ok r) :
    r = (symKeySize sym, aeadNonceSize aead) := by
  unfold seipd2Admit streamDecryptorNew at h
  cases ht : aeadTagSize aead <;> simp only [ht, out_simp] at h
  exact aeadSetup_eq_ok _ _ _ h.2.2

/-! ### readers polled again and again: an invariant of the state kept by every good step -/

theorem dearmorCalls_total (call : DPart → Bool → Bool → DPart × Out Unit) (inv : DPart → Prop)
    (good : Bool × Bool → Prop)
    (hstep : ∀ st s, inv st → good s → (call st s.1 s.2).2 ≠ .panic ∧ inv (call st s.1 s.2).1) :
    ∀ steps st, inv st → (∀ s ∈ steps, good s) → dearmorCalls call st steps ≠ .panic := by
  intro steps
  induction steps with
  | nil => intro _ _ _; exact nofun
  | cons s rest ih =>
    intro st hst hall
    have h := hstep st s hst (hall s List.mem_cons_self)
    obtain ⟨o, m⟩ := s
    unfold dearmorCalls
    generalize call st o m = r at h
    obtain ⟨st', out⟩ := r
    cases out with
    | panic => exact absurd rfl h.1
    | _ => exact ih _ h.2 fun s hs => hall s (List.mem_cons_of_mem _ hs)

theorem litCalls_total (call : LitState → Bool → Bool → Bool → LitState × Out Unit) (inv : LitState → Prop)
    (good : Bool × Bool × Bool → Prop)
    (hstep : ∀ st s, inv st → good s → (call st s.1 s.2.1 s.2.2).2 ≠ .panic ∧ inv (call st s.1 s.2.1 s.2.2).1) :
    ∀ steps st, inv st → (∀ s ∈ steps, good s) → litCalls call st steps ≠ .panic := by
  intro steps
  induction steps with
  | nil => intro _ _ _; exact nofun
  | cons s rest ih =>
    intro st hst hall
    have h := hstep st s hst (hall s List.mem_cons_self)
    obtain ⟨e, f, sh⟩ := s
    unfold litCalls
    generalize call st e f sh = r at h
    obtain ⟨st', out⟩ := r
    cases out with
    | panic => exact absurd rfl h.1
    | _ => exact ih _ h.2 fun s hs => hall s (List.mem_cons_of_mem _ hs)

/-! ### the checked header and length decoders are the framing layer's -/

/-- two-octet lengths `(o - s) * k + add + a`: the largest first octet and `a = 255` bound them all -/
theorem two_octet_le {o a s m k add : Nat} (ho : o ≤ m) (ha : a < 256) :
    (o - s) * k + add + a ≤ (m - s) * k + add + 255 :=
  Nat.add_le_add (Nat.add_le_add_right (Nat.mul_le_mul_right k (Nat.sub_le_sub_right ho s)) add) (Nat.le_of_lt_succ ha)

theorem decodeNewLenC_eq (inp : Bytes) : decodeNewLenC inp = (decodeNewLen inp).elim .err .ok := by
  unfold decodeNewLenC decodeNewLen
  cases inp with
  | nil => rfl
  | cons o r =>
    dsimp only [read1, bind_ok]
    by_cases h1 : o.toNat ≤ Gen.rdOneOctetMax
    · rw [if_pos h1, if_pos h1]; rfl
    rw [if_neg h1, if_neg h1]
    by_cases h2 : o.toNat ≤ Gen.rdTwoOctetMax
    · rw [if_pos h2, if_pos h2]
      cases r with
      | nil => rfl
      | cons a r' =>
        have key := Nat.lt_of_le_of_lt (two_octet_le (s := Gen.rdTwoOctetSub) (k := 2 ^ Gen.rdTwoOctetShift)
          (add := Gen.rdTwoOctetAdd) h2 a.toNat_lt) (by decide : _ < 4294967296)
        simp only [out_simp]
        rw [if_pos (Nat.le_trans (by decide) (Nat.lt_of_not_le h1)),
          if_pos (Nat.lt_of_le_of_lt (Nat.le_add_right _ _) key), if_pos key]
        rfl
    rw [if_neg h2, if_neg h2]
    by_cases h3 : o.toNat ≤ Gen.rdPartialMax
    · rw [if_pos h3, if_pos h3]
      simp only [out_simp]
      rw [if_pos (Nat.lt_of_lt_of_le (Nat.mod_lt _ (Nat.succ_pos _)) (by decide : Gen.rdPartialMask + 1 ≤ 32))]
      rfl
    rw [if_neg h3, if_neg h3]
    rcases r with _ | ⟨_, _ | ⟨_, _ | ⟨_, _ | _⟩⟩⟩ <;> rfl

theorem parseHeaderC_eq (inp : Bytes) : parseHeaderC inp = (parseHeader inp).toOption.elim .err .ok := by
  unfold parseHeaderC parseHeader
  cases inp with
  | nil => rfl
  | cons h r =>
    dsimp only [read1, bind_ok]
    by_cases h3 : h.toNat / 64 = 3
    · rw [if_pos h3, if_pos h3, decodeNewLenC_eq]
      cases decodeNewLen r <;> rfl
    rw [if_neg h3, if_neg h3]
    by_cases h2 : h.toNat / 64 = 2
    · rw [if_pos h2, if_pos h2]
      have hm : h.toNat % 4 < 4 := Nat.mod_lt _ (by decide)
      generalize h.toNat % 4 = m at hm
      rcases m with _ | _ | _ | _ | m
      · cases r with
        | nil => rfl
        | cons a r' =>
          exact congrArg (fun n => ok (({ newFormat := false, tag := h.toNat / 4 % 16, len := .fixed n } : Hdr), r'))
            (Nat.zero_add a.toNat)
      · rcases r with _ | ⟨_, _ | _⟩ <;> rfl
      · rcases r with _ | ⟨_, _ | ⟨_, _ | ⟨_, _ | _⟩⟩⟩ <;> rfl
      · rfl
      · omega
    rw [if_neg h2, if_neg h2]
    rfl

end Rpgp.Panics
