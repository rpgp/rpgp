import RpgpModel.Wire
import RpgpProofs.Framing
import RpgpProofs.Mpi
/-! The primitive readers, MPIs and S2K specifiers of `RpgpModel/Wire.lean`: the fields every packet
body is made of.

Two idioms recur in the `Wire*` modules.  A parser is inverted with `fun_cases`: one goal per branch
of its definition, with the conditions of the branch as hypotheses; `rintro ⟨⟩` closes the failing
branches, which return `none`.  In a short branch the hypotheses are picked by shape (`‹take 4 _ = _›`,
or `‹_›` where the expected type settles which).  In a long branch that search is slow, every
candidate being unfolded before it is rejected, and `rename_i` names them by position instead: in the
order the definition introduces them, those that mention a returned field last.
A parser is run on a serialised value by `simp only [parser, …, ↓reduceIte]` with the equations of
the fields (`take_append'`, `u8`, …); `↓reduceIte` decides a condition before the branches under it
are visited, so the layouts that are not taken are never simplified. -/
namespace Rpgp.Wire
open Rpgp

/-! ## primitive readers -/

theorem take_eq_some_iff {n : Nat} {b x r : Bytes} : take n b = some (x, r) ↔ b = x ++ r ∧ x.length = n := by
  unfold take
  constructor
  · split
    · nofun
    · rintro ⟨⟩
      exact ⟨(List.take_append_drop n b).symm, List.length_take_of_le (by omega)⟩
  · rintro ⟨rfl, rfl⟩
    simp

theorem take_eq_some {n : Nat} {b x r : Bytes} (h : take n b = some (x, r)) : b = x ++ r ∧ x.length = n :=
  take_eq_some_iff.mp h

theorem take_append' (n : Nat) (a r : Bytes) (h : a.length = n) : take n (a ++ r) = some (a, r) :=
  take_eq_some_iff.mpr ⟨rfl, h⟩

theorem take_append (a r : Bytes) : take a.length (a ++ r) = some (a, r) := take_append' _ a r rfl

theorem take_all (b : Bytes) : take b.length b = some (b, []) := by
  simpa using take_append b []

theorem take_nil {n : Nat} {x r : Bytes} (h : take n [] = some (x, r)) : x = [] ∧ r = [] :=
  List.append_eq_nil_iff.mp (take_eq_some h).1.symm

theorem u8_cons (x : Byte) (r : Bytes) : u8 (x :: r) = some (x, r) := rfl

theorem u8_eq_some {b : Bytes} {x : Byte} {r : Bytes} (h : u8 b = some (x, r)) : b = x :: r := by
  cases b with
  | nil => cases h
  | cons y t => cases h; rfl

theorem ite_some_eq {α : Type} {c : Prop} [Decidable c] {a b : α} (h : (if c then some a else none) = some b) :
    c ∧ a = b := by
  split at h <;> cases h
  exact ⟨‹_›, rfl⟩

theorem length_two {l : Bytes} (h : l.length = 2) : ∃ a b, l = [a, b] :=
  match l, h with
  | [a, b], _ => ⟨a, b, rfl⟩

theorem be32_beNat (h : Bytes) (hl : h.length = 4) : be32 (beNat h) = h := Rpgp.be32_beNat h hl

/-! ## MPI

`RpgpProofs/Mpi.lean` proves the codec once, about the copy in `RpgpModel/KeyGen.lean`, and shows this
copy to be the same functions. -/

theorem mpiSer_length (m : Bytes) : (mpiSer m).length = mpiWriteLen m := by
  simp [mpiSer, mpiWriteLen, be16_length]

theorem mpi_parse_ser (m rest : Bytes) (h : MpiWF m) : mpiParse (mpiSer m ++ rest) = some (m, rest) := by
  obtain ⟨hn, hb⟩ := (Mpi.wire_mpiWF_iff m).mp h
  rw [Mpi.wire_mpiParse_eq, Mpi.wire_mpiSer_eq]
  exact KeyGen.mpiRead_mpiWrite m rest hn hb

theorem mpi_parse_ser_nil (m : Bytes) (h : MpiWF m) : mpiParse (mpiSer m) = some (m, []) := by
  simpa using mpi_parse_ser m [] h

theorem mpi_parse_wf {b m r : Bytes} (h : mpiParse b = some (m, r)) : MpiWF m := by
  obtain ⟨hn, hl, -⟩ := KeyGen.mpiRead_wf (Mpi.wire_mpiParse_eq ▸ h)
  exact (Mpi.wire_mpiWF_iff m).mpr ⟨hn, Nat.le_trans (KeyGen.bitSize_le m) (Nat.mul_le_mul_right 8 hl)⟩

theorem mpi_ser_parse {b m r : Bytes} (h : mpiParse b = some (m, r)) :
    ∃ hd raw, b = hd ++ raw ++ r ∧ hd.length = 2 ∧ m = stripZeros raw ∧
      (mpiSer m ++ r = b ↔ (stripZeros raw = raw ∧ beNat hd = bitLen raw)) := by
  obtain ⟨bits, raw, hmax, hl, rfl, rfl⟩ := KeyGen.mpiRead_eq_some (Mpi.wire_mpiParse_eq ▸ h)
  rw [← Mpi.wire_stripZeros_eq]
  refine ⟨be16 bits, raw, rfl, be16_length bits, rfl, ?_⟩
  have hraw : bitLen raw ≤ raw.length * 8 := Mpi.wire_bitLen_eq ▸ KeyGen.bitSize_le raw
  rw [mpiSer, List.append_left_inj, beNat_be16 bits (by omega)]
  constructor
  · intro heq
    obtain ⟨h1, h2⟩ := List.append_inj heq (by rw [be16_length, be16_length])
    exact ⟨h2, (be16_inj _ _ (by omega) (by omega) (h2 ▸ h1)).symm⟩
  · rintro ⟨hs, rfl⟩
    rw [hs]

theorem mpisSer_cons (m : Bytes) (t : List Bytes) : mpisSer (m :: t) = mpiSer m ++ mpisSer t := rfl

theorem mpisSer_length (ms : List Bytes) : (mpisSer ms).length = mpisWriteLen ms := by
  induction ms with
  | nil => rfl
  | cons m t ih => rw [mpisSer_cons, List.length_append, mpiSer_length, ih]; rfl

theorem mpis_parse_ser (ms : List Bytes) (rest : Bytes) (h : ∀ m ∈ ms, MpiWF m) :
    mpisParse ms.length (mpisSer ms ++ rest) = some (ms, rest) := by
  induction ms with
  | nil => rfl
  | cons m t ih =>
    rw [List.forall_mem_cons] at h
    simp only [List.length_cons, mpisParse, mpisSer_cons, List.append_assoc, mpi_parse_ser m _ h.1, ih h.2]

theorem mpis_parse_wf (n : Nat) (b : Bytes) (ms : List Bytes) (r : Bytes) :
    mpisParse n b = some (ms, r) → ms.length = n ∧ ∀ m ∈ ms, MpiWF m := by
  fun_induction mpisParse n b generalizing ms r <;> rintro ⟨⟩
  · exact ⟨rfl, nofun⟩
  · rename_i hm _ _ hms ih
    obtain ⟨hl, hw⟩ := ih _ _ hms
    exact ⟨congrArg (· + 1) hl, List.forall_mem_cons.mpr ⟨mpi_parse_wf hm, hw⟩⟩

/-! ## S2K -/

theorem s2kSer_length (s : S2k) : (s2kSer s).length = s2kWriteLen s := by
  cases s <;> simp +arith [s2kSer, s2kWriteLen]

theorem s2k_parse_ser (s : S2k) (rest : Bytes) (h : S2kWF s) (hr : s.isOther = true → rest = []) :
    s2kParse (s2kSer s ++ rest) = some (s, rest) := by
  cases s with
  | simple hash => rfl
  | salted hash salt => simp [s2kSer, s2kParse, u8, take_append' _ salt rest h]
  | iterated hash salt c => simp [s2kSer, s2kParse, u8, take_append' _ salt _ h]
  | argon2 salt t p m => simp [s2kSer, s2kParse, u8, take_append' _ salt _ h]
  | other t u =>
    obtain rfl := hr rfl
    obtain ⟨h0, h1, h3, h4⟩ := h
    simp [s2kSer, s2kParse, u8, h0, h1, h3, h4]

theorem s2k_parse_spec {b : Bytes} {s : S2k} {r : Bytes} :
    s2kParse b = some (s, r) → S2kWF s ∧ (s.isOther = true → r = []) := by
  fun_cases s2kParse b <;> rintro ⟨⟩
  · exact ⟨trivial, nofun⟩
  · exact ⟨(take_eq_some ‹take _ _ = _›).2, nofun⟩
  · exact ⟨(take_eq_some ‹take _ _ = _›).2, nofun⟩
  · exact ⟨(take_eq_some ‹take _ _ = _›).2, nofun⟩
  · exact ⟨⟨‹_›, ‹_›, ‹_›, ‹_›⟩, fun _ => rfl⟩

theorem s2k_parse_wf {b : Bytes} {s : S2k} {r : Bytes} (h : s2kParse b = some (s, r)) : S2kWF s :=
  (s2k_parse_spec h).1

theorem s2k_parse_other {b : Bytes} {k : S2k} {r : Bytes} (h : s2kParse b = some (k, r))
    (ho : k.isOther = true) : r = [] :=
  (s2k_parse_spec h).2 ho

end Rpgp.Wire
