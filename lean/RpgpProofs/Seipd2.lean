import RpgpModel.Seipd
import RpgpProofs.Bytes
import RpgpProofs.ListSplit
/-! SEIPDv2 (chunked AEAD) encryptor/decryptor: round trip under the AEAD laws, integrity under INT-CTXT. -/
namespace Rpgp

structure AeadLaws (A : Aead) (T : Nat) : Prop where
  enc_len : ∀ i ad p, (A.aeadEnc i ad p).length = p.length + T
  dec_enc : ∀ i ad p, A.aeadDec i ad (A.aeadEnc i ad p) = some p
  dec_len : ∀ i ad c p, A.aeadDec i ad c = some p → c.length = p.length + T

/-- all chunks full (`cs` bytes) except the last, which is non-empty and at most `cs` -/
def Shape (cs : Nat) : List Bytes → Prop
  | [] => True
  | [c] => 0 < c.length ∧ c.length ≤ cs
  | c :: c' :: r => c.length = cs ∧ Shape cs (c' :: r)

theorem shape_cons {cs : Nat} (hcs : 0 < cs) (c : Bytes) (r : List Bytes) :
    Shape cs (c :: r) ↔ 0 < c.length ∧ c.length ≤ cs ∧ (r ≠ [] → c.length = cs) ∧ Shape cs r := by
  cases r with
  | nil => exact ⟨fun h => ⟨h.1, h.2, fun h => absurd rfl h, trivial⟩, fun h => ⟨h.1, h.2.1⟩⟩
  | cons c' r' =>
    exact ⟨fun h => ⟨h.1 ▸ hcs, Nat.le_of_eq h.1, fun _ => h.1, h.2⟩, fun h => ⟨h.2.2.1 (List.cons_ne_nil _ _), h.2.2.2⟩⟩

theorem chunksOf_nil (cs : Nat) : chunksOf cs [] = [] := by
  rw [chunksOf, dif_pos (Or.inr rfl)]

theorem chunksOf_flatten (cs : Nat) (hcs : 0 < cs) (pt : Bytes) : (chunksOf cs pt).flatten = pt := by
  fun_induction chunksOf cs pt with
  | case1 pt h => exact (h.resolve_left (Nat.ne_of_gt hcs)).symm
  | case2 pt h ih => rw [List.flatten_cons, ih, List.take_append_drop]

theorem chunksOf_shape (cs : Nat) (hcs : 0 < cs) (pt : Bytes) : Shape cs (chunksOf cs pt) := by
  fun_induction chunksOf cs pt with
  | case1 pt h => trivial
  | case2 pt h ih =>
    have hpos : 0 < pt.length := List.length_pos_iff.mpr fun e => h (Or.inr e)
    rw [shape_cons hcs, List.length_take]
    refine ⟨Nat.lt_min.mpr ⟨hcs, hpos⟩, Nat.min_le_left _ _, fun hne => ?_, ih⟩
    rcases Nat.lt_or_ge cs pt.length with hlt | hge
    · exact Nat.min_eq_left (Nat.le_of_lt hlt)
    · rw [List.drop_eq_nil_of_le hge, chunksOf_nil] at hne; exact absurd rfl hne

theorem sealChunks_flatten_length {A : Aead} {T : Nat} (L : AeadLaws A T) (info : Bytes) :
    ∀ (cks : List Bytes) (i : Nat),
    (sealChunks A info i cks).flatten.length = cks.flatten.length + cks.length * T := by
  intro cks
  induction cks with
  | nil => intro i; show 0 = 0 + 0 * T; rw [Nat.zero_mul]
  | cons c r ih =>
    intro i
    rw [sealChunks, List.flatten_cons, List.flatten_cons, List.length_append, List.length_append, L.enc_len, ih,
      List.length_cons, Nat.succ_mul, Nat.add_add_add_comm, Nat.add_comm T]

theorem length_le_sealChunks_flatten_length {A : Aead} {T : Nat} (L : AeadLaws A T) (hT : 0 < T) (info : Bytes)
    (cks : List Bytes) (i : Nat) : cks.length ≤ (sealChunks A info i cks).flatten.length := by
  rw [sealChunks_flatten_length L]
  exact Nat.le_trans (Nat.le_mul_of_pos_right _ hT) (Nat.le_add_left _ _)

theorem AeadLaws.enc_ne_nil {A : Aead} {T : Nat} (L : AeadLaws A T) (i : Nat) (ad p : Bytes)
    (h : 0 < p.length + T) : A.aeadEnc i ad p ≠ [] :=
  List.ne_nil_of_length_pos (by rw [L.enc_len]; exact h)

theorem mem_sealChunks {A : Aead} {info x : Bytes} {cks : List Bytes} :
    ∀ {i : Nat}, x ∈ sealChunks A info i cks → ∃ j c, x = A.aeadEnc j info c := by
  induction cks with
  | nil => intro i h; cases h
  | cons c r ih =>
    intro i h
    rw [sealChunks, List.mem_cons] at h
    exact h.elim (fun e => ⟨i, c, e⟩) ih

/-- the piece `decrypt` cuts off the front of the honest stream is its first sealed chunk -/
theorem sealChunks_piece {A : Aead} {T : Nat} (L : AeadLaws A T) (info : Bytes) {cs : Nat} (hcs : 0 < cs)
    {c : Bytes} {r : List Bytes} (idx : Nat) (hs : Shape cs (c :: r)) :
    min (cs + T) (sealChunks A info idx (c :: r)).flatten.length = (A.aeadEnc idx info c).length := by
  obtain ⟨_, hle, hfull, _⟩ := (shape_cons hcs c r).mp hs
  rw [sealChunks, List.flatten_cons, List.length_append, L.enc_len]
  cases r with
  | nil =>
    rw [sealChunks, List.flatten_nil, List.length_nil, Nat.add_zero]
    exact Nat.min_eq_right (Nat.add_le_add_right hle T)
  | cons c' r' =>
    rw [hfull (List.cons_ne_nil _ _)]
    exact Nat.min_eq_left (Nat.le_add_right _ _)

theorem decRest_sealed {A : Aead} {T : Nat} (L : AeadLaws A T) (info : Bytes) {cs : Nat} (hcs : 0 < cs) :
    ∀ (cks : List Bytes) (fuel idx : Nat), Shape cs cks → cks.length < fuel →
    decRest A info cs T fuel idx (sealChunks A info idx cks).flatten = some (cks.flatten, idx + cks.length) := by
  intro cks
  induction cks with
  | nil =>
    intro fuel idx _ hf
    obtain ⟨f, rfl⟩ := Nat.exists_eq_add_one_of_ne_zero (Nat.ne_of_gt hf)
    rfl
  | cons c r ih =>
    intro fuel idx hs hf
    obtain ⟨f, rfl⟩ := Nat.exists_eq_add_one_of_ne_zero (Nat.ne_of_gt (Nat.zero_lt_of_lt hf))
    obtain ⟨hpos, _, _, hs'⟩ := (shape_cons hcs c r).mp hs
    have hne : (sealChunks A info idx (c :: r)).flatten ≠ [] :=
      List.append_ne_nil_of_left_ne_nil (L.enc_ne_nil idx info c (Nat.add_pos_left hpos T)) _
    rw [decRest, if_neg hne]
    simp only [sealChunks_piece L info hcs idx hs]
    rw [sealChunks, List.flatten_cons, List.take_left' rfl, List.drop_left' rfl, L.dec_enc]
    simp only [ih f (idx + 1) hs' (Nat.lt_of_succ_lt_succ hf), List.flatten_cons, List.length_cons,
      Nat.add_assoc, Nat.add_comm 1]

theorem decLast_sealed {A : Aead} {T : Nat} (L : AeadLaws A T) (hT : 0 < T) (info : Bytes) {cs : Nat}
    (hcs : 0 < cs) {cks : List Bytes} (idx written : Nat) (hs : Shape cs cks) :
    decLast A info cs T ((sealChunks A info idx cks).flatten ++
      A.aeadEnc (idx + cks.length) (info ++ be64 (written + cks.flatten.length)) []) idx written =
      some cks.flatten := by
  have hfin : (A.aeadEnc (idx + cks.length) (info ++ be64 (written + cks.flatten.length)) []).length = T := by
    rw [L.enc_len, List.length_nil, Nat.zero_add]
  have hfuel := Nat.lt_succ_of_le (length_le_sealChunks_flatten_length L hT info cks idx)
  unfold decLast
  simp only [List.length_append, hfin, Nat.add_sub_cancel, List.take_left' rfl, List.drop_left' rfl,
    decRest_sealed L info hcs cks _ idx hs hfuel, L.dec_enc]

theorem seipd2Dec_last (A : Aead) (info : Bytes) {cs T k : Nat} (fuel : Nat) {enc : Bytes} (idx written : Nat)
    {src : Bytes} {n : Nat} (hn : k * (cs + T) - enc.length = n) (h : src.length < n) :
    seipd2Dec A info cs T k (fuel + 1) enc idx written src =
      if (enc ++ src).length < T then ([], false)
      else match decLast A info cs T (enc ++ src) idx written with
        | some p => ([p], true)
        | none => ([], false) := by
  rw [seipd2Dec]
  simp only [hn, List.take_of_length_le (Nat.le_of_lt h), if_pos h]
  rfl

theorem seipd2Dec_next (A : Aead) (info : Bytes) {cs T k : Nat} (fuel : Nat) {enc : Bytes} (idx written : Nat)
    {src buf : Bytes} {n : Nat} (hn : k * (cs + T) - enc.length = n) (h : n ≤ src.length)
    (hbuf : enc ++ src.take n = buf) :
    seipd2Dec A info cs T k (fuel + 1) enc idx written src =
      match A.aeadDec idx info (buf.take (min (cs + T) buf.length)) with
      | none => ([], false)
      | some p =>
        let (bl, ok) := seipd2Dec A info cs T k fuel (buf.drop (min (cs + T) buf.length)) (idx + 1)
          (written + p.length) (src.drop n)
        (p :: bl, ok) := by
  rw [seipd2Dec]
  simp only [hn, hbuf, List.length_take, Nat.min_eq_left h, Nat.lt_irrefl, if_false]
  rfl

/-- a stream of sealed chunks and final tag that fills a window of two chunks starts with a full chunk -/
theorem shape_of_window {cs T : Nat} (hcs : 0 < cs) {cks : List Bytes} (hs : Shape cs cks)
    (h : 2 * (cs + T) ≤ cks.flatten.length + cks.length * T + T) :
    ∃ c r, cks = c :: r ∧ c.length = cs ∧ Shape cs r := by
  cases cks with
  | nil => simp only [List.flatten_nil, List.length_nil] at h; omega
  | cons c r =>
    obtain ⟨_, hle, hfull, hs'⟩ := (shape_cons hcs c r).mp hs
    refine ⟨c, r, rfl, hfull ?_, hs'⟩
    rintro rfl
    simp only [List.flatten_cons, List.flatten_nil, List.length_append, List.length_cons, List.length_nil] at h
    omega

/-- the decryptor on the honest stream from chunk `idx` on, for every window factor `k ≥ 2`: a full
window then holds a whole chunk besides the one opened, so the final tag is never cut into -/
theorem seipd2Dec_sealed {A : Aead} {T : Nat} (L : AeadLaws A T) (hT : 0 < T) (info : Bytes)
    {cs : Nat} (hcs : 0 < cs) {k : Nat} (hk : 2 ≤ k) :
    ∀ (fuel : Nat) (enc src : Bytes) (idx written : Nat) (cks : List Bytes),
    Shape cs cks →
    enc ++ src = (sealChunks A info idx cks).flatten ++
      A.aeadEnc (idx + cks.length) (info ++ be64 (written + cks.flatten.length)) [] →
    enc.length ≤ k * (cs + T) → cks.length < fuel →
    ∃ bl, seipd2Dec A info cs T k fuel enc idx written src = (bl, true) ∧ bl.flatten = cks.flatten := by
  intro fuel
  induction fuel with
  | zero => intro _ _ _ _ _ _ _ _ h; exact absurd h (Nat.not_lt_zero _)
  | succ fuel ih =>
    intro enc src idx written cks hshape hall henc hf
    obtain ⟨n, hn⟩ := Nat.exists_eq_add_of_le henc
    have hsub : k * (cs + T) - enc.length = n := by rw [hn, Nat.add_sub_cancel_left]
    by_cases heof : src.length < n
    · rw [seipd2Dec_last A info fuel idx written hsub heof, hall,
        if_neg (by rw [List.length_append, L.enc_len, List.length_nil, Nat.zero_add]; exact Nat.not_lt.mpr (Nat.le_add_left _ _)),
        decLast_sealed L hT info hcs idx written hshape]
      exact ⟨[cks.flatten], rfl, List.flatten_singleton⟩
    · have heof := Nat.le_of_not_lt heof
      have hW : 2 * (cs + T) ≤ k * (cs + T) := Nat.mul_le_mul_right _ hk
      have hlen := congrArg List.length hall
      rw [List.length_append, List.length_append, sealChunks_flatten_length L, L.enc_len, List.length_nil,
        Nat.zero_add] at hlen
      obtain ⟨c, r, rfl, hc, hs'⟩ := shape_of_window hcs hshape
        (hlen ▸ Nat.le_trans hW (hn ▸ Nat.add_le_add_left heof _))
      clear hlen
      generalize hbuf : enc ++ src.take n = buf
      have hbl : buf.length = k * (cs + T) := by
        rw [← hbuf, List.length_append, List.length_take, Nat.min_eq_left heof, hn]
      have hX : (A.aeadEnc idx info c).length = cs + T := by rw [L.enc_len, hc]
      have hXb : (A.aeadEnc idx info c).length ≤ buf.length := by
        rw [hX, hbl]; exact Nat.le_trans (Nat.le_mul_of_pos_left _ Nat.zero_lt_two) hW
      have e1 : idx + (c :: r).length = idx + 1 + r.length := by
        rw [List.length_cons, Nat.add_comm r.length, Nat.add_assoc]
      have e2 : written + (c :: r).flatten.length = written + c.length + r.flatten.length := by
        rw [List.flatten_cons, List.length_append, Nat.add_assoc]
      rw [e1, e2, sealChunks, List.flatten_cons, List.append_assoc, ← List.take_append_drop n src,
        ← List.append_assoc, hbuf] at hall
      obtain ⟨htk, hdr⟩ := take_drop_of_append_eq hall hXb (Nat.le_refl _)
      rw [List.take_length] at htk
      rw [List.drop_length, List.nil_append] at hdr
      rw [hX] at htk hdr hXb
      obtain ⟨bl', hrec, hfl'⟩ := ih (buf.drop (cs + T)) (src.drop n) (idx + 1)
        (written + c.length) r hs' hdr (by rw [List.length_drop, hbl]; exact Nat.sub_le _ _)
        (Nat.lt_of_succ_lt_succ hf)
      rw [seipd2Dec_next A info fuel idx written hsub heof hbuf, Nat.min_eq_left hXb, htk, L.dec_enc]
      simp only [hrec]
      exact ⟨c :: bl', rfl, by rw [List.flatten_cons, List.flatten_cons, hfl']⟩

theorem seipd2Encrypt_eq (A : Aead) (info : Bytes) (cs : Nat) (pt : Bytes) :
    seipd2Encrypt A info cs pt = (sealChunks A info 0 (chunksOf cs pt)).flatten ++
      A.aeadEnc (chunksOf cs pt).length (info ++ be64 pt.length) [] := by
  rw [seipd2Encrypt, seipd2Blocks, List.flatten_append, List.flatten_singleton]

theorem seipd2_roundtrip (A : Aead) (T : Nat) (L : AeadLaws A T) (hT : 0 < T) (info : Bytes)
    (cs : Nat) (hcs : 0 < cs) (pt : Bytes) :
    ∃ bl, seipd2Dec A info cs T 2 ((seipd2Encrypt A info cs pt).length + 2) [] 0 0 (seipd2Encrypt A info cs pt)
      = (bl, true) ∧ bl.flatten = pt := by
  have hfuel : (chunksOf cs pt).length < (seipd2Encrypt A info cs pt).length + 2 := by
    rw [seipd2Encrypt_eq, List.length_append]
    exact Nat.lt_of_le_of_lt (Nat.le_trans (length_le_sealChunks_flatten_length L hT info _ 0) (Nat.le_add_right _ _))
      (Nat.lt_add_of_pos_right (by decide))
  have := seipd2Dec_sealed L hT info hcs (Nat.le_refl 2) ((seipd2Encrypt A info cs pt).length + 2) []
    (seipd2Encrypt A info cs pt) 0 0 (chunksOf cs pt) (chunksOf_shape cs hcs pt)
    (by rw [chunksOf_flatten cs hcs, List.nil_append, Nat.zero_add, Nat.zero_add, seipd2Encrypt_eq])
    (Nat.zero_le _) hfuel
  rwa [chunksOf_flatten cs hcs] at this

/-- Ciphertext integrity of the AEAD relative to what the honest encryptor sealed for plaintext
chunks `cks` and final associated data `finAd` (a hypothesis about the primitive, INT-CTXT):
anything that opens was sealed by the encryptor under the same index and associated data. -/
structure IntCtxt (A : Aead) (info finAd : Bytes) (cks : List Bytes) : Prop where
  chunk : ∀ i c p, A.aeadDec i info c = some p →
    ∃ h : i < cks.length, p = cks[i] ∧ c = A.aeadEnc i info cks[i]
  final : ∀ i ad c p, ad ≠ info → A.aeadDec i ad c = some p →
    i = cks.length ∧ c = A.aeadEnc cks.length finAd []

/-- sealed chunks `i ..` of the honest ciphertext -/
def sealedFrom (A : Aead) (info : Bytes) (cks : List Bytes) (i : Nat) : Bytes :=
  (sealChunks A info i (cks.drop i)).flatten

theorem sealedFrom_step (A : Aead) (info : Bytes) {cks : List Bytes} {i : Nat} (h : i < cks.length) :
    sealedFrom A info cks i = A.aeadEnc i info cks[i] ++ sealedFrom A info cks (i + 1) := by
  rw [sealedFrom, List.drop_eq_getElem_cons h, sealChunks, List.flatten_cons, sealedFrom]

theorem sealedFrom_end (A : Aead) (info : Bytes) (cks : List Bytes) :
    sealedFrom A info cks cks.length = [] := by
  rw [sealedFrom, List.drop_length]; rfl

theorem take_succ_flatten {cks : List Bytes} {i : Nat} (h : i < cks.length) :
    (cks.take (i + 1)).flatten = (cks.take i).flatten ++ cks[i] := by
  rw [List.take_succ_eq_append_getElem h, List.flatten_append, List.flatten_singleton]

theorem decRest_int {A : Aead} {info finAd : Bytes} {cks : List Bytes} (H : IntCtxt A info finAd cks)
    (cs T : Nat) : ∀ (fuel idx : Nat) (body p : Bytes) (idx' : Nat),
    decRest A info cs T fuel idx body = some (p, idx') →
    idx ≤ idx' ∧ idx' ≤ max idx cks.length ∧
    body ++ sealedFrom A info cks idx' = sealedFrom A info cks idx ∧
    (cks.take idx).flatten ++ p = (cks.take idx').flatten := by
  intro fuel
  induction fuel with
  | zero => intro idx body p idx' h; cases h
  | succ fuel ih =>
    intro idx body p idx' h
    rw [decRest] at h
    split at h
    · rename_i hb
      obtain ⟨rfl, rfl⟩ := Prod.mk.inj (Option.some.inj h)
      exact ⟨Nat.le_refl _, Nat.le_max_left _ _, by rw [hb, List.nil_append], List.append_nil _⟩
    · generalize min (cs + T) body.length = e at h
      dsimp only at h
      split at h
      · cases h
      · rename_i q hopen
        obtain ⟨hi, hq, hc⟩ := H.chunk _ _ _ hopen
        split at h
        · cases h
        · rename_i ps j hrec
          obtain ⟨rfl, rfl⟩ := Prod.mk.inj (Option.some.inj h)
          obtain ⟨h1, h2, h3, h4⟩ := ih _ _ _ _ hrec
          refine ⟨Nat.le_of_succ_le h1, Nat.le_trans h2 (Nat.max_le.mpr
            ⟨Nat.le_trans hi (Nat.le_max_right _ _), Nat.le_max_right _ _⟩), ?_, ?_⟩
          · rw [sealedFrom_step A info hi, ← hc, ← h3, ← List.append_assoc, List.take_append_drop]
          · rw [← h4, take_succ_flatten hi, hq, List.append_assoc]

theorem info_be64_ne (info : Bytes) (x : Nat) : info ++ be64 x ≠ info := by
  intro h
  have := congrArg List.length h
  rw [List.length_append, be64_length] at this
  omega

/-- what a run started at chunk `idx` on the input `enc ++ src` can have done under INT-CTXT: it released
the plaintext chunks `idx .. j`, and if it ended cleanly it reached the end and read the honest stream -/
def Honest (A : Aead) (info finAd : Bytes) (cks : List Bytes) (enc src : Bytes) (idx : Nat)
    (r : List Bytes × Bool) : Prop :=
  ∃ j, idx ≤ j ∧ j ≤ cks.length ∧ (cks.take idx).flatten ++ r.1.flatten = (cks.take j).flatten ∧
    (r.2 = true → j = cks.length ∧
      enc ++ src = sealedFrom A info cks idx ++ A.aeadEnc cks.length finAd [])

theorem Honest.error (A : Aead) (info finAd : Bytes) {cks : List Bytes} (enc src : Bytes) {idx : Nat}
    (hidx : idx ≤ cks.length) : Honest A info finAd cks enc src idx ([], false) :=
  ⟨idx, Nat.le_refl _, hidx, List.append_nil _, Bool.noConfusion⟩

theorem seipd2Dec_int {A : Aead} {info finAd : Bytes} {cks : List Bytes} (H : IntCtxt A info finAd cks)
    (cs T k : Nat) : ∀ (fuel : Nat) (enc : Bytes) (idx written : Nat) (src : Bytes), idx ≤ cks.length →
    Honest A info finAd cks enc src idx (seipd2Dec A info cs T k fuel enc idx written src) := by
  intro fuel
  induction fuel with
  | zero => intro enc idx written src hidx; exact Honest.error A info finAd enc src hidx
  | succ fuel ih =>
    intro enc idx written src hidx
    have hfail := Honest.error A info finAd enc src hidx
    by_cases heof : src.length < k * (cs + T) - enc.length
    · rw [seipd2Dec_last A info fuel idx written rfl heof]
      split
      · exact hfail
      · split
        · rename_i p hlast
          unfold decLast at hlast
          dsimp only at hlast
          split at hlast
          · cases hlast
          · rename_i q idx' hrest
            split at hlast
            · rename_i t hfin
              obtain rfl := Option.some.inj hlast
              obtain ⟨h1, h2, h3, h4⟩ := decRest_int H cs T _ _ _ _ _ hrest
              obtain ⟨rfl, htag⟩ := H.final _ _ _ _ (info_be64_ne info _) hfin
              refine ⟨cks.length, hidx, Nat.le_refl _, by rw [List.flatten_singleton, h4], fun _ => ⟨rfl, ?_⟩⟩
              rw [sealedFrom_end, List.append_nil] at h3
              rw [← h3, ← htag, List.take_append_drop]
            · cases hlast
        · exact hfail
    · rw [seipd2Dec_next A info fuel idx written rfl (Nat.le_of_not_lt heof) rfl]
      generalize hbuf : enc ++ List.take (k * (cs + T) - enc.length) src = buf
      generalize min (cs + T) buf.length = e
      split
      · exact hfail
      · rename_i p hopen
        obtain ⟨hi, hp, hc⟩ := H.chunk _ _ _ hopen
        obtain ⟨j, hj1, hj2, hj3, hj4⟩ := ih (buf.drop e) (idx + 1) (written + p.length)
          (List.drop (k * (cs + T) - enc.length) src) hi
        refine ⟨j, Nat.le_of_succ_le hj1, hj2, ?_, fun hok => ?_⟩
        · rw [← hj3, take_succ_flatten hi, hp, List.flatten_cons, List.append_assoc]
        · obtain ⟨hjn, hrest⟩ := hj4 hok
          refine ⟨hjn, ?_⟩
          rw [sealedFrom_step A info hi, ← hc, List.append_assoc, ← hrest, ← List.append_assoc,
            List.take_append_drop, ← hbuf, List.append_assoc, List.take_append_drop]

end Rpgp
