import RpgpProofs.SignVerify
/-! The cleartext signature framework of `RpgpModel/SignVerify.lean`: `dash_escape`,
`dash_unescape_and_trim`, `read_cleartext_body` (C06; `Cleartext.lean` transfers the lemmas to C16). -/
namespace Rpgp
theorem DASH_ne_LF : DASH ≠ LF := by decide
theorem SP_ne_LF : SP ≠ LF := by decide
end Rpgp

namespace Rpgp.SV
open Rpgp

/-! ## lines -/

theorem splitIncl_LF (r : Bytes) : splitIncl (LF :: r) = [LF] :: splitIncl r := by
  rw [splitIncl, if_pos rfl]

theorem splitIncl_cons_of_ne (b : Byte) (r : Bytes) (hb : b ≠ LF) :
    splitIncl (b :: r) = (b :: (splitIncl r).headD []) :: (splitIncl r).tail := by
  rw [splitIncl, if_neg hb]
  cases splitIncl r <;> rfl

theorem headD_append_tail_flatten (ls : List Bytes) : ls.headD [] ++ ls.tail.flatten = ls.flatten := by
  cases ls <;> simp

theorem splitIncl_flatten (t : Bytes) : (splitIncl t).flatten = t := by
  induction t with
  | nil => rfl
  | cons b r ih =>
    by_cases hb : b = LF
    · rw [hb, splitIncl_LF, List.flatten_cons, ih]; rfl
    · rw [splitIncl_cons_of_ne b r hb, List.flatten_cons, List.cons_append, headD_append_tail_flatten, ih]

theorem splitIncl_of_not_mem (l : Bytes) (hne : l ≠ []) (h : LF ∉ l) : splitIncl l = [l] := by
  induction l with
  | nil => exact absurd rfl hne
  | cons b l ih =>
    rw [List.mem_cons, not_or] at h
    rw [splitIncl_cons_of_ne b l (Ne.symm h.1)]
    cases l with
    | nil => rfl
    | cons c l => rw [ih (List.cons_ne_nil _ _) h.2]; rfl

theorem splitIncl_line (l r : Bytes) (h : LF ∉ l) :
    splitIncl (l ++ LF :: r) = (l ++ [LF]) :: splitIncl r := by
  induction l with
  | nil => exact splitIncl_LF r
  | cons b l ih =>
    rw [List.mem_cons, not_or] at h
    rw [List.cons_append, splitIncl_cons_of_ne b _ (Ne.symm h.1), ih h.2]
    rfl

def endsLF : Bytes → Bool
  | [] => false
  | [b] => b == LF
  | _ :: c :: r => endsLF (c :: r)

theorem endsLF_cons_cons (a b : Byte) (r : Bytes) : endsLF (a :: b :: r) = endsLF (b :: r) := rfl

/-- the lists `split_inclusive('\n')` produces: lines that end with their LF, then possibly a
last piece without LF -/
inductive IsLines : List Bytes → Prop
  | nil : IsLines []
  | last (e : Bytes) : e ≠ [] → LF ∉ e → IsLines [e]
  | cons (l : Bytes) (ls : List Bytes) : LF ∉ l → IsLines ls → IsLines ((l ++ [LF]) :: ls)

theorem isLines_splitIncl (t : Bytes) : IsLines (splitIncl t) := by
  induction t with
  | nil => exact .nil
  | cons b r ih =>
    by_cases hb : b = LF
    · rw [hb, splitIncl_LF]; exact .cons [] _ (by simp) ih
    · rw [splitIncl_cons_of_ne b r hb]
      have hb' : ¬ LF = b := fun e => hb e.symm
      generalize splitIncl r = L at ih
      cases ih with
      | nil => exact .last _ (by simp) (by simp [hb'])
      | last e hne he => exact .last _ (by simp) (by simp [hb', he])
      | cons l ls hl hls => exact .cons (b :: l) ls (by simp [hb', hl]) hls

theorem lines_induction {P : Bytes → Prop} (t : Bytes) (nil : P [])
    (last : ∀ e, e ≠ [] → LF ∉ e → P e) (line : ∀ l r, LF ∉ l → P r → P (l ++ LF :: r)) : P t := by
  have key : ∀ L, IsLines L → P L.flatten := by
    intro L h
    induction h with
    | nil => exact nil
    | last e hne he => rw [List.flatten_singleton]; exact last e hne he
    | cons l ls hl _ ih => rw [List.flatten_cons, List.append_assoc]; exact line l _ hl ih
  rw [← splitIncl_flatten t]
  exact key _ (isLines_splitIncl t)

theorem splitIncl_append_LF (a b : Bytes) :
    splitIncl (a ++ LF :: b) = splitIncl (a ++ [LF]) ++ splitIncl b := by
  induction a using lines_induction with
  | nil => rw [List.nil_append, List.nil_append, splitIncl_LF, splitIncl_LF]; rfl
  | last e _ he => rw [splitIncl_line e b he, splitIncl_line e [] he]; rfl
  | line l r hl ih =>
    rw [List.append_assoc, List.append_assoc, List.cons_append, List.cons_append, splitIncl_line l _ hl,
      splitIncl_line l _ hl, ih]; rfl

/-! ## `dash_escape` line by line -/

theorem escapeLine_eq (l : Bytes) :
    escapeLine l = (if l.head? = some DASH then [DASH, SP] else []) ++ l := by
  cases l with
  | nil => rfl
  | cons b r => by_cases hb : b = DASH <;> simp [escapeLine, hb]

theorem escapeLine_append_LF (l : Bytes) (h : LF ∉ l) :
    ∃ l', LF ∉ l' ∧ escapeLine (l ++ [LF]) = l' ++ [LF] := by
  refine ⟨(if (l ++ [LF]).head? = some DASH then [DASH, SP] else []) ++ l, ?_, ?_⟩
  · split <;> simp [h, DASH_ne_LF.symm, SP_ne_LF.symm]
  · rw [escapeLine_eq, List.append_assoc]

theorem escapeLine_not_mem (e : Bytes) (hne : e ≠ []) (h : LF ∉ e) :
    escapeLine e ≠ [] ∧ LF ∉ escapeLine e := by
  rw [escapeLine_eq]
  split <;> simp [h, hne, DASH_ne_LF.symm, SP_ne_LF.symm]

theorem dashEscape_of_not_mem (e : Bytes) (hne : e ≠ []) (h : LF ∉ e) : dashEscape e = escapeLine e := by
  rw [dashEscape, splitIncl_of_not_mem e hne h]
  exact List.append_nil _

theorem dashEscape_line (l r : Bytes) (h : LF ∉ l) :
    dashEscape (l ++ LF :: r) = escapeLine (l ++ [LF]) ++ dashEscape r := by
  rw [dashEscape, splitIncl_line l r h]; rfl

theorem splitIncl_dashEscape (t : Bytes) : splitIncl (dashEscape t) = (splitIncl t).map escapeLine := by
  induction t using lines_induction with
  | nil => rfl
  | last e hne he =>
    rw [dashEscape_of_not_mem e hne he, splitIncl_of_not_mem e hne he]
    exact splitIncl_of_not_mem _ (escapeLine_not_mem e hne he).1 (escapeLine_not_mem e hne he).2
  | line l r hl ih =>
    obtain ⟨l', hl', e⟩ := escapeLine_append_LF l hl
    rw [dashEscape_line l r hl, splitIncl_line l r hl, List.map_cons, ← ih, e, List.append_assoc]
    exact splitIncl_line l' _ hl'

theorem getLast?_escapeLine (l : Bytes) : (escapeLine l).getLast? = l.getLast? := by
  cases l with
  | nil => rfl
  | cons b r => rw [escapeLine_eq, List.getLast?_append, List.getLast?_cons, Option.some_or]

theorem endsCR_dashEscape (t : Bytes) : endsCR (dashEscape t) = endsCR t := by
  have key : ∀ L : List Bytes, ((L.map escapeLine).flatten).getLast? = L.flatten.getLast? := by
    intro L
    induction L with
    | nil => rfl
    | cons l L ih => simp only [List.map_cons, List.flatten_cons, List.getLast?_append, ih, getLast?_escapeLine]
  rw [endsCR_eq_getLastD, endsCR_eq_getLastD, List.getLastD_eq_getLast?, List.getLastD_eq_getLast?,
    dashEscape, key, splitIncl_flatten]

/-! ## the escaped text holds no boundary, whatever line break follows it -/

theorem not_dd_prefix_escapeLine (l z : Bytes) (hl : l ≠ []) : ¬ [DASH, DASH] <+: escapeLine l ++ z := by
  have h : DASH ≠ SP := by decide
  obtain ⟨b, l, rfl⟩ := List.exists_cons_of_ne_nil hl
  by_cases hb : b = DASH
  · simp [escapeLine, hb, List.cons_prefix_cons, h]
  · simp [escapeLine, hb, List.cons_prefix_cons, Ne.symm hb]

theorem infix_of_cons_infix_append {c : Byte} {p a b : Bytes} (h : (c :: p) <:+: a ++ b) (hc : c ∉ a) :
    (c :: p) <:+: b := by
  induction a with
  | nil => exact h
  | cons x a ih =>
    rw [List.mem_cons, not_or] at hc
    rw [List.cons_append, List.infix_cons_iff, List.cons_prefix_cons] at h
    rcases h with h | h
    · exact absurd h.1 hc.1
    · exact ih h hc.2

theorem not_dd_prefix_dashEscape (t y : Bytes) (hy : ¬ [DASH, DASH] <+: y) :
    ¬ [DASH, DASH] <+: dashEscape t ++ y := by
  induction t using lines_induction with
  | nil => exact hy
  | last e hne he => rw [dashEscape_of_not_mem e hne he]; exact not_dd_prefix_escapeLine e y hne
  | line l r hl _ =>
    rw [dashEscape_line l r hl, List.append_assoc]
    exact not_dd_prefix_escapeLine _ _ (by simp)

theorem no_LF_dd_dashEscape (t y : Bytes) (hy1 : ¬ [DASH, DASH] <+: y) (hy2 : ¬ [LF, DASH, DASH] <:+: y) :
    ¬ [LF, DASH, DASH] <:+: dashEscape t ++ y := by
  induction t using lines_induction with
  | nil => exact hy2
  | last e hne he =>
    rw [dashEscape_of_not_mem e hne he]
    exact fun h => hy2 (infix_of_cons_infix_append h (escapeLine_not_mem e hne he).2)
  | line l r hl ih =>
    intro h
    obtain ⟨l', hl', e⟩ := escapeLine_append_LF l hl
    rw [dashEscape_line l r hl, e, List.append_assoc, List.append_assoc, List.singleton_append] at h
    have h := infix_of_cons_infix_append h hl'
    rw [List.infix_cons_iff, List.cons_prefix_cons] at h
    rcases h with h | h
    · exact not_dd_prefix_dashEscape r y hy1 h.2
    · exact ih h

/-! ## `dash_unescape_and_trim` undoes the escape and trims -/

theorem splitEnd_append (l : Bytes) : (splitEnd l).1 ++ (splitEnd l).2 = l := by
  induction l with
  | nil => rfl
  | cons a r ih =>
    cases r with
    | nil =>
      unfold splitEnd
      by_cases ha : a = LF <;> simp [ha]
    | cons b r' =>
      rw [splitEnd]
      by_cases hc : r' = [] ∧ a = CR ∧ b = LF
      · obtain ⟨h1, h2, h3⟩ := hc
        subst h1; subst h2; subst h3
        simp
      · simp only [hc, if_false]
        simpa using ih

theorem splitEnd_cons_of_ne (a : Byte) (l : Bytes) (h1 : a ≠ CR) (h2 : a ≠ LF) :
    splitEnd (a :: l) = (a :: (splitEnd l).1, (splitEnd l).2) := by
  cases l with
  | nil => simp [splitEnd, h2]
  | cons b r =>
    rw [splitEnd]
    have : ¬ (r = [] ∧ a = CR ∧ b = LF) := fun h => h1 h.2.1
    simp only [this, if_false]

theorem stripDashSpace_of_ne (c : Bytes) (h : ∀ r, c ≠ DASH :: SP :: r) : stripDashSpace c = c := by
  match c with
  | [] => rfl
  | [a] => rfl
  | a :: b :: r =>
    have : ¬ (a = DASH ∧ b = SP) := by
      rintro ⟨rfl, rfl⟩; exact h r rfl
    simp [stripDashSpace, this]

theorem stripDashSpace_escapeLine (l : Bytes) : stripDashSpace (escapeLine l) = l := by
  cases l with
  | nil => rfl
  | cons b r =>
    rw [escapeLine]
    split
    · rw [stripDashSpace, if_pos ⟨rfl, rfl⟩]
    · next hb => exact stripDashSpace_of_ne _ fun r' e => hb (List.cons.inj e).1

theorem splitEnd_stripDashSpace (l : Bytes) :
    splitEnd (stripDashSpace l) = (stripDashSpace (splitEnd l).1, (splitEnd l).2) := by
  by_cases h : ∃ r, l = DASH :: SP :: r
  · obtain ⟨r, rfl⟩ := h
    rw [splitEnd_cons_of_ne DASH _ (by decide) (by decide), splitEnd_cons_of_ne SP _ (by decide) (by decide)]
    simp [stripDashSpace]
  · have h' : ∀ r, l ≠ DASH :: SP :: r := fun r e => h ⟨r, e⟩
    rw [stripDashSpace_of_ne l h', stripDashSpace_of_ne]
    intro r hr
    have := splitEnd_append l
    rw [hr] at this
    exact h' _ this.symm

/-- trimming one line: blanks before the line ending are dropped -/
def trimLine (l : Bytes) : Bytes := trimEndBlank (splitEnd l).1 ++ (splitEnd l).2

/-- RFC 9580 §7.2 as the verifier implements it: every line without its trailing blanks -/
def trimLines (t : Bytes) : Bytes := ((splitIncl t).map trimLine).flatten

theorem unescapeTrimLine_eq (l : Bytes) : unescapeTrimLine l = trimLine (stripDashSpace l) := by
  rw [trimLine, splitEnd_stripDashSpace]; rfl

theorem dashUnescapeTrim_dashEscape (t : Bytes) : dashUnescapeTrim (dashEscape t) = trimLines t := by
  unfold dashUnescapeTrim trimLines
  rw [splitIncl_dashEscape, List.map_map]
  congr 1
  apply List.map_congr_left
  intro l _
  rw [Function.comp_apply, unescapeTrimLine_eq, stripDashSpace_escapeLine]

/-- no line of the text carries blanks before its line ending (decidable) -/
def NoTrailingBlank (t : Bytes) : Prop :=
  ∀ l ∈ splitIncl t, trimEndBlank (splitEnd l).1 = (splitEnd l).1

instance (t : Bytes) : Decidable (NoTrailingBlank t) := by unfold NoTrailingBlank; exact inferInstance

theorem trimLines_of_noTrailingBlank (t : Bytes) (h : NoTrailingBlank t) : trimLines t = t := by
  have : (splitIncl t).map trimLine = (splitIncl t).map id :=
    List.map_congr_left fun l hl => by rw [trimLine, h l hl, splitEnd_append]; rfl
  rw [trimLines, this, List.map_id, splitIncl_flatten]

/-! ## converse of `trimLines_of_noTrailingBlank`, even up to `canon`: trimming removes blanks,
canonicalisation keeps their number -/

def isBlank (b : Byte) : Bool := b == SP || b == TAB

theorem countP_isBlank_canonGo (p : Bool) (x : Bytes) : (canonGo p x).countP isBlank = x.countP isBlank := by
  induction x generalizing p with
  | nil => rfl
  | cons b r ih =>
    rw [canonGo]
    have hCR : isBlank CR = false := by decide
    have hLF : isBlank LF = false := by decide
    by_cases hb : b = LF
    · subst hb
      cases p <;> simp [hCR, hLF, ih]
    · simp only [hb, if_false, List.countP_cons, ih]

theorem eq_of_add_eq_add_of_le {a a' b b' : Nat} (ha : a ≤ a') (hb : b ≤ b') (h : a + b = a' + b') :
    a = a' ∧ b = b' := by
  have ea : a = a' := Nat.le_antisymm ha (Nat.le_of_add_le_add_right (h ▸ Nat.add_le_add_left hb a))
  subst ea
  exact ⟨rfl, Nat.add_left_cancel h⟩

theorem countP_isBlank_trimEndBlank (c : Bytes) :
    (trimEndBlank c).countP isBlank ≤ c.countP isBlank ∧
      ((trimEndBlank c).countP isBlank = c.countP isBlank → trimEndBlank c = c) := by
  induction c with
  | nil => exact ⟨Nat.le_refl _, fun _ => rfl⟩
  | cons b c ih =>
    rw [trimEndBlank]
    by_cases hc : trimEndBlank c = [] ∧ (b = SP ∨ b = TAB)
    · have hb : isBlank b = true := by rcases hc.2 with h | h <;> subst h <;> decide
      rw [if_pos hc, List.countP_cons, hb]
      exact ⟨Nat.zero_le _, fun h => absurd h (Nat.ne_of_lt (Nat.succ_pos _))⟩
    · rw [if_neg hc, List.countP_cons, List.countP_cons]
      exact ⟨Nat.add_le_add_right ih.1 _, fun h => by rw [ih.2 (Nat.add_right_cancel h)]⟩

theorem countP_isBlank_trimLine (l : Bytes) :
    (trimLine l).countP isBlank ≤ l.countP isBlank ∧
      ((trimLine l).countP isBlank = l.countP isBlank → trimEndBlank (splitEnd l).1 = (splitEnd l).1) := by
  have := countP_isBlank_trimEndBlank (splitEnd l).1
  rw [trimLine, List.countP_append]
  conv => enter [1, 2]; rw [← splitEnd_append l, List.countP_append]
  conv => enter [2, 1, 2]; rw [← splitEnd_append l, List.countP_append]
  exact ⟨Nat.add_le_add_right this.1 _, fun e => this.2 (Nat.add_right_cancel e)⟩

theorem countP_isBlank_map_trimLine (ls : List Bytes) :
    ((ls.map trimLine).flatten).countP isBlank ≤ ls.flatten.countP isBlank ∧
      (((ls.map trimLine).flatten).countP isBlank = ls.flatten.countP isBlank →
        ∀ l ∈ ls, trimEndBlank (splitEnd l).1 = (splitEnd l).1) := by
  induction ls with
  | nil => exact ⟨Nat.le_refl _, fun _ l hl => absurd hl List.not_mem_nil⟩
  | cons l ls ih =>
    have hl := countP_isBlank_trimLine l
    rw [List.map_cons, List.flatten_cons, List.flatten_cons, List.countP_append, List.countP_append]
    refine ⟨Nat.add_le_add hl.1 ih.1, fun e x hx => ?_⟩
    obtain ⟨e1, e2⟩ := eq_of_add_eq_add_of_le hl.1 ih.1 e
    rcases List.mem_cons.mp hx with rfl | hx
    · exact hl.2 e1
    · exact ih.2 e2 x hx

theorem noTrailingBlank_of_canon_trimLines (t : Bytes) (h : canon (trimLines t) = canon t) :
    NoTrailingBlank t := by
  have hc := congrArg (List.countP isBlank) h
  rw [canon, canon, countP_isBlank_canonGo, countP_isBlank_canonGo, trimLines] at hc
  apply (countP_isBlank_map_trimLine (splitIncl t)).2
  rw [hc, splitIncl_flatten]

/-! ## `starts_with` and `rfind` of the model in terms of prefixes and infixes -/

theorem startsWith_iff (s p : Bytes) : startsWith s p = true ↔ p <+: s := by
  induction p generalizing s with
  | nil => cases s <;> simp [startsWith]
  | cons c p ih =>
    cases s with
    | nil => simp [startsWith]
    | cons a s => rw [startsWith, Bool.and_eq_true, beq_iff_eq, ih, List.cons_prefix_cons, eq_comm]

theorem startsWith_eq_false_iff (s p : Bytes) : startsWith s p = false ↔ ¬ p <+: s := by
  rw [← startsWith_iff, Bool.not_eq_true]

theorem occurrences_succ (pat s : Bytes) (i : Nat) :
    occurrences pat s (i + 1) = (occurrences pat s i).map (· + 1) := by
  induction s generalizing i with
  | nil => rw [occurrences, occurrences]; split <;> rfl
  | cons b r ih => rw [occurrences, occurrences, ih (i + 1), List.map_append]; split <;> rfl

theorem rfind_cons (pat : Bytes) (b : Byte) (r : Bytes) :
    rfind pat (b :: r) = match rfind pat r with
      | some i => some (i + 1)
      | none => if startsWith (b :: r) pat then some 0 else none := by
  rw [rfind, rfind, occurrences, occurrences_succ, List.getLast?_append, List.getLast?_map]
  cases (occurrences pat r 0).getLast? with
  | some i => rfl
  | none => split <;> rfl

theorem rfind_eq_none (pat s : Bytes) (hp : pat ≠ []) (h : ¬ pat <:+: s) : rfind pat s = none := by
  induction s with
  | nil =>
    obtain ⟨c, p, rfl⟩ := List.exists_cons_of_ne_nil hp
    rfl
  | cons b r ih =>
    rw [List.infix_cons_iff, not_or, ← startsWith_eq_false_iff] at h
    rw [rfind_cons, ih h.2, h.1]; rfl

theorem rfind_append_cons (c : Byte) (p a s : Bytes) (hs : p <+: s) (hno : ¬ (c :: p) <:+: s) :
    rfind (c :: p) (a ++ c :: s) = some a.length := by
  induction a with
  | nil =>
    have : startsWith (c :: s) (c :: p) = true := (startsWith_iff _ _).mpr (List.cons_prefix_cons.mpr ⟨rfl, hs⟩)
    rw [List.nil_append, rfind_cons, rfind_eq_none _ _ (List.cons_ne_nil _ _) hno, this]; rfl
  | cons x a ih => rw [List.cons_append, rfind_cons, ih]; rfl

/-! ## `read_cleartext_body` on what `to_armored_writer` wrote -/

theorem endsCRLF_append_LF (e : Bytes) : endsCRLF (e ++ [LF]) = endsCR e := by
  induction e with
  | nil => rfl
  | cons a r ih =>
    cases r with
    | nil => simp [endsCRLF]
    | cons b r' =>
      have : endsCRLF (a :: b :: r' ++ [LF]) = endsCRLF (b :: r' ++ [LF]) := by
        cases r' <;> rfl
      rw [this, ih]; rfl

/-- the text the round trip returns: a final lone CR is taken for part of the line break -/
def cutFinalCR (e : Bytes) : Bytes := if endsCR e then e.dropLast else e

theorem cutFinalCR_append_CR (e : Bytes) : cutFinalCR (e ++ [CR]) = e := by
  rw [cutFinalCR, endsCR_append_ne_nil e [CR] (by simp)]
  simp

theorem stripLineBreak_append_LF (e : Bytes) :
    (if endsCRLF (e ++ [LF]) then (e ++ [LF]).take ((e ++ [LF]).length - 2)
      else (e ++ [LF]).take ((e ++ [LF]).length - 1)) = cutFinalCR e := by
  rw [endsCRLF_append_LF, cutFinalCR]
  split
  · next h =>
    have : e ++ [LF] = e.dropLast ++ [CR, LF] := by
      conv => lhs; rw [← dropLast_append_CR e h, List.append_assoc]
      rfl
    rw [this, List.length_append]
    exact List.take_left' rfl
  · rw [List.length_append]
    exact List.take_left' rfl

theorem readBodyLoop_skip (out l : Bytes) (ls : List Bytes) (hp : ¬ dashes5 <+: out ++ l)
    (hf : ¬ (LF :: dashes5) <:+: out ++ l) : readBodyLoop out (l :: ls) = readBodyLoop (out ++ l) ls := by
  rw [readBodyLoop, (startsWith_eq_false_iff _ _).mpr hp, rfind_eq_none _ _ (List.cons_ne_nil _ _) hf]
  rfl

theorem readBodyLoop_found (x s : Bytes) (more : List Bytes) (hp : ¬ dashes5 <+: x ++ [LF] ++ s)
    (hs1 : dashes5 <+: s) (hs2 : ¬ (LF :: dashes5) <:+: s) :
    readBodyLoop (x ++ [LF]) (s :: more) = some (cutFinalCR x, s) := by
  have ht : (x ++ LF :: s).take (x.length + 1) = x ++ [LF] := by
    rw [List.append_cons]; exact List.take_left' (List.length_append (as := x))
  have hd : (x ++ LF :: s).drop (x.length + 1) = s := by
    rw [List.append_cons]; exact List.drop_left' (List.length_append (as := x))
  rw [readBodyLoop, (startsWith_eq_false_iff _ _).mpr hp]
  simp only [Bool.false_eq_true, if_false]
  rw [List.append_assoc x, List.singleton_append, rfind_append_cons LF dashes5 x s hs1 hs2]
  simp only [ht, hd, stripLineBreak_append_LF]

/-- the loop over the lines of `x ++ "\n"` and then a line `s` that begins with five dashes.  The two
invariants: `x ++ "\n"` does not begin with `--` (the loop tests the accumulated text, not the line) and
holds no LF followed by `--`; so it stops at `s` and nowhere before -/
theorem readBodyLoop_lines (ls : List Bytes) (out x s : Bytes) (more : List Bytes)
    (hx : out ++ ls.flatten = x ++ [LF])
    (h1 : ∀ z, ¬ [DASH, DASH] <+: x ++ [LF] ++ z)
    (h2 : ¬ [LF, DASH, DASH] <:+: x ++ [LF])
    (hs1 : dashes5 <+: s) (hs2 : ¬ (LF :: dashes5) <:+: s) :
    readBodyLoop out (ls ++ s :: more) = some (cutFinalCR x, s) := by
  have hdd : [DASH, DASH] <+: dashes5 := ⟨[DASH, DASH, DASH], rfl⟩
  have hpat : [LF, DASH, DASH] <+: LF :: dashes5 := ⟨[DASH, DASH, DASH], rfl⟩
  induction ls generalizing out with
  | nil =>
    rw [List.flatten_nil, List.append_nil] at hx
    rw [hx]
    exact readBodyLoop_found x s more (fun e => h1 s (hdd.trans e)) hs1 hs2
  | cons l ls ih =>
    rw [List.flatten_cons, ← List.append_assoc] at hx
    have hpre : out ++ l <+: x ++ [LF] := ⟨ls.flatten, hx⟩
    rw [List.cons_append, readBodyLoop_skip out l _
      (fun e => h1 [] (by rw [List.append_nil]; exact (hdd.trans e).trans hpre))
      (fun e => h2 ((hpat.isInfix.trans e).trans hpre.isInfix))]
    exact ih (out ++ l) hx

theorem splitIncl_head_of_prefix (p z : Bytes) (hp : p ≠ []) (hnl : LF ∉ p) (h : p <+: z) :
    ∃ s more, splitIncl z = s :: more ∧ p <+: s ∧ ∀ y ys, ¬ (LF :: y :: ys) <:+: s := by
  have hl := isLines_splitIncl z
  have hf := splitIncl_flatten z
  cases hz : splitIncl z with
  | nil =>
    rw [hz] at hf
    rw [← hf, List.flatten_nil, List.prefix_nil] at h
    exact absurd h hp
  | cons s more =>
    rw [hz] at hl hf
    refine ⟨s, more, rfl, ?_⟩
    cases hl with
    | last _ _ hs =>
      rw [List.flatten_singleton] at hf
      exact ⟨hf ▸ h, fun y ys hi => hs (hi.subset List.mem_cons_self)⟩
    | cons l _ hl _ =>
      constructor
      · rw [← hf, List.flatten_cons] at h
        rcases List.prefix_or_prefix_of_prefix h (List.prefix_append _ _) with h | h
        · exact h
        · exact absurd (h.subset (List.mem_append_right l List.mem_cons_self)) hnl
      · intro y ys hi
        have := (infix_of_cons_infix_append hi hl).length_le
        simp at this

theorem not_dd_prefix_cons (c : Byte) (hc : c ≠ DASH) (z : Bytes) : ¬ [DASH, DASH] <+: c :: z :=
  fun h => hc (List.cons_prefix_cons.mp h).1.symm

theorem readCleartextBody_of_invariants (x sigBlock : Bytes)
    (h1 : ∀ z, ¬ [DASH, DASH] <+: x ++ [LF] ++ z) (h2 : ¬ [LF, DASH, DASH] <:+: x ++ [LF])
    (hsig : dashes5 <+: sigBlock) :
    (readCleartextBody (x ++ LF :: sigBlock)).map (·.1) = some (cutFinalCR x) := by
  obtain ⟨s, more, hs, hp, hno⟩ :=
    splitIncl_head_of_prefix dashes5 sigBlock (List.cons_ne_nil _ _) (by decide) hsig
  rw [readCleartextBody, splitIncl_append_LF, hs,
    readBodyLoop_lines _ [] x s more (by rw [List.nil_append, splitIncl_flatten]) h1 h2 hp (hno _ _)]
  rfl

/-- the escaped text and the `"\n"` or `"\r\n"` the writer puts behind it -/
theorem readCleartextBody_dashEscape (t y sigBlock : Bytes) (hy : y = [] ∨ y = [CR]) (hsig : dashes5 <+: sigBlock) :
    (readCleartextBody (dashEscape t ++ y ++ LF :: sigBlock)).map (·.1) = some (cutFinalCR (dashEscape t ++ y)) := by
  have hy1 : ∀ z, ¬ [DASH, DASH] <+: y ++ [LF] ++ z := by
    rcases hy with rfl | rfl <;> exact fun z => not_dd_prefix_cons _ (by decide) _
  have hy2 : ¬ [LF, DASH, DASH] <:+: y ++ [LF] := by
    rcases hy with rfl | rfl <;> exact fun h => absurd h.length_le (by decide)
  apply readCleartextBody_of_invariants _ _ _ _ hsig
  · intro z
    rw [List.append_assoc, List.append_assoc, ← List.append_assoc y]
    exact not_dd_prefix_dashEscape t _ (hy1 z)
  · rw [List.append_assoc]
    exact no_LF_dd_dashEscape t _ (by simpa using hy1 []) hy2

theorem armorRoundTripCsf_dashEscape (t sigBlock : Bytes) (hsig : startsWith sigBlock dashes5 = true) :
    armorRoundTripCsf (dashEscape t) sigBlock = some (dashEscape t) := by
  rw [startsWith_iff] at hsig
  unfold armorRoundTripCsf writeBodyAndSig bodyTerminator
  by_cases hcr : endsCR (dashEscape t) = true
  · rw [if_pos hcr, show dashEscape t ++ [CR, LF] ++ sigBlock = dashEscape t ++ [CR] ++ LF :: sigBlock by simp,
      readCleartextBody_dashEscape t [CR] sigBlock (Or.inr rfl) hsig, cutFinalCR_append_CR]
  · rw [if_neg hcr, show dashEscape t ++ [LF] ++ sigBlock = dashEscape t ++ [] ++ LF :: sigBlock by simp,
      readCleartextBody_dashEscape t [] sigBlock (Or.inl rfl) hsig, List.append_nil, cutFinalCR, if_neg hcr]

theorem cutFinalCR_of_not_endsCR (t : Bytes) (h : endsCR t = false) :
    cutFinalCR (dashEscape t) = dashEscape t := by
  unfold cutFinalCR
  rw [endsCR_dashEscape, h]; rfl

/-! ## cleartext sign / verify inputs -/

theorem dataHashed_canon (text : Bool) (d : Bytes) : dataHashed text (canon d) = canon d := by
  cases text
  · rfl
  · exact canon_idem d

theorem signedText_eq (csf : Bytes) : signedText csf = canon (dashUnescapeTrim csf) := by
  unfold signedText
  rw [replaceNewlines_crlf]; rfl

/-- `CleartextSignedMessage::{new, sign}` hash the canonical form of the **trimmed** text -/
theorem signCleartextNew_eq (W k : Nat) (hW : 0 < W) (hk : 0 < k) (kv : Nat) (c : SigCfg) (t : Bytes) :
    signCleartextNew W k kv c t =
      if signAligned kv c.ver && dataSigType c.typ then some (preimage c (canon (trimLines t))) else none := by
  unfold signCleartextNew signCleartextNewChunks
  rw [signConfig_eq, chunksOf_flatten k hk, normalizedRead_eq_canon W hW, dataHashed_canon,
    dashUnescapeTrim_dashEscape]

/-- `CleartextSignedMessage::new_many` (closure signing with `config.sign`) likewise -/
theorem signCleartextMany_eq (k : Nat) (hk : 0 < k) (kv : Nat) (c : SigCfg) (t : Bytes) :
    signCleartextMany k kv c t =
      if signAligned kv c.ver && dataSigType c.typ then some (preimage c (canon (trimLines t))) else none := by
  unfold signCleartextMany
  rw [signConfig_eq, chunksOf_flatten k hk, replaceNewlines_crlf, dashUnescapeTrim_dashEscape,
    show canonGo false (trimLines t) = canon (trimLines t) from rfl, dataHashed_canon]

/-- `CleartextSignedMessage::verify` hashes the canonical form of the unescaped, **trimmed** text -/
theorem verifyCleartext_eq (W : Nat) (hW : 0 < W) (kv : Nat) (c : SigCfg) (csf : Bytes) :
    verifyCleartext W kv c csf =
      if verifyAligned kv c.ver && dataSigType c.typ then some (preimage c (canon (dashUnescapeTrim csf)))
      else none := by
  unfold verifyCleartext
  rw [verifyDetached_eq W hW]
  · rw [signedText_eq]
    by_cases h : canon (dashUnescapeTrim csf) = []
    · simp only [h, if_true, List.flatten_nil]
      rw [← h, dataHashed_canon]
    · simp only [h, if_false, List.flatten_cons, List.flatten_nil, List.append_nil]
      rw [dataHashed_canon]
  · intro x hx
    by_cases h : signedText csf = []
    · simp [h] at hx
    · simp only [h, if_false, List.mem_singleton] at hx
      rw [hx]; exact h

end Rpgp.SV
