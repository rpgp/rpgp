import RpgpProofs.E2EContainer
import RpgpProofs.Policy
import RpgpProps.C18
/-! E2E, session-key packets and the top level.  The SKESK v4 / v6 bodies of C12
(`Sym.Skesk.body4/body6`) parse with C05's `skeskParse` and are opened by the reader side (`skDec`: S2K
of C12, plausibility check of C18); PKESK packets parse with `pkeskParse`; then
`parseTop (ESK packets ‖ SEIPD packet)`: packet splitting, ESK and container parsing, `esk_filter` (C15). -/
namespace Rpgp.E2E
open Rpgp

theorem byte_toNat_toUInt8 (b : Byte) : b.toNat.toUInt8 = b := toNat_toUInt8 b

/-- adapter C05 ↔ C12: the S2K specifier the wire layer parses is the one the derivation layer
serialises -/
theorem specBytes_specOfWire (s : Wire.S2k) (spec : Sym.S2k.Spec) (h : specOfWire s = some spec) :
    Sym.S2k.specBytes spec = Wire.s2kSer s := by
  have e0 : Gen.s2kIdSimple.toUInt8 = 0 := by decide
  have e1 : Gen.s2kIdSalted.toUInt8 = 1 := by decide
  have e3 : Gen.s2kIdIterated.toUInt8 = 3 := by decide
  have e4 : Gen.s2kIdArgon2.toUInt8 = 4 := by decide
  cases s <;> simp only [specOfWire, Option.some.injEq] at h <;> (try cases h) <;>
    simp [Sym.S2k.specBytes, Wire.s2kSer, e0, e1, e3, e4]

/-- key the S2K of recipient `r` derives for cipher `sym` (`[]` when the derivation refuses) -/
def s2kKey (P : Prims) (sym : Nat) (r : PwRcpt) : Bytes :=
  ((specOfWire r.s2k).bind fun spec => Sym.S2k.derive P.sym spec r.pw (Gen.c12SymKeySize sym)).getD []

/-- the SKESK packet of recipient `r` as the reader's parser sees it -/
def skeskOf (P : Prims) (e : Encryption) (r : PwRcpt) : Wire.Skesk :=
  match e.container with
  | .v1 sym _ =>
    .v4 sym.toUInt8 r.s2k
      (P.sym.cfbEnc sym (s2kKey P sym r) (List.replicate (Gen.symBlockSize sym) 0) (sym.toUInt8 :: e.sessionKey))
  | .v2 sym aead _ _ =>
    .v6 sym.toUInt8 aead.toUInt8 r.s2k r.iv
      (P.sym.aead sym aead (Sym.Skesk.kek6 P.sym sym aead (s2kKey P sym r)) r.iv (Sym.Skesk.info6 sym aead) e.sessionKey)

/-- well-formedness of the recipients' part: the cipher octet is a known cipher whose key size is the
session key's, S2K salts have their sizes, the SKESK v6 IV has the AEAD's nonce size -/
structure EskWF (e : Encryption) : Prop where
  sym : e.container.sym < 256 ∧ Gen.symKeySize e.container.sym = e.sessionKey.length ∧ e.sessionKey ≠ []
  pw : ∀ r ∈ e.passwords, Wire.S2kWF r.s2k ∧
    ∀ sym aead cs salt, e.container = .v2 sym aead cs salt →
      aead < 256 ∧ Wire.aeadKnown aead.toUInt8 = true ∧ r.iv.length = Wire.aeadNonceSize aead.toUInt8 ∧
      3 + Wire.s2kWriteLen r.s2k + r.iv.length < 256

theorem specOfWire_not_other (s : Wire.S2k) (spec : Sym.S2k.Spec) (h : specOfWire s = some spec) :
    s.isOther = false := by
  cases s <;> simp [specOfWire] at h <;> rfl

/-- the shape both SKESK writers of C12 have: a refusal, a key derivation, then the packet body -/
theorem guard_bind_some {α β : Type} (g : Bool) (x : Option α) (f : α → β) (b : β)
    (h : (do
      if !g then none
      let k ← x
      pure (f k) : Option β) = some b) : g = true ∧ ∃ k, x = some k ∧ b = f k := by
  cases g
  · cases h
  · cases x with
    | none => cases h
    | some k => exact ⟨rfl, k, rfl, (Option.some.inj h).symm⟩

theorem skeskBody_facts (P : Prims) (L : CryptoLaws P) (e : Encryption) (r : PwRcpt) (b : Bytes)
    (wf : EskWF e) (hr : r ∈ e.passwords) (hb : skeskBody P e r = some b) :
    Wire.skeskSer (skeskOf P e r) = some b ∧ Wire.SkeskWF (skeskOf P e r) ∧
    skDec P (skeskOf P e r) r.pw = some (sessionKeyOf e) := by
  obtain ⟨hs2k, hv2⟩ := wf.pw r hr
  obtain ⟨hsym, hks, hne⟩ := wf.sym
  unfold skeskBody at hb
  cases hspec : specOfWire r.s2k with
  | none => simp [hspec] at hb
  | some spec =>
    simp only [hspec] at hb
    have hsb := specBytes_specOfWire _ _ hspec
    have hno := specOfWire_not_other _ _ hspec
    cases hc : e.container with
    | v1 sym pre =>
      simp only [hc, Container.sym] at hsym hks hb
      have et : sym.toUInt8.toNat = sym := toUInt8_toNat_of_lt sym hsym
      unfold Sym.Skesk.body4 at hb
      obtain ⟨_, key, hd, rfl⟩ := guard_bind_some _ _ _ _ hb
      have hkey : s2kKey P sym r = key := by simp [s2kKey, hspec, hd]
      have e4 : Gen.skesk4WrVersion.toUInt8 = 4 := by decide
      refine ⟨?_, ?_, ?_⟩
      · simp only [skeskOf, hc, hkey, Wire.skeskSer]
        rw [hsb, e4]; rfl
      · simp only [skeskOf, hc, Wire.SkeskWF]
        exact ⟨hs2k, fun h => by rw [hno] at h; cases h⟩
      · simp only [skeskOf, hc, hkey, skDec, hspec, et, hd, sessionKeyOf]
        rw [if_neg (cfbEnc_ne_nil P L _ _ _ _ _), L.cfb_dec_enc]
        have hk0 : e.sessionKey.length ≠ 0 := fun h0 => hne (List.eq_nil_of_length_eq_zero h0)
        simp only [Ring.decodeSkeskV4, et, hk0, hks, if_false, ne_eq, not_true_eq_false]
    | v2 sym aead cs salt =>
      simp only [hc, Container.sym] at hsym hks hb
      obtain ⟨haead, hknown, hiv, hcount⟩ := hv2 sym aead cs salt hc
      have et : sym.toUInt8.toNat = sym := toUInt8_toNat_of_lt sym hsym
      have ea : aead.toUInt8.toNat = aead := toUInt8_toNat_of_lt aead haead
      unfold Sym.Skesk.body6 at hb
      obtain ⟨hE, ikm, hd, rfl⟩ := guard_bind_some _ _ _ _ hb
      have hkey : s2kKey P sym r = ikm := by simp [s2kKey, hspec, hd]
      have e6 : Gen.skesk6WrVersionOctet.toUInt8 = 6 := by decide
      have e3 : Gen.skesk6CountFixed = 3 := rfl
      have hsl : (Sym.S2k.specBytes spec).length = Wire.s2kWriteLen r.s2k := by
        rw [hsb, Wire.s2kSer_length]
      have hweak : spec.weakHash = false := by
        unfold Sym.Skesk.encryptAllowed at hE
        simp only [Bool.and_eq_true, Bool.not_eq_true'] at hE
        exact hE.2
      refine ⟨?_, ?_, ?_⟩
      · simp only [skeskOf, hc, hkey, Wire.skeskSer, hcount, if_true]
        rw [e6, e3, hsl, hsb]; simp
      · simp only [skeskOf, hc, Wire.SkeskWF]
        refine ⟨hs2k, hknown, hiv, ?_, hcount⟩
        rw [L.aead_len]; omega
      · simp only [skeskOf, hc, hkey, skDec, hspec, hweak, et, ea, hd, sessionKeyOf, Bool.false_eq_true, if_false]
        rw [L.aead_open_seal]; rfl

/-! ### PKESK: the public-key law -/

/-- public-key law for recipient key `j` of class `isX`: decrypting what was encrypted to the key
returns the session key (`PlainSecretParams::decrypt ∘ EncryptionKey::encrypt`, both ESK types) -/
def PkLaw (P : Prims) (j : Nat) (isX : Bool) : Prop :=
  (∀ alg sk, alg < 256 → alg ≠ Gen.symIdPlaintext → Gen.symKeySize alg = sk.length →
    P.pkDec j (P.pkEnc j (Ring.prepareSessionKey (some alg) sk isX) false) false = some (.v3_4 alg sk)) ∧
  (∀ sk, P.pkDec j (P.pkEnc j (Ring.prepareSessionKey none sk isX) true) true = some (.v6 sk))

/-- thin adapter to C18's plausibility tail: a key whose `decrypt` is "raw public-key decryption, then
`decodePkSessionKey`" (RSA, ECDH, ElGamal arms of `PlainSecretParams::decrypt`) satisfies `PkLaw`
as soon as the raw operation inverts the raw encryption -/
theorem pkLaw_of_raw (P : Prims) (j : Nat) (raw : Wire.PkeskVals → Option Bytes)
    (hdec : ∀ vals v6, P.pkDec j vals v6 = (raw vals).bind (Ring.decodePkSessionKey v6))
    (hraw : ∀ d v6, raw (P.pkEnc j d v6) = some d) : PkLaw P j false := by
  refine ⟨?_, ?_⟩
  · intro alg sk h1 h2 h3
    rw [hdec, hraw]
    exact C18.prepare_decode_v3 alg sk h1 h2 h3
  · intro sk
    rw [hdec, hraw]
    exact C18.prepare_decode_v6 sk

theorem sym_ne_zero (e : Encryption) (wf : EskWF e) : e.container.sym ≠ Gen.symIdPlaintext := by
  obtain ⟨_, hks, hne⟩ := wf.sym
  intro h0
  rw [h0] at hks
  exact hne (List.eq_nil_of_length_eq_zero hks.symm)

theorem pkVals_eq_pkEnc (P : Prims) (e : Encryption) (r : KeyRcpt) :
    ∃ d, pkVals P e r = P.pkEnc r.key d e.container.isV2 := by
  unfold pkVals
  cases e.container <;> exact ⟨_, rfl⟩

theorem pkDec_pkVals (P : Prims) (e : Encryption) (wf : EskWF e) (r : KeyRcpt) (hlaw : PkLaw P r.key r.isX) :
    P.pkDec r.key (pkVals P e r) e.container.isV2 = some (sessionKeyOf e) := by
  obtain ⟨hsym, hks, _⟩ := wf.sym
  have h0 := sym_ne_zero e wf
  unfold pkVals sessionKeyOf
  cases hc : e.container with
  | v1 sym pre =>
    rw [hc] at hsym hks h0
    exact hlaw.1 sym _ hsym h0 hks
  | v2 sym aead cs salt => exact hlaw.2 _

/-! ### the top level -/

/-- the ESKs of the message as the parser returns them, in packet order: SKESKs, then PKESKs -/
def wireEsks (P : Prims) (e : Encryption) : List WireEsk :=
  e.passwords.map (fun r => .sk (skeskOf P e r)) ++ e.keys.map (fun r => .pk (pkeskPacket P e r))

/-- recipients' part, continued: the PKESK values are in the shape their parser accepts (C05
`PkeskWF`: key id of 8 octets / fingerprint of the version's size, values in the algorithm's shape) and
every ESK packet stays below 2³² octets -/
structure EskPktWF (P : Prims) (e : Encryption) : Prop where
  pk : ∀ r ∈ e.keys, Wire.PkeskWF (pkeskPacket P e r)
  len : ∀ tb ∈ eskBodies P e, ∀ b, tb.2 = some b → b.length < 4294967296

theorem keepEsk_own (P : Prims) (e : Encryption) (inner : Bytes) (w : WireEsk) (hw : w ∈ wireEsks P e) :
    Policy.keepEsk (Policy.filterArgs (seipdContainer (edataOf P e inner))).1
      (Policy.filterArgs (seipdContainer (edataOf P e inner))).2 w.policy = true := by
  unfold wireEsks at hw
  rcases List.mem_append.mp hw with h | h
  · obtain ⟨r, _, rfl⟩ := List.mem_map.mp h
    cases hc : e.container <;> simp only [skeskOf, edataOf, hc, seipdContainer, WireEsk.policy] <;> decide
  · obtain ⟨r, _, rfl⟩ := List.mem_map.mp h
    cases hc : e.container <;> simp only [pkeskPacket, edataOf, hc, seipdContainer, WireEsk.policy] <;> decide

theorem isEskTag_esk (P : Prims) (e : Encryption) : ∀ tb ∈ eskBodies P e, isEskTag tb.1 = true ∧ tb.1 < 64 := by
  intro tb h
  unfold eskBodies at h
  rcases List.mem_append.mp h with h | h <;> obtain ⟨r, _, rfl⟩ := List.mem_map.mp h
  · exact ⟨(by decide : isEskTag Gen.e2eTagSkesk = true), (by decide : Gen.e2eTagSkesk < 64)⟩
  · exact ⟨(by decide : isEskTag Gen.e2eTagPkesk = true), (by decide : Gen.e2eTagPkesk < 64)⟩

theorem eskBodies_all_inv (P : Prims) (e : Encryption) (hall : (eskBodies P e).all (fun tb => tb.2.isSome) = true) :
    (∀ r ∈ e.passwords, ∃ b, skeskBody P e r = some b) ∧
    (∀ r ∈ e.keys, ∃ b, Wire.pkeskSer (pkeskPacket P e r) = some b) := by
  have h := List.all_eq_true.mp hall
  exact ⟨fun r hr => Option.isSome_iff_exists.mp
      (h (Gen.e2eTagSkesk, skeskBody P e r) (List.mem_append_left _ (List.mem_map.mpr ⟨r, hr, rfl⟩))),
    fun r hr => Option.isSome_iff_exists.mp
      (h (Gen.e2eTagPkesk, Wire.pkeskSer (pkeskPacket P e r)) (List.mem_append_right _ (List.mem_map.mpr ⟨r, hr, rfl⟩)))⟩

theorem parseTop_of_split (msg : Bytes) (esks rest : List (Nat × Bytes)) (body : Bytes) (ed : Wire.Seipd)
    (ws : List WireEsk)
    (hsplit : splitPackets (msg.length + 1) msg = some (esks ++ (Gen.e2eTagSeipd, body) :: rest))
    (htags : ∀ p ∈ esks, isEskTag p.1 = true) (hed : Wire.seipdParse body = some ed)
    (hparsed : esks.map parseEsk = ws.map some) :
    parseTop msg = some (.encrypted
      (ws.filter fun e =>
        Policy.keepEsk (Policy.filterArgs (seipdContainer ed)).1 (Policy.filterArgs (seipdContainer ed)).2 e.policy) ed) := by
  have hhead : ∃ h b r, deframe msg = .ok (h, b, r) ∧ (isEskTag h.tag || h.tag == Gen.e2eTagSeipd) = true := by
    cases esks with
    | nil =>
      obtain ⟨h, r, hd, ht⟩ := splitPackets_head _ _ _ _ hsplit
      exact ⟨h, _, r, hd, by rw [ht]; rfl⟩
    | cons p ps =>
      obtain ⟨h, r, hd, ht⟩ := splitPackets_head _ _ _ _ hsplit
      exact ⟨h, _, r, hd, by rw [ht, htags p (List.mem_cons_self ..)]; rfl⟩
  obtain ⟨h0, b0, r0, hd0, ht0⟩ := hhead
  obtain ⟨htw, hdw⟩ := takeWhile_all (fun p : Nat × Bytes => isEskTag p.1) esks rest htags
    (Gen.e2eTagSeipd, body) (by decide : isEskTag Gen.e2eTagSeipd = false)
  have h1 : ((ws.map some).all Option.isSome) = true := by simp
  have h2 : (ws.map some).filterMap id = ws := by simp
  unfold parseTop
  simp only [hd0, ht0, Bool.not_true, Bool.false_eq_true, if_false, hsplit, htw, hdw, ne_eq, not_true_eq_false, hed,
    hparsed, h1, h2, if_true]

/-- no ESK is filtered out: the versions of the builder's ESKs align with its container (`keepEsk_own`) -/
theorem parseTop_encrypted (P : Prims) (L : CryptoLaws P) (o : ReadOpts) (k : Nat) (e : Encryption) (inner : Bytes)
    (wfC : ContainerWF P o k e inner) (wfE : EskWF e) (wfP : EskPktWF P e)
    (hall : (eskBodies P e).all (fun tb => tb.2.isSome) = true) :
    parseTop (((eskBodies P e).map fun tb => fixedPkt tb.1 (tb.2.getD [])).flatten ++ containerPkt P k e inner)
      = some (.encrypted (wireEsks P e) (edataOf P e inner)) := by
  obtain ⟨hsk, hpk⟩ := eskBodies_all_inv P e hall
  let pre : List (Nat × Bytes) := (eskBodies P e).map fun tb => (tb.1, tb.2.getD [])
  have hlen : ∀ tb ∈ eskBodies P e, (tb.2.getD []).length < 4294967296 := by
    intro tb htb
    cases hb : tb.2 with
    | none => exact Nat.zero_lt_succ _
    | some b => exact wfP.len tb htb b hb
  have hsplit := splitPackets_around (fun tb => (tb.1, tb.2.getD [])) id (eskBodies P e) ([] : List (Nat × Bytes))
    (containerPkt P k e inner) (cfgOctets e.container ++ cipherText P e inner) Gen.e2eTagSeipd
    (fun tb htb => ⟨(isEskTag_esk P e tb htb).2, hlen tb htb⟩) nofun (framedAs_containerPkt P o k e inner wfC) _
    (List.append_nil _).symm
  have hparsed : pre.map parseEsk = (wireEsks P e).map some := by
    simp only [pre, eskBodies, wireEsks, List.map_append, List.map_map, Function.comp_def]
    congr 1
    · apply List.map_congr_left
      intro r hr
      obtain ⟨b, hb⟩ := hsk r hr
      obtain ⟨hser, hwf, _⟩ := skeskBody_facts P L e r b wfE hr hb
      simp only [parseEsk, hb, Option.getD_some]
      rw [if_neg (by decide), if_pos trivial, Wire.skesk_parse_ser _ _ hwf hser]
      rfl
    · apply List.map_congr_left
      intro r hr
      obtain ⟨b, hb⟩ := hpk r hr
      simp only [parseEsk, hb, Option.getD_some]
      rw [if_pos trivial, Wire.pkesk_parse_ser _ _ (wfP.pk r hr) hb]
      rfl
  rw [parseTop_of_split _ pre [] _ _ (wireEsks P e) hsplit
      (fun p hp => by obtain ⟨tb, htb, rfl⟩ := List.mem_map.mp hp; exact (isEskTag_esk P e tb htb).1)
    (seipdParse_container P o k e inner wfC) hparsed,
    List.filter_eq_self.mpr (fun w hw => keepEsk_own P e inner w hw)]

end Rpgp.E2E
