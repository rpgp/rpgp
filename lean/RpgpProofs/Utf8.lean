import RpgpModel.Utf8
/-! `Utf8CheckReader`: chunk independence over an abstract valid-up-to function. -/
namespace Rpgp

/-- the prefix laws of a "valid up to" function; they hold of `core::str::from_utf8` (a left to
right scanner over sequences of at most four octets) -/
structure VutLaws (vut : Bytes → Nat) : Prop where
  /-- scanning resumes after a valid prefix -/
  resume : ∀ p q : Bytes, vut p = p.length → vut (p ++ q) = p.length + vut q
  /-- the part before the error position is valid -/
  prefix_valid : ∀ d : Bytes, vut (d.take (vut d)) = vut d
  le : ∀ d : Bytes, vut d ≤ d.length
  /-- the remainder starts at the error position: nothing valid at its head -/
  stuck : ∀ d : Bytes, vut (d.drop (vut d)) = 0
  /-- an error followed by four or more octets is definitive (no sequence is longer than four) -/
  definitive : ∀ d e : Bytes, 4 ≤ d.length - vut d → vut (d ++ e) = vut d

/-- the reader's state after some reads: `good` has been accepted, `rest` is the overhang kept for the
next read; what is still to come decides -/
theorem utf8CheckChunks_spec (vut : Bytes → Nat) (L : VutLaws vut) :
    ∀ (cs : List Bytes) (good rest : Bytes), vut good = good.length → vut rest = 0 →
    (utf8CheckChunks vut rest cs = true ↔
      vut (good ++ rest ++ cs.flatten) = (good ++ rest ++ cs.flatten).length) := by
  intro cs
  induction cs with
  | nil =>
    intro good rest hg hr
    rw [utf8CheckChunks, List.flatten_nil, List.append_nil, L.resume good rest hg, hr, List.length_append,
      List.isEmpty_iff, ← List.length_eq_zero_iff]
    omega
  | cons c cs ih =>
    intro good rest hg hr
    rw [utf8CheckChunks]
    by_cases hc : c.isEmpty
    · rw [if_pos hc, List.isEmpty_iff.mp hc]
      exact ih good rest hg hr
    · rw [if_neg hc, checkUtf8]
      generalize hd : rest ++ c = d
      have hstream : good ++ rest ++ (c :: cs).flatten = good ++ (d ++ cs.flatten) := by
        rw [← hd, List.flatten_cons, List.append_assoc, List.append_assoc]
      rw [hstream]
      have hle := L.le d
      by_cases hsmall : (d.drop (vut d)).length ≤ 3
      · -- the valid part of `d` joins `good`, the overhang is carried on
        have hg' : vut (good ++ d.take (vut d)) = (good ++ d.take (vut d)).length := by
          rw [L.resume _ _ hg, L.prefix_valid, List.length_append, List.length_take, Nat.min_eq_left hle]
        simp only [hsmall, if_true]
        rw [ih _ _ hg' (L.stuck d), List.append_assoc good, List.take_append_drop, List.append_assoc]
      · -- four octets behind the error position: no continuation can make the stream valid
        simp only [hsmall, if_false]
        rw [List.length_drop] at hsmall
        rw [L.resume _ _ hg, L.definitive d _ (by omega)]
        simp only [List.length_append]
        constructor
        · intro h; cases h
        · omega

theorem utf8Check_chunk_independent (vut : Bytes → Nat) (L : VutLaws vut) (hnil : vut [] = 0)
    (cs : List Bytes) :
    utf8CheckChunks vut [] cs = true ↔ vut cs.flatten = cs.flatten.length :=
  utf8CheckChunks_spec vut L cs [] [] hnil hnil

end Rpgp
