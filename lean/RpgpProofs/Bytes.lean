import RpgpModel.Bytes
/-!
# Byte-level arithmetic shared by every layer

`Nat.toUInt8` against `UInt8.toNat`, and the big-endian codec `beBytes` / `beNat` of
`RpgpModel/Bytes.lean` for every width; `be16`, `be32`, `be64` are the instances at 2, 4, 8.
-/
namespace Rpgp

/-! ## `Nat.toUInt8` and `UInt8.toNat` -/

theorem toUInt8_toNat_mod (n : Nat) : n.toUInt8.toNat = n % 256 := by
  simp [Nat.toUInt8]

theorem toUInt8_toNat_of_lt (n : Nat) (h : n < 256) : n.toUInt8.toNat = n := by
  rw [toUInt8_toNat_mod, Nat.mod_eq_of_lt h]

theorem toNat_toUInt8 (b : Byte) : b.toNat.toUInt8 = b := by
  simp [Nat.toUInt8]

theorem toNat_ne_zero (b : Byte) (h : b ≠ 0) : b.toNat ≠ 0 :=
  fun h0 => h (UInt8.toNat_inj.mp h0)

theorem toUInt8_ne_zero (n : Nat) (h1 : 1 ≤ n) (h2 : n ≤ 255) : n.toUInt8 ≠ 0 := fun h => by
  have := congrArg UInt8.toNat h
  rw [toUInt8_toNat_of_lt n (Nat.lt_succ_of_le h2)] at this
  exact absurd this (Nat.ne_of_gt h1)

theorem beq_toUInt8 (t : Byte) (n : Nat) (h : n < 256) : (t == n.toUInt8) = (t.toNat == n) := by
  rw [Bool.eq_iff_iff, beq_iff_eq, beq_iff_eq]
  constructor
  · rintro rfl; exact toUInt8_toNat_of_lt n h
  · rintro rfl; exact (toNat_toUInt8 t).symm

/-! ## `beNat` -/

theorem beNat_nil : beNat [] = 0 := rfl

theorem beNat_foldl (bs : Bytes) (a : Nat) :
    bs.foldl (fun acc b => acc * 256 + b.toNat) a = a * 256 ^ bs.length + beNat bs := by
  induction bs generalizing a with
  | nil => simp [beNat]
  | cons x r ih =>
    simp only [List.foldl_cons, List.length_cons, beNat]
    rw [ih, ih (0 * 256 + x.toNat), Nat.pow_succ, Nat.add_mul, Nat.add_mul]
    simp [Nat.mul_assoc, Nat.mul_comm, Nat.add_assoc]

theorem beNat_cons (x : Byte) (r : Bytes) : beNat (x :: r) = x.toNat * 256 ^ r.length + beNat r := by
  have := beNat_foldl r (0 * 256 + x.toNat)
  simpa [beNat] using this

theorem beNat_append (a b : Bytes) : beNat (a ++ b) = beNat a * 256 ^ b.length + beNat b := by
  induction a with
  | nil => simp [beNat_nil]
  | cons x r ih =>
    rw [List.cons_append, beNat_cons, beNat_cons, ih, List.length_append, Nat.pow_add, Nat.add_mul]
    simp [Nat.mul_assoc, Nat.add_assoc]

theorem beNat_lt (bs : Bytes) : beNat bs < 256 ^ bs.length := by
  induction bs with
  | nil => simp [beNat]
  | cons x r ih =>
    rw [beNat_cons, List.length_cons, Nat.pow_succ, Nat.mul_comm _ 256]
    have : (x.toNat + 1) * 256 ^ r.length ≤ 256 * 256 ^ r.length :=
      Nat.mul_le_mul_right _ x.toNat_lt
    rw [Nat.add_mul] at this
    omega

theorem beNat_append_mod (a d : Bytes) : beNat (a ++ d) % 256 ^ d.length = beNat d := by
  rw [beNat_append, Nat.mul_comm, Nat.mul_add_mod, Nat.mod_eq_of_lt (beNat_lt d)]

theorem beNat_append_div (a d : Bytes) : beNat (a ++ d) / 256 ^ d.length = beNat a := by
  have hp : 0 < 256 ^ d.length := Nat.pow_pos (by decide)
  rw [beNat_append, Nat.mul_comm, Nat.mul_add_div hp, Nat.div_eq_of_lt (beNat_lt d), Nat.add_zero]

theorem beNat_two (a b : Byte) : beNat [a, b] = a.toNat * 256 + b.toNat := by
  simp [beNat]

theorem beNat_three (a b c : Byte) : beNat [a, b, c] = a.toNat * 65536 + b.toNat * 256 + c.toNat := by
  simp [beNat]; omega

theorem beNat_four (a b c d : Byte) :
    beNat [a, b, c, d] = a.toNat * 16777216 + b.toNat * 65536 + c.toNat * 256 + d.toNat := by
  simp [beNat]; omega

/-! ## `beBytes` is the inverse of `beNat` on every width -/

theorem beBytes_length (k n : Nat) : (beBytes k n).length = k := by
  induction k with
  | zero => rfl
  | succ k ih => simp [beBytes, ih]

theorem beNat_beBytes (k n : Nat) : beNat (beBytes k n) = n % 256 ^ k := by
  induction k with
  | zero => simp [beBytes, beNat, Nat.mod_one]
  | succ j ih =>
    rw [beBytes, beNat_cons, ih, beBytes_length, toUInt8_toNat_of_lt _ (Nat.mod_lt _ (by decide)),
      Nat.pow_succ, Nat.mod_mul, Nat.mul_comm]
    omega

theorem beNat_beBytes_of_lt {k n : Nat} (h : n < 256 ^ k) : beNat (beBytes k n) = n := by
  rw [beNat_beBytes, Nat.mod_eq_of_lt h]

theorem beNat_inj {a b : Bytes} (hl : a.length = b.length) (h : beNat a = beNat b) : a = b := by
  induction a generalizing b with
  | nil => cases b with
    | nil => rfl
    | cons _ _ => simp at hl
  | cons x r ih =>
    cases b with
    | nil => simp at hl
    | cons y s =>
      have hl' : r.length = s.length := by simpa using hl
      have hd := beNat_append_div [x] r
      have hm := beNat_append_mod [x] r
      rw [List.singleton_append, h, hl'] at hd hm
      rw [← List.singleton_append, beNat_append_div] at hd
      rw [← List.singleton_append, beNat_append_mod] at hm
      have hx : y = x := UInt8.toNat_inj.mp (by simpa [beNat] using hd)
      rw [hx, ih hl' hm.symm]

theorem beBytes_beNat (bs : Bytes) : beBytes bs.length (beNat bs) = bs :=
  beNat_inj (beBytes_length _ _) (beNat_beBytes_of_lt (beNat_lt bs))

theorem beBytes_inj {k n m : Nat} (hn : n < 256 ^ k) (hm : m < 256 ^ k) (h : beBytes k n = beBytes k m) :
    n = m := by
  have := congrArg beNat h
  rwa [beNat_beBytes_of_lt hn, beNat_beBytes_of_lt hm] at this

/-! ## the widths in use -/

theorem be16_eq (n : Nat) : be16 n = [(n / 256 % 256).toUInt8, (n % 256).toUInt8] := by
  simp [be16, beBytes]

theorem be32_eq (n : Nat) : be32 n =
    [(n / 16777216 % 256).toUInt8, (n / 65536 % 256).toUInt8, (n / 256 % 256).toUInt8, (n % 256).toUInt8] := by
  simp [be32, beBytes]

theorem be16_length (n : Nat) : (be16 n).length = 2 := beBytes_length 2 n
theorem be32_length (n : Nat) : (be32 n).length = 4 := beBytes_length 4 n
theorem be64_length (n : Nat) : (be64 n).length = 8 := beBytes_length 8 n

theorem beNat_be16 (n : Nat) (h : n < 65536) : beNat (be16 n) = n := beNat_beBytes_of_lt (k := 2) h
theorem beNat_be32 (n : Nat) (h : n < 4294967296) : beNat (be32 n) = n := beNat_beBytes_of_lt (k := 4) h
theorem beNat_be64 (n : Nat) (h : n < 18446744073709551616) : beNat (be64 n) = n :=
  beNat_beBytes_of_lt (k := 8) h

theorem be16_beNat (h : Bytes) (hl : h.length = 2) : be16 (beNat h) = h := by
  rw [be16, ← hl, beBytes_beNat]

theorem be32_beNat (h : Bytes) (hl : h.length = 4) : be32 (beNat h) = h := by
  rw [be32, ← hl, beBytes_beNat]

theorem beNat_two_lt (h : Bytes) (hl : h.length = 2) : beNat h < 65536 := by
  have := beNat_lt h; rwa [hl] at this

theorem beNat_four_lt (h : Bytes) (hl : h.length = 4) : beNat h < 4294967296 := by
  have := beNat_lt h; rwa [hl] at this

theorem be16_inj (n m : Nat) (hn : n < 65536) (hm : m < 65536) (h : be16 n = be16 m) : n = m :=
  beBytes_inj (k := 2) hn hm h

theorem be32_inj (n m : Nat) (hn : n < 4294967296) (hm : m < 4294967296) (h : be32 n = be32 m) : n = m :=
  beBytes_inj (k := 4) hn hm h

theorem be64_inj (n m : Nat) (hn : n < 18446744073709551616) (hm : m < 18446744073709551616)
    (h : be64 n = be64 m) : n = m :=
  beBytes_inj (k := 8) hn hm h

theorem beBytes_three (n : Nat) :
    beBytes 3 n = [(n / 65536 % 256).toUInt8, (n / 256 % 256).toUInt8, (n % 256).toUInt8] := by
  simp [beBytes]

end Rpgp
