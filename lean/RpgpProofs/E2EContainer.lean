import RpgpModel.E2E
import RpgpProofs.Message
import RpgpProofs.Seipd1
import RpgpProofs.Seipd2
import RpgpProofs.SymEnc
import RpgpProofs.Wire
/-! E2E, the encrypted container.  Adapters between the *writer* models of C12
(`Sym.Seipd1.stream`, `Sym.Seipd2.encrypt`, over `Sym.Prims`) and the *reader* models of C03
(`seipd1CheckFirst`, `seipd2Decrypt`, over an abstract `Aead` / the CFB-decrypted stream), then
`openContainer (container) (session key) = plaintext`. -/
namespace Rpgp.E2E
open Rpgp

/-- primitive laws used by the container and the session-key packets -/
structure CryptoLaws (P : Prims) : Prop where
  cfb_dec_enc : ∀ alg key iv x, P.cfbDec alg key iv (P.sym.cfbEnc alg key iv x) = x
  cfb_online : ∀ alg key iv, Sym.Online (P.sym.cfbEnc alg key iv)
  sha1_len : ∀ x, 20 ≤ (P.sym.hash Sym.sha1Id x).length
  aead_len : ∀ s m k n ad p, (P.sym.aead s m k n ad p).length = p.length + 16
  aead_open_seal : ∀ s m k n ad p, P.aeadOpen s m k n ad (P.sym.aead s m k n ad p) = some p
  aead_open_len : ∀ s m k n ad c p, P.aeadOpen s m k n ad c = some p → c.length = p.length + 16

/-- correctness laws of the primitives (nothing else is assumed about them): CFB⁻¹ ∘ CFB = id, CFB is
online and length preserving, a SHA-1 digest has at least 20 octets (`sha1Of` takes 20), AEAD
open ∘ seal = id with 16-octet tags, decompress ∘ compress = id, verify (sign d) d -/
structure Laws (P : Prims) : Prop where
  crypto : CryptoLaws P
  decompress_compress : ∀ a x, P.decompress a (P.compress a x) = some x
  verify_sign : ∀ key d, P.pkVerify key d (P.pkSign key d) = true

theorem cfbEnc_ne_nil (P : Prims) (L : CryptoLaws P) (alg : Nat) (key iv : Bytes) (a : Byte) (x : Bytes) :
    P.sym.cfbEnc alg key iv (a :: x) ≠ [] := by
  intro h0
  have := (L.cfb_online alg key iv).len (a :: x)
  rw [h0] at this; cases this

theorem aeadOf_laws (P : Prims) (L : CryptoLaws P) (sym mode : Nat) (mk n0 : Bytes) :
    AeadLaws (aeadOf P sym mode mk n0) 16 :=
  ⟨fun _ _ _ => L.aead_len .., fun _ _ _ => L.aead_open_seal .., fun _ _ _ _ h => L.aead_open_len _ _ _ _ _ _ _ h⟩

/-! ### SEIPDv2: the writer of C12 is the encryptor the reader of C03 was proved against -/

theorem chunks_eq_sealChunks (P : Prims) (sym mode : Nat) (mk n0 inf : Bytes) (csz total : Nat) :
    ∀ (i : Nat) (pt : Bytes),
      Sym.Seipd2.chunks P.sym sym mode mk n0 inf csz total i pt =
        (sealChunks (aeadOf P sym mode mk n0) inf i (chunksOf csz pt)).flatten ++
          (aeadOf P sym mode mk n0).aeadEnc (i + (chunksOf csz pt).length) (inf ++ be64 total) [] := by
  intro i pt
  fun_induction Sym.Seipd2.chunks P.sym sym mode mk n0 inf csz total i pt with
  | case1 i pt h =>
    rw [chunksOf, dif_pos h]
    simp [sealChunks, aeadOf]
  | case2 i pt h ih =>
    rw [chunksOf, dif_neg h]
    simp only [sealChunks, List.flatten_cons, List.length_cons, List.append_assoc, ih]
    simp only [aeadOf]
    rw [show i + 1 + (chunksOf csz (List.drop csz pt)).length = i + ((chunksOf csz (List.drop csz pt)).length + 1) by omega]

theorem seipd2_writer_eq (P : Prims) (sym mode cs : Nat) (salt key pt : Bytes) :
    Sym.Seipd2.encrypt P.sym sym mode cs salt key pt =
      seipd2Encrypt
        (aeadOf P sym mode (Sym.Seipd2.split sym mode (Sym.Seipd2.okm P.sym sym mode cs salt key)).1
          (Sym.Seipd2.split sym mode (Sym.Seipd2.okm P.sym sym mode cs salt key)).2)
        (Sym.Seipd2.info sym mode cs) (Sym.Seipd2.chunkBytes cs) pt := by
  unfold Sym.Seipd2.encrypt seipd2Encrypt seipd2Blocks
  simp only [chunks_eq_sealChunks, Nat.zero_add, List.flatten_append, List.flatten_cons, List.flatten_nil,
    List.append_nil]

theorem chunkBytes_pos (cs : Nat) : 0 < Sym.Seipd2.chunkBytes cs := by
  unfold Sym.Seipd2.chunkBytes
  rw [Nat.shiftLeft_eq, Nat.one_mul]
  exact Nat.pow_pos (by decide)

/-! ### SEIPDv1: the CFB plaintext the writer of C12 lays out is the one the reader of C03 accepts -/

theorem sha1Of_length (P : Prims) (L : CryptoLaws P) (x : Bytes) : (sha1Of P x).length = 20 := by
  unfold sha1Of
  rw [List.length_take, Nat.min_eq_left (L.sha1_len x)]

theorem layout_eq_seipd1Plain (P : Prims) (pre pt : Bytes) :
    Sym.Seipd1.layout P.sym pre pt = seipd1Plain (sha1Of P) (Sym.Seipd1.prefixed pre) pt :=
  Sym.Seipd1.layout_eq_plain P.sym pre pt

/-! ### the container -/

/-- well-formedness of the encryption part of a configuration against one plaintext `inner`:
algorithm octets are octets, the SEIPDv1 prefix has the cipher's block size, the SEIPDv2 salt is 32
octets and the chunk octet admissible, the packet stays below 2³² octets, and the plaintext fits the
reader's `max_message_size` (SEIPDv1 `CheckFirst`) -/
structure ContainerWF (P : Prims) (o : ReadOpts) (k : Nat) (e : Encryption) (inner : Bytes) : Prop where
  k : 9 ≤ k ∧ k ≤ 30
  len : (cfgOctets e.container).length + (cipherText P e inner).length < 4294967296
  v1 : ∀ sym pre, e.container = .v1 sym pre →
    pre.length = Gen.symBlockSize sym ∧ inner.length + 22 ≤ o.maxV1
  v2 : ∀ sym aead cs salt, e.container = .v2 sym aead cs salt →
    sym < 256 ∧ aead < 256 ∧ cs ≤ Gen.chunkSizeMax ∧ salt.length = 32

theorem cfgOctets_length_le (ct : Container) (h2 : ∀ sym aead cs salt, ct = .v2 sym aead cs salt → salt.length = 32) :
    (cfgOctets ct).length ≤ 512 := by
  cases ct with
  | v1 s p => exact Nat.le_add_left 1 511
  | v2 s a c salt =>
    simp only [cfgOctets, List.length_append, List.length_cons, List.length_nil, h2 s a c salt rfl]
    decide

theorem framedAs_containerPkt (P : Prims) (o : ReadOpts) (k : Nat) (e : Encryption) (inner : Bytes)
    (wf : ContainerWF P o k e inner) :
    FramedAs Gen.e2eTagSeipd (cfgOctets e.container ++ cipherText P e inner) (containerPkt P k e inner) :=
  framedAs_emitPartial Gen.e2eTagSeipd k _ _ (by decide) wf.k
    (le_two_pow_of_le_512 (cfgOctets_length_le _ (fun s a c salt h => (wf.v2 s a c salt h).2.2.2)) wf.k.1) wf.len

/-- the container the builder configured, as the reader's parser (C05 `seipdParse`) returns it -/
def edataOf (P : Prims) (e : Encryption) (inner : Bytes) : Wire.Seipd :=
  match e.container with
  | .v1 .. => .v1 (cipherText P e inner)
  | .v2 sym aead cs salt => .v2 sym.toUInt8 aead.toUInt8 cs.toUInt8 salt (cipherText P e inner)

theorem seipdParse_container (P : Prims) (o : ReadOpts) (k : Nat) (e : Encryption) (inner : Bytes)
    (wf : ContainerWF P o k e inner) :
    Wire.seipdParse (cfgOctets e.container ++ cipherText P e inner) = some (edataOf P e inner) := by
  cases hc : e.container with
  | v1 sym pre =>
    have : cfgOctets (.v1 sym pre) ++ cipherText P e inner = Wire.seipdSer (.v1 (cipherText P e inner)) := by
      simp [cfgOctets, Wire.seipdSer]; decide
    rw [this, Wire.seipd_parse_ser (.v1 (cipherText P e inner)) trivial]
    simp [edataOf, hc]
  | v2 sym aead cs salt =>
    obtain ⟨_, _, hcs, hsalt⟩ := wf.v2 sym aead cs salt hc
    have : cfgOctets (.v2 sym aead cs salt) ++ cipherText P e inner =
        Wire.seipdSer (.v2 sym.toUInt8 aead.toUInt8 cs.toUInt8 salt (cipherText P e inner)) := by
      simp [cfgOctets, Wire.seipdSer]; decide
    have hcm : Gen.chunkSizeMax = 16 := rfl
    have hcs' : cs.toUInt8.toNat ≤ Gen.chunkSizeMax := by
      rw [toUInt8_toNat_of_lt cs (by omega)]; exact hcs
    rw [this, Wire.seipd_parse_ser (.v2 sym.toUInt8 aead.toUInt8 cs.toUInt8 salt (cipherText P e inner)) ⟨hcs', hsalt⟩]
    simp [edataOf, hc]

theorem openContainer_edataOf (P : Prims) (L : CryptoLaws P) (o : ReadOpts) (k : Nat) (e : Encryption)
    (inner : Bytes) (wf : ContainerWF P o k e inner) (hsk : sessionKeyOk e = true) :
    openContainer P o (edataOf P e inner) (sessionKeyOf e) = some inner := by
  cases hc : e.container with
  | v1 sym pre =>
    obtain ⟨hpre, hmax⟩ := wf.v1 sym pre hc
    simp only [edataOf, sessionKeyOf, cipherText, hc, openContainer]
    rw [Sym.Seipd1.stream_eq_encrypt P.sym sym e.sessionKey pre inner Gen.seBufferSize (by decide)
      (L.cfb_online _ _ _)]
    unfold Sym.Seipd1.encrypt
    rw [L.cfb_dec_enc, layout_eq_seipd1Plain]
    exact seipd1CheckFirst_roundtrip (sha1Of P) (sha1Of_length P L) _ _ _ _
      (by rw [Sym.prefixed_length, hpre]) hmax
  | v2 sym aead cs salt =>
    obtain ⟨hsym, haead, hcs, _⟩ := wf.v2 sym aead cs salt hc
    have hcm : Gen.chunkSizeMax = 16 := rfl
    have e1 : sym.toUInt8.toNat = sym := toUInt8_toNat_of_lt sym hsym
    have e2 : aead.toUInt8.toNat = aead := toUInt8_toNat_of_lt aead haead
    have e3 : cs.toUInt8.toNat = cs := toUInt8_toNat_of_lt cs (by omega)
    have hkl : e.sessionKey.length = Gen.c12SymKeySize sym := by
      simpa [sessionKeyOk, hc] using hsk
    simp only [edataOf, sessionKeyOf, cipherText, hc, openContainer, e1, e2, e3, hkl, ne_eq, not_true_eq_false,
      if_false]
    rw [seipd2_writer_eq, seipd2Decrypt_encrypt _ (aeadOf_laws P L ..) _ _ (chunkBytes_pos cs)]
    simp

end Rpgp.E2E
