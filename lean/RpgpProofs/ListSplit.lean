/-! Cutting a list that is known as a concatenation: used by the stream decryptors, which read
their input through a buffer. -/
namespace Rpgp

theorem take_drop_of_append_eq {α} {buf rest X Y : List α} {n : Nat} (h : buf ++ rest = X ++ Y)
    (hb : n ≤ buf.length) (hx : n ≤ X.length) :
    buf.take n = X.take n ∧ buf.drop n ++ rest = X.drop n ++ Y := by
  have ht := congrArg (List.take n) h
  have hd := congrArg (List.drop n) h
  rw [List.take_append_of_le_length hb, List.take_append_of_le_length hx] at ht
  rw [List.drop_append_of_le_length hb, List.drop_append_of_le_length hx] at hd
  exact ⟨ht, hd⟩

theorem exists_append3_of_length_le {α} (d : List α) (a b : Nat) (h : a + b ≤ d.length) :
    ∃ x y z, d = x ++ (y ++ z) ∧ x.length = a ∧ z.length = b := by
  refine ⟨d.take a, (d.drop a).take (d.length - a - b), (d.drop a).drop (d.length - a - b), ?_, ?_, ?_⟩
  · rw [List.take_append_drop, List.take_append_drop]
  · rw [List.length_take, Nat.min_eq_left (Nat.le_trans (Nat.le_add_right a b) h)]
  · rw [List.length_drop, List.length_drop, Nat.sub_sub_self (Nat.le_sub_of_add_le' h)]

theorem exists_append_of_length_le {α} (d : List α) (b : Nat) (h : b ≤ d.length) :
    ∃ y z, d = y ++ z ∧ z.length = b :=
  ⟨d.take (d.length - b), d.drop (d.length - b), (List.take_append_drop _ _).symm, by
    rw [List.length_drop, Nat.sub_sub_self h]⟩

end Rpgp
