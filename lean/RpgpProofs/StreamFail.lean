import RpgpModel.StreamFail
import RpgpProofs.Stream
/-! The stream encryptor that is polled again after a failure (C09). -/
namespace Rpgp

theorem released_fails (l : List Nat) : released (l.map fun _ => RdRes.fail) = [] := by
  induction l with
  | nil => rfl
  | cons _ t ih => exact ih

variable (B fuel : Nat) (enc : Bytes → Bytes) (trailer : Bytes)

theorem encRead_failed (st : EncSt) (src : List Ev) (n : Nat) (h : st.failed = true) :
    encRead B fuel enc trailer st src n = (.fail, st, src) := by
  rw [encRead, if_pos h]

theorem encPoll_failed : ∀ (reqs : List Nat) (st : EncSt) (src : List Ev), st.failed = true →
    encPoll B fuel enc trailer st src reqs = reqs.map fun _ => RdRes.fail
  | [], _, _, _ => rfl
  | n :: t, st, src, h => by
    rw [encPoll, encRead_failed B fuel enc trailer st src n h, List.map_cons, encPoll_failed t st src h]

/-- what the encryptor hands out when nothing fails and the consumer asks `k` more times -/
def encStream : Nat → List Ev → Bytes
  | 0, _ => []
  | k + 1, src =>
    match fillBufferEv fuel src B with
    | none => []
    | some (got, src') => if got.isEmpty then trailer else enc got ++ encStream k src'

theorem encStream_mono : ∀ (k : Nat) (src : List Ev),
    encStream B fuel enc trailer k src <+: encStream B fuel enc trailer (k + 1) src
  | 0, _ => List.nil_prefix
  | k + 1, src => by
    rw [encStream, encStream]
    split
    · exact List.prefix_refl _
    · split
      · exact List.prefix_refl _
      · exact (List.prefix_append_right_inj _).mpr (encStream_mono k _)

/-- one `read` of an encryptor that has not failed: either it fails and the encryptor is failed from
then on, or what it hands out followed by what is pending afterwards was pending before -/
theorem encRead_step (st : EncSt) (src : List Ev) (n k : Nat) (hf : st.failed = false) :
    match encRead B fuel enc trailer st src n with
    | (.fail, st', _) => st'.failed = true
    | (.bytes b, st', src') => st'.failed = false ∧
        b ++ (st'.buf ++ if st'.srcDone then [] else encStream B fuel enc trailer k src') <+:
          st.buf ++ if st.srcDone then [] else encStream B fuel enc trailer (k + 1) src := by
  obtain ⟨buf, sd, fl⟩ := st
  cases hf
  rw [encRead, if_neg Bool.false_ne_true]
  match buf, sd with
  | x :: xs, sd =>
    refine ⟨rfl, take_append_prefix n ((List.prefix_append_right_inj _).mpr ?_)⟩
    cases sd
    · exact encStream_mono B fuel enc trailer k src
    · exact List.prefix_refl _
  | [], true => exact ⟨rfl, List.prefix_refl _⟩
  | [], false =>
    simp only [List.isEmpty_nil, Bool.not_true, Bool.false_eq_true, if_false, encStream, List.nil_append]
    match fillBufferEv fuel src B with
    | none => rfl
    | some (got, src') =>
      by_cases hg : got.isEmpty = true
      · simp only [hg, if_true, List.append_nil, List.take_append_drop]
        exact ⟨trivial, List.prefix_refl _⟩
      · simp only [hg, Bool.false_eq_true, if_false, ← List.append_assoc, List.take_append_drop]
        exact ⟨trivial, List.prefix_refl _⟩

theorem encRead_fail_sets_failed (st : EncSt) (src : List Ev) (n : Nat)
    (h : (encRead B fuel enc trailer st src n).1 = .fail) :
    (encRead B fuel enc trailer st src n).2.1.failed = true := by
  by_cases hf : st.failed = true
  · rw [encRead_failed B fuel enc trailer st src n hf]; exact hf
  · have := encRead_step B fuel enc trailer st src n 0 (Bool.not_eq_true _ ▸ hf)
    generalize encRead B fuel enc trailer st src n = r at h this
    obtain ⟨res, st', src'⟩ := r
    cases h
    exact this

theorem encPoll_after_fail : ∀ (reqs : List Nat) (st : EncSt) (src : List Ev) (pre post : List RdRes),
    encPoll B fuel enc trailer st src reqs = pre ++ RdRes.fail :: post → ∀ r ∈ post, r = RdRes.fail
  | [], _, _, pre, _, h => by cases pre <;> cases h
  | n :: t, st, src, [], post, h => by
    obtain ⟨h1, h2⟩ := List.cons.inj h
    rw [encPoll_failed B fuel enc trailer t _ _ (encRead_fail_sets_failed B fuel enc trailer st src n h1)] at h2
    intro r hr
    rw [← h2] at hr
    obtain ⟨_, _, rfl⟩ := List.mem_map.mp hr
    rfl
  | n :: t, st, src, p :: pre', post, h => encPoll_after_fail t _ _ pre' post (List.cons.inj h).2

theorem encPoll_released : ∀ (reqs : List Nat) (st : EncSt) (src : List Ev), st.failed = false →
    released (encPoll B fuel enc trailer st src reqs) <+:
      st.buf ++ (if st.srcDone then [] else encStream B fuel enc trailer reqs.length src)
  | [], _, _, _ => List.nil_prefix
  | n :: t, st, src, hf => by
    have hstep := encRead_step B fuel enc trailer st src n t.length hf
    rw [encPoll]
    generalize encRead B fuel enc trailer st src n = r at hstep
    obtain ⟨res, st', src'⟩ := r
    cases res with
    | fail =>
      rw [released, encPoll_failed B fuel enc trailer t st' src' hstep, released_fails]
      exact List.nil_prefix
    | bytes b =>
      exact ((List.prefix_append_right_inj b).mpr (encPoll_released t st' src' hstep.1)).trans hstep.2

theorem encStream_sound : ∀ (k : Nat) (src : List Ev), ∃ segs : List Bytes,
    segs.flatten <+: evPrefix src ∧ (∀ s ∈ segs, s ≠ [] ∧ s.length ≤ B) ∧
    (encStream B fuel enc trailer k src = (segs.map enc).flatten ∨
     encStream B fuel enc trailer k src = (segs.map enc).flatten ++ trailer)
  | 0, _ => ⟨[], List.nil_prefix, fun _ h => (nomatch h), .inl rfl⟩
  | k + 1, src => by
    rw [encStream]
    match hfb : fillBufferEv fuel src B with
    | none => exact ⟨[], List.nil_prefix, fun _ h => (nomatch h), .inl rfl⟩
    | some (got, src') =>
      obtain ⟨_, hpre, hlen⟩ := fillBufferEv_conserves fuel src B got src' hfb
      by_cases hg : got.isEmpty = true
      · exact ⟨[], List.nil_prefix, fun _ h => (nomatch h), .inr (by simp only [hg, if_true]; rfl)⟩
      · obtain ⟨segs, hs1, hs2, hs3⟩ := encStream_sound k src'
        refine ⟨got :: segs, ?_, ?_, ?_⟩
        · rw [List.flatten_cons, hpre]
          exact (List.prefix_append_right_inj _).mpr hs1
        · intro s hs
          rcases List.mem_cons.mp hs with rfl | hs
          · exact ⟨fun h0 => hg (h0 ▸ rfl), hlen⟩
          · exact hs2 s hs
        · simp only [hg, Bool.false_eq_true, if_false, List.map_cons, List.flatten_cons, List.append_assoc]
          exact hs3.imp (congrArg _) (congrArg _)

end Rpgp
