import RpgpModel.Fingerprint
import RpgpProofs.Mpi
/-!
# Key packet bodies and fingerprints (`RpgpModel/Fingerprint.lean`), for `RpgpProps/C13.lean`

A round trip at each level — field, material, packet body — in both directions: what the writer
emits for a conforming value (`Conf`, `ConfAll`, `WF`) the reader returns, and whatever the reader
returns conforms.  The same for a writer that pads MPIs with zero octets (`serMaterialPad`).
-/
namespace Rpgp

/-! ## the MPI codec is the one of `RpgpModel/KeyGen.lean`, whose lemmas are in `RpgpProofs/Mpi.lean` -/

theorem stripZeros_eq : stripZeros = KeyGen.stripZeros := by
  funext b
  induction b with
  | nil => rfl
  | cons x r ih => rw [stripZeros, KeyGen.stripZeros, ih]

theorem clz8_eq : clz8 = KeyGen.clz8 := rfl

theorem bitSize_eq : bitSize = KeyGen.bitSize := rfl

theorem mpiSer_eq : mpiSer = KeyGen.mpiWrite := rfl

theorem mpiParse_eq : mpiParse = KeyGen.mpiRead := by
  funext inp
  unfold mpiParse KeyGen.mpiRead
  rw [stripZeros_eq]; rfl

theorem normalized_iff (b : Bytes) : KeyGen.Normalized b ↔ stripZeros b = b :=
  stripZeros_eq ▸ KeyGen.normalized_iff b

theorem stripZeros_idem (b : Bytes) : stripZeros (stripZeros b) = stripZeros b :=
  stripZeros_eq ▸ KeyGen.stripZeros_idem b

theorem beNat_stripZeros (b : Bytes) : beNat (stripZeros b) = beNat b :=
  stripZeros_eq ▸ KeyGen.beNat_stripZeros b

theorem clz8_le (b : Byte) : clz8 b ≤ 8 := KeyGen.clz8_le b

/-- 2048 octets = 16384 bits, the reader's limit `MAX_EXTERN_MPI_BITS` -/
theorem mpiParse_mpiSer (b rest : Bytes) (hn : stripZeros b = b) (hl : b.length ≤ 2048) :
    mpiParse (mpiSer b ++ rest) = some (b, rest) :=
  mpiParse_eq ▸ KeyGen.mpiRead_mpiWrite_normalized b rest ((normalized_iff b).mpr hn) hl

theorem mpiParse_leading_zeros (b rest : Bytes) (z bits : Nat) (hn : stripZeros b = b)
    (hbits : (bits + 7) / 8 = z + b.length) (hmax : bits ≤ 16384) :
    mpiParse (be16 bits ++ List.replicate z 0 ++ b ++ rest) = some (b, rest) := by
  rw [mpiParse_eq, List.append_assoc (be16 bits),
    KeyGen.mpiRead_be16 bits _ rest hmax (by rw [List.length_append, List.length_replicate, hbits]),
    KeyGen.stripZeros_replicate_append z b ((normalized_iff b).mpr hn)]

/-! ## fields -/

/-- a stored field is one the reader of kind `k` can return -/
def Conf (hint : Option Nat) : Kind → Field → Prop
  | .mpi, .mpi b => stripZeros b = b ∧ b.length ≤ 2048
  | .lp, .lp bs => bs.length < 256
  | .fixed n, .raw bs => bs.length = n
  | .kdf, .raw bs => ∃ h s, bs = [3, 1, h, s]
  | .rest, .raw bs => match hint with
    | none => True
    | some n => bs.length = n
  | _, _ => False

def ConfAll (hint : Option Nat) : List Kind → Material → Prop
  | [], [] => True
  | k :: ks, f :: fs => Conf hint k f ∧ ConfAll hint ks fs
  | _, _ => False

theorem takeN_append (bs rest : Bytes) : takeN bs.length (bs ++ rest) = some (bs, rest) := by
  simp [takeN]

theorem takeN_spec {n : Nat} {inp bs r : Bytes} (h : takeN n inp = some (bs, r)) :
    bs.length = n ∧ inp = bs ++ r := by
  unfold takeN at h
  split at h
  · cases h
  · cases h
    exact ⟨List.length_take_of_le (by omega), (List.take_append_drop n inp).symm⟩

theorem parseField_serField (hint : Option Nat) (k : Kind) (f : Field) (rest : Bytes)
    (hc : Conf hint k f) (hr : k = .rest → hint = none → rest = []) :
    parseField hint k (serField f ++ rest) = some (f, rest) := by
  cases k <;> cases f <;> simp only [Conf] at hc
  case mpi.mpi b =>
    rw [parseField, serField, mpiParse_mpiSer b rest hc.1 hc.2]
  case lp.lp bs =>
    rw [serField, List.cons_append, parseField, toUInt8_toNat_of_lt _ hc, takeN_append]
  case fixed.raw n bs =>
    rw [parseField, serField, ← hc, takeN_append]
  case kdf.raw bs =>
    obtain ⟨h, s, rfl⟩ := hc
    rfl
  case rest.raw bs =>
    cases hint with
    | none => rw [hr rfl rfl, serField, List.append_nil]; rfl
    | some n => rw [parseField, serField, ← hc, takeN_append]

theorem parseField_spec (hint : Option Nat) (k : Kind) (inp : Bytes) (f : Field) (r : Bytes)
    (h : parseField hint k inp = some (f, r)) :
    Conf hint k f ∧ (serField f).length + r.length ≤ inp.length := by
  cases k
  case mpi =>
    rw [parseField] at h
    split at h
    · rename_i b r' hm
      cases h
      obtain ⟨h1, h2, h3⟩ := KeyGen.mpiRead_wf (mpiParse_eq ▸ hm)
      refine ⟨⟨(normalized_iff b).mp h1, h2⟩, ?_⟩
      rw [serField, mpiSer, List.length_append, be16_length]; omega
    · cases h
  case lp =>
    cases inp with
    | nil => cases h
    | cons l t =>
      rw [parseField] at h
      split at h
      · rename_i bs r' ht
        cases h
        obtain ⟨h1, rfl⟩ := takeN_spec ht
        have := l.toNat_lt
        refine ⟨by rw [Conf]; omega, ?_⟩
        rw [serField, List.length_cons, List.length_cons, List.length_append]; omega
      · cases h
  case fixed n =>
    rw [parseField] at h
    split at h
    · rename_i bs r' ht
      cases h
      obtain ⟨h1, rfl⟩ := takeN_spec ht
      exact ⟨h1, by rw [serField, List.length_append]; omega⟩
    · cases h
  case kdf =>
    match inp, h with
    | l :: t :: hh :: s :: r', h =>
      rw [parseField] at h
      split at h
      · rename_i hc
        cases h
        obtain ⟨rfl, rfl⟩ := hc
        exact ⟨⟨hh, s, rfl⟩, by simp only [serField, List.length_cons, List.length_nil]; omega⟩
      · cases h
  case rest =>
    cases hint with
    | none =>
      cases h
      exact ⟨trivial, Nat.le_refl _⟩
    | some n =>
      rw [parseField] at h
      split at h
      · rename_i bs r' ht
        cases h
        obtain ⟨h1, rfl⟩ := takeN_spec ht
        exact ⟨h1, by rw [serField, List.length_append]; omega⟩
      · cases h

/-! ## materials -/

theorem serMaterial_cons (f : Field) (fs : Material) : serMaterial (f :: fs) = serField f ++ serMaterial fs :=
  List.flatMap_cons

theorem serMaterial_nil : serMaterial [] = [] := rfl

theorem confAll_rest {hint : Option Nat} {m : Material} (h : ConfAll hint [.rest] m) : ∃ bs, m = [.raw bs] :=
  match m, h with
  | [.raw bs], _ => ⟨bs, rfl⟩
  | [], h => h.elim
  | [.mpi _], h => h.1.elim
  | [.lp _], h => h.1.elim
  | _ :: _ :: _, h => h.2.elim

theorem parseFields_ser (hint : Option Nat) : ∀ (ks : List Kind) (fs : Material) (rest : Bytes),
    ConfAll hint ks fs → (hint = none → Kind.rest ∉ ks) →
    parseFields hint ks (serMaterial fs ++ rest) = some (fs, rest)
  | [], [], _, _, _ => rfl
  | [], _ :: _, _, hc, _ => hc.elim
  | _ :: _, [], _, hc, _ => hc.elim
  | k :: ks, f :: fs, rest, ⟨h1, h2⟩, hr => by
    rw [serMaterial_cons, List.append_assoc, parseFields,
      parseField_serField hint k f _ h1 (fun hk hn => absurd (hk ▸ List.mem_cons_self) (hr hn))]
    simp only [parseFields_ser hint ks fs rest h2 (fun hn hm => hr hn (List.mem_cons_of_mem _ hm))]

theorem parseFields_rest_none (bs : Bytes) : parseFields none [.rest] bs = some ([.raw bs], []) := rfl

theorem parseFields_ser' (hint : Option Nat) (ks : List Kind) (fs : Material) (rest : Bytes)
    (hc : ConfAll hint ks fs) (hks : ks = [.rest] ∨ Kind.rest ∉ ks)
    (hr : ks = [.rest] → hint = none → rest = []) :
    parseFields hint ks (serMaterial fs ++ rest) = some (fs, rest) := by
  rcases hks with rfl | hks
  · obtain ⟨bs, rfl⟩ := confAll_rest hc
    rw [serMaterial_cons, serMaterial_nil, List.append_nil, parseFields,
      parseField_serField hint .rest _ rest hc.1 (fun _ hn => hr rfl hn)]
    rfl
  · exact parseFields_ser hint ks fs rest hc (fun _ => hks)

theorem parseFields_conf (hint : Option Nat) : ∀ (ks : List Kind) (inp : Bytes) (fs : Material) (r : Bytes),
    parseFields hint ks inp = some (fs, r) →
    ConfAll hint ks fs ∧ (serMaterial fs).length + r.length ≤ inp.length
  | [], inp, fs, r, h => by
    cases h
    exact ⟨trivial, Nat.le_of_eq (Nat.zero_add _)⟩
  | k :: ks, inp, fs, r, h => by
    rw [parseFields] at h
    split at h
    · cases h
    · rename_i f r1 h1
      split at h
      · cases h
      · rename_i fs' r2 h2
        cases h
        obtain ⟨c1, l1⟩ := parseField_spec hint k inp f r1 h1
        obtain ⟨c2, l2⟩ := parseFields_conf hint ks r1 _ _ h2
        refine ⟨⟨c1, c2⟩, ?_⟩
        rw [serMaterial_cons, List.length_append]; omega

theorem serMaterial_injective (hint : Option Nat) (ks : List Kind) (m1 m2 : Material)
    (h1 : ConfAll hint ks m1) (h2 : ConfAll hint ks m2) (hr : ks = [.rest] ∨ Kind.rest ∉ ks)
    (h : serMaterial m1 = serMaterial m2) : m1 = m2 := by
  have e1 := parseFields_ser' hint ks m1 [] h1 hr (fun _ _ => rfl)
  have e2 := parseFields_ser' hint ks m2 [] h2 hr (fun _ _ => rfl)
  rw [h, e2] at e1
  cases e1; rfl

/-! ## the dispatch table -/

/-- the rows of `shape` -/
def shapes : List (List Kind) :=
  [[.mpi, .mpi], [.mpi, .mpi, .mpi, .mpi], [.mpi, .mpi, .mpi], [.lp, .mpi], [.lp, .mpi, .kdf],
   [.fixed 32], [.fixed 56], [.fixed 57], [.rest]]

theorem ite_ind {α : Sort _} {P : α → Prop} (c : Prop) [Decidable c] {a b : α} (ha : P a) (hb : P b) :
    P (if c then a else b) := by
  split <;> assumption

theorem shape_mem (alg : Nat) : shape alg ∈ shapes := by
  unfold shape
  repeat' apply ite_ind
  all_goals decide

theorem shapes_spec : ∀ ks ∈ shapes,
    ks ≠ [] ∧ ks.head? ≠ some (.fixed 0) ∧ (ks = [.rest] ∨ Kind.rest ∉ ks) := by
  decide

theorem shape_ne_nil (alg : Nat) : shape alg ≠ [] := (shapes_spec _ (shape_mem alg)).1

theorem shape_rest (alg : Nat) : shape alg = [.rest] ∨ Kind.rest ∉ shape alg :=
  (shapes_spec _ (shape_mem alg)).2.2

/-! ## key packet bodies: what `parseBody` computes on each of the three layouts -/

theorem parseBody_v3 (strict : Bool) (v : Byte) (hv : v = 2 ∨ v = 3) (c e : Bytes) (hc : c.length = 4)
    (he : e.length = 2) (a : Byte) (r' : Bytes) :
    parseBody strict (v :: (c ++ (e ++ a :: r'))) =
      match parseFields none (shape a.toNat) r' with
      | none => none
      | some (m, rest) =>
        if admitted v.toNat a.toNat m then
          some ({ version := v.toNat, created := beNat c, expiry := beNat e, alg := a.toNat, mat := m }, rest)
        else none := by
  -- octets of known length are `be32` / `be16` of their value, which unfold to explicit lists
  rw [← be32_beNat c hc, ← be16_beNat e he]
  exact if_pos hv

theorem parseBody_v4 (strict : Bool) (c : Bytes) (hc : c.length = 4) (a : Byte) (r' : Bytes) :
    parseBody strict (4 :: (c ++ a :: r')) =
      match parseFields none (shape a.toNat) r' with
      | none => none
      | some (m, rest) =>
        some ({ version := 4, created := beNat c, expiry := 0, alg := a.toNat, mat := m }, rest) := by
  rw [← be32_beNat c hc]
  rfl

theorem parseBody_v6 (strict : Bool) (c l : Bytes) (hc : c.length = 4) (hl : l.length = 4) (a : Byte)
    (r' : Bytes) :
    parseBody strict (6 :: (c ++ a :: (l ++ r'))) =
      if beNat l = 0 ∧ strict = false then none
      else
        match parseFields (some (beNat l)) (shape a.toNat) (r'.take (beNat l)) with
        | none => none
        | some (m, left) =>
          if strict ∧ left ≠ [] then none
          else if admitted 6 a.toNat m then
            some ({ version := 6, created := beNat c, expiry := 0, alg := a.toNat, mat := m },
                  left ++ r'.drop (beNat l))
          else none := by
  rw [← be32_beNat c hc, ← be32_beNat l hl]
  rfl

theorem parseBody_v4_none (strict : Bool) (c0 c1 c2 c3 a : Byte) (r' : Bytes)
    (h : parseFields none (shape a.toNat) r' = none) :
    parseBody strict (4 :: c0 :: c1 :: c2 :: c3 :: a :: r') = none :=
  (parseBody_v4 strict [c0, c1, c2, c3] rfl a r').trans (by rw [h])

theorem parseBody_v3_none (strict : Bool) (v c0 c1 c2 c3 e0 e1 a : Byte) (r' : Bytes) (hv : v = 2 ∨ v = 3)
    (h : parseFields none (shape a.toNat) r' = none) :
    parseBody strict (v :: c0 :: c1 :: c2 :: c3 :: e0 :: e1 :: a :: r') = none :=
  (parseBody_v3 strict v hv [c0, c1, c2, c3] [e0, e1] rfl rfl a r').trans (by rw [h])

theorem parseBody_v6_none (strict : Bool) (c0 c1 c2 c3 a l0 l1 l2 l3 : Byte) (r' : Bytes)
    (h : parseFields (some (beNat [l0, l1, l2, l3])) (shape a.toNat) (r'.take (beNat [l0, l1, l2, l3])) = none) :
    parseBody strict (6 :: c0 :: c1 :: c2 :: c3 :: a :: l0 :: l1 :: l2 :: l3 :: r') = none :=
  (parseBody_v6 strict [c0, c1, c2, c3] [l0, l1, l2, l3] rfl rfl a r').trans (by rw [h]; exact ite_self _)

/-- announced length handed to the material parser -/
def hintOf (k : PubKey) : Option Nat := if k.version = 6 then some (serMaterial k.mat).length else none

/-- a key as the parser returns it (`strict` = secret-key parser) -/
structure WF (strict : Bool) (k : PubKey) : Prop where
  ver : k.version = 2 ∨ k.version = 3 ∨ k.version = 4 ∨ k.version = 6
  created : k.created < 4294967296
  expiry : k.expiry < 65536
  expiry0 : k.version = 4 ∨ k.version = 6 → k.expiry = 0
  alg : k.alg < 256
  conf : ConfAll (hintOf k) (shape k.alg) k.mat
  adm : admitted k.version k.alg k.mat = true
  len6 : k.version = 6 → (serMaterial k.mat).length < 4294967296 ∧ (strict = false → 0 < (serMaterial k.mat).length)

theorem parseBody_v4_some (strict : Bool) {created alg : Nat} (hcr : created < 4294967296) (halg : alg < 256)
    {inp rest : Bytes} {m : Material} (hp : parseFields none (shape alg) inp = some (m, rest)) :
    parseBody strict (4 :: (be32 created ++ alg.toUInt8 :: inp)) =
      some ({ version := 4, created := created, expiry := 0, alg := alg, mat := m }, rest) := by
  rw [parseBody_v4 strict _ (be32_length _), toUInt8_toNat_of_lt _ halg, hp, beNat_be32 _ hcr]

theorem parseBody_v6_some (strict : Bool) {created alg : Nat} (hcr : created < 4294967296) (halg : alg < 256)
    (win rest : Bytes) (hl : win.length < 4294967296) (hpos : strict = false → 0 < win.length) {m : Material}
    (hp : parseFields (some win.length) (shape alg) win = some (m, [])) (hadm : admitted 6 alg m = true) :
    parseBody strict (6 :: (be32 created ++ alg.toUInt8 :: (be32 win.length ++ (win ++ rest)))) =
      some ({ version := 6, created := created, expiry := 0, alg := alg, mat := m }, rest) := by
  rw [parseBody_v6 strict _ _ (be32_length _) (be32_length _), toUInt8_toNat_of_lt _ halg,
    beNat_be32 _ hl, beNat_be32 _ hcr, if_neg (fun h => absurd (hpos h.2) (by omega)),
    List.take_left' rfl, List.drop_left' rfl, hp]
  exact (if_neg fun h => h.2 rfl).trans (if_pos hadm)

theorem parseBody_serBody (strict : Bool) (k : PubKey) (body rest : Bytes) (hw : WF strict k)
    (hs : serBody k = some body) (hr : shape k.alg = [.rest] → k.version ≠ 6 → rest = []) :
    parseBody strict (body ++ rest) = some (k, rest) := by
  obtain ⟨version, created, expiry, alg, mat⟩ := k
  obtain ⟨-, hcr, hex, hex0, halg, hconf, hadm, hlen6⟩ := hw
  simp only [hintOf] at hcr hex hex0 halg hconf hadm hlen6 hr
  have hp (h6 : version ≠ 6) : parseFields none (shape alg) (serMaterial mat ++ rest) = some (mat, rest) :=
    parseFields_ser' none _ _ rest (by rwa [if_neg h6] at hconf) (shape_rest alg) (fun h _ => hr h h6)
  revert hs
  fun_cases serBody _ <;> rintro ⟨⟩ <;> simp only [List.cons_append, List.append_assoc, List.nil_append]
  next h23 =>
    have h23 : version = 2 ∨ version = 3 := h23
    rw [parseBody_v3 strict _ (h23.imp (congrArg Nat.toUInt8) (congrArg Nat.toUInt8)) _ _ (be32_length _) (be16_length _),
      toUInt8_toNat_of_lt _ halg, toUInt8_toNat_of_lt version (by omega), beNat_be32 _ hcr, beNat_be16 _ hex,
      hp (by omega)]
    exact if_pos hadm
  next _ h4 =>
    obtain rfl : version = 4 := h4
    cases hex0 (.inl rfl)
    exact parseBody_v4_some strict hcr halg (hp (by decide))
  next _ _ h6 hl =>
    obtain rfl : version = 6 := h6
    cases hex0 (.inr rfl)
    have hp6 := parseFields_ser' (some (serMaterial mat).length) _ mat [] (by rwa [if_pos rfl] at hconf)
      (shape_rest alg) (fun _ h => nomatch h)
    rw [List.append_nil] at hp6
    exact parseBody_v6_some strict hcr halg _ rest hl (hlen6 rfl).2 hp6 hadm

theorem conf_rehint (h1 h2 : Option Nat) (k : Kind) (f : Field) (hk : k ≠ .rest) (hc : Conf h1 k f) : Conf h2 k f := by
  cases k <;> cases f <;> first | exact absurd rfl hk | exact hc

theorem confAll_rehint (h1 h2 : Option Nat) : ∀ (ks : List Kind) (fs : Material), Kind.rest ∉ ks →
    ConfAll h1 ks fs → ConfAll h2 ks fs
  | [], [], _, _ => trivial
  | [], _ :: _, _, h => h.elim
  | _ :: _, [], _, h => h.elim
  | k :: ks, f :: fs, hn, ⟨a, b⟩ =>
    ⟨conf_rehint h1 h2 k f (fun hk => hn (hk ▸ List.mem_cons_self)) a,
      confAll_rehint h1 h2 ks fs (fun hm => hn (List.mem_cons_of_mem _ hm)) b⟩

theorem confAll_self_hint (hint : Option Nat) (ks : List Kind) (fs : Material)
    (hks : ks = [.rest] ∨ Kind.rest ∉ ks) (h : ConfAll hint ks fs) :
    ConfAll (some (serMaterial fs).length) ks fs := by
  rcases hks with rfl | hks
  · obtain ⟨bs, rfl⟩ := confAll_rest h
    exact ⟨congrArg List.length (List.append_nil bs).symm, trivial⟩
  · exact confAll_rehint hint _ ks fs hks h

theorem serField_pos (n : Nat) (k : Kind) (f : Field) (hc : Conf (some n) k f) (hn : 0 < n)
    (hf : k ≠ .fixed 0) : 0 < (serField f).length := by
  cases k <;> cases f <;> simp only [Conf] at hc
  case mpi.mpi b => rw [serField, mpiSer, List.length_append, be16_length]; omega
  case lp.lp bs => exact Nat.succ_pos _
  case fixed.raw j bs =>
    have : j ≠ 0 := fun h => hf (h ▸ rfl)
    rw [serField]; omega
  case kdf.raw bs => obtain ⟨h, s, rfl⟩ := hc; exact Nat.succ_pos _
  case rest.raw bs => rw [serField]; omega

theorem serMaterial_pos (n : Nat) (alg : Nat) (m : Material) (hc : ConfAll (some n) (shape alg) m) (hn : 0 < n) :
    0 < (serMaterial m).length := by
  obtain ⟨hne, hf, _⟩ := shapes_spec _ (shape_mem alg)
  match shape alg, m, hne, hf, hc with
  | k :: ks, f :: fs, _, hf, ⟨c1, _⟩ =>
    have := serField_pos n k f c1 hn (fun h => hf (h ▸ rfl))
    rw [serMaterial_cons, List.length_append]; omega

theorem parseBody_wf (strict : Bool) (w : Bytes) (k : PubKey) (rest : Bytes)
    (h : parseBody strict w = some (k, rest)) : WF strict k := by
  revert h
  -- the three branches that return a key, one per layout
  fun_cases parseBody strict w <;> rintro ⟨⟩
  next v hv _ _ _ _ _ _ a _ m hadm hp =>
    have hvn : v.toNat = 2 ∨ v.toNat = 3 := hv.imp (congrArg UInt8.toNat) (congrArg UInt8.toNat)
    have h4 : v.toNat ≠ 4 := by omega
    have h6 : v.toNat ≠ 6 := by omega
    exact ⟨hvn.elim .inl fun h => .inr (.inl h), beNat_four_lt _ rfl, beNat_two_lt _ rfl,
      fun h' => h'.elim (absurd · h4) (absurd · h6), a.toNat_lt,
      by rw [hintOf, if_neg h6]; exact (parseFields_conf _ _ _ _ _ hp).1, hadm, fun h' => absurd h' h6⟩
  next _ _ _ _ a _ m _ hp =>
    exact ⟨.inr (.inr (.inl rfl)), beNat_four_lt _ rfl, Nat.zero_lt_succ _, fun _ => rfl, a.toNat_lt,
      (parseFields_conf _ _ _ _ _ hp).1, rfl, fun h' => nomatch h'⟩
  next _ _ _ _ a l0 l1 l2 l3 _ _ hlen m _ hp _ hadm _ _ =>
    obtain ⟨hc, hl⟩ := parseFields_conf _ _ _ _ _ hp
    have hfit : (serMaterial m).length ≤ beNat [l0, l1, l2, l3] :=
      Nat.le_trans (Nat.le_add_right _ _) (Nat.le_trans hl (List.length_take_le _ _))
    exact ⟨.inr (.inr (.inr rfl)), beNat_four_lt _ rfl, Nat.zero_lt_succ _, fun _ => rfl, a.toNat_lt,
      confAll_self_hint _ _ _ (shape_rest _) hc, hadm, fun _ =>
        ⟨Nat.lt_of_le_of_lt hfit (beNat_four_lt _ rfl), fun hs =>
          serMaterial_pos _ _ _ hc (Nat.pos_of_ne_zero fun h0 => hlen ⟨h0, hs⟩)⟩⟩

theorem beNat_drop (bs : Bytes) (n : Nat) (h : n ≤ bs.length) :
    beNat (bs.drop (bs.length - n)) = beNat bs % 256 ^ n := by
  have := beNat_append_mod (bs.take (bs.length - n)) (bs.drop (bs.length - n))
  rwa [List.take_append_drop, List.length_drop, Nat.sub_sub_self h, eq_comm] at this

theorem beNat_take (bs : Bytes) (n : Nat) :
    beNat (bs.take n) = beNat bs / 256 ^ (bs.length - n) := by
  have := beNat_append_div (bs.take n) (bs.drop n)
  rwa [List.take_append_drop, List.length_drop, eq_comm] at this

/-! ## a writer that pads MPIs with leading zero octets -/

/-- a non-canonical writer: MPI number `i` is written with `pads[i].1` leading zero octets and the
declared bit count `pads[i].2`; every other field as usual -/
def serFieldPad (p : Nat × Nat) : Field → Bytes
  | .mpi b => be16 p.2 ++ List.replicate p.1 0 ++ b
  | f => serField f

def serMaterialPad : List (Nat × Nat) → Material → Bytes
  | p :: ps, f :: fs => serFieldPad p f ++ serMaterialPad ps fs
  | _, _ => []

def PadOK (p : Nat × Nat) : Field → Prop
  | .mpi b => (p.2 + 7) / 8 = p.1 + b.length ∧ p.2 ≤ 16384
  | _ => True

def PadsOK : List (Nat × Nat) → Material → Prop
  | p :: ps, f :: fs => PadOK p f ∧ PadsOK ps fs
  | [], [] => True
  | _, _ => False

theorem parseField_pad (hint : Option Nat) (k : Kind) (f : Field) (p : Nat × Nat) (rest : Bytes)
    (hc : Conf hint k f) (hp : PadOK p f) (hr : k = .rest → hint = none → rest = []) :
    parseField hint k (serFieldPad p f ++ rest) = some (f, rest) := by
  cases f with
  | mpi b =>
    cases k <;> simp only [Conf] at hc
    rw [serFieldPad, parseField, mpiParse_leading_zeros b rest p.1 p.2 hc.1 hp.1 hp.2]
  | lp bs => exact parseField_serField hint k _ rest hc hr
  | raw bs => exact parseField_serField hint k _ rest hc hr

theorem parseFields_pad (hint : Option Nat) : ∀ (ks : List Kind) (fs : Material) (ps : List (Nat × Nat)) (rest : Bytes),
    ConfAll hint ks fs → PadsOK ps fs → Kind.rest ∉ ks →
    parseFields hint ks (serMaterialPad ps fs ++ rest) = some (fs, rest)
  | [], [], [], _, _, _, _ => rfl
  | [], [], _ :: _, _, _, _, _ => rfl
  | [], _ :: _, _, _, hc, _, _ => hc.elim
  | _ :: _, [], _, _, hc, _, _ => hc.elim
  | _ :: _, _ :: _, [], _, _, hp, _ => hp.elim
  | k :: ks, f :: fs, p :: ps, rest, ⟨c1, c2⟩, ⟨p1, p2⟩, hr => by
    rw [serMaterialPad, List.append_assoc, parseFields,
      parseField_pad hint k f p _ c1 p1 (fun hk _ => absurd (hk ▸ List.mem_cons_self) hr)]
    simp only [parseFields_pad hint ks fs ps rest c2 p2 (fun hm => hr (List.mem_cons_of_mem _ hm))]

theorem serMaterialPad_canonical (fs : Material) :
    serMaterialPad (fs.map fun f => match f with | .mpi b => (0, bitSize b) | _ => (0, 0)) fs = serMaterial fs := by
  induction fs with
  | nil => rfl
  | cons f fs ih =>
    rw [List.map_cons, serMaterialPad, ih, serMaterial_cons]
    cases f <;> rfl

theorem parseBody_padded_v4 (strict : Bool) (k : PubKey) (hw : WF strict k) (hv : k.version = 4)
    (hnr : Kind.rest ∉ shape k.alg) (ps : List (Nat × Nat)) (hp : PadsOK ps k.mat) (rest : Bytes) :
    parseBody strict (4 :: be32 k.created ++ [k.alg.toUInt8] ++ serMaterialPad ps k.mat ++ rest) = some (k, rest) := by
  obtain ⟨version, created, expiry, alg, mat⟩ := k
  obtain ⟨-, hcr, -, hex0, halg, hconf, -, -⟩ := hw
  obtain rfl : version = 4 := hv
  cases hex0 (.inl rfl)
  simp only [List.cons_append, List.append_assoc, List.nil_append]
  exact parseBody_v4_some strict hcr halg (parseFields_pad none (shape alg) mat ps rest hconf hp hnr)

theorem parseBody_padded_v6 (strict : Bool) (k : PubKey) (hw : WF strict k) (hv : k.version = 6)
    (hnr : Kind.rest ∉ shape k.alg) (ps : List (Nat × Nat)) (hp : PadsOK ps k.mat) (rest : Bytes)
    (hl : (serMaterialPad ps k.mat).length < 4294967296)
    (hpos : strict = false → 0 < (serMaterialPad ps k.mat).length) :
    parseBody strict (6 :: be32 k.created ++ [k.alg.toUInt8] ++ be32 (serMaterialPad ps k.mat).length ++
      serMaterialPad ps k.mat ++ rest) = some (k, rest) := by
  obtain ⟨version, created, expiry, alg, mat⟩ := k
  obtain ⟨-, hcr, -, hex0, halg, hconf, hadm, -⟩ := hw
  obtain rfl : version = 6 := hv
  cases hex0 (.inr rfl)
  have hpf := parseFields_pad (some (serMaterialPad ps mat).length) (shape alg) mat ps []
    (confAll_rehint _ _ (shape alg) mat hnr hconf) hp hnr
  rw [List.append_nil] at hpf
  simp only [List.cons_append, List.append_assoc, List.nil_append]
  exact parseBody_v6_some strict hcr halg _ rest hl hpos hpf hadm

/-! ## vocabulary used by the statements of `RpgpProps/C13.lean` -/

structure HashSizes (H : Hashes) : Prop where
  md5 : ∀ x, (H.md5 x).length = 16
  sha1 : ∀ x, (H.sha1 x).length = 20
  sha256 : ∀ x, (H.sha256 x).length = 32

def toyH : Hashes :=
  ⟨fun x => (x ++ List.replicate 16 0).take 16, fun x => (x ++ List.replicate 20 0).take 20,
   fun x => (x ++ List.replicate 32 0).take 32⟩

/-- an Ed25519 v4 key: 32 native octets -/
def exKey : PubKey := { version := 4, created := 0x01020304, expiry := 0, alg := 27, mat := [.raw (List.replicate 32 7)] }

/-! ## fingerprints -/

theorem fingerprint_eq_some {H : Hashes} {k : PubKey} {fp : Fp} (h : fingerprint H k = some fp) :
    ∃ pre, preimage k = some pre ∧
      ((k.version = 2 ∨ k.version = 3) ∧ fp = ⟨k.version, H.md5 pre⟩ ∨
        k.version = 4 ∧ fp = ⟨4, H.sha1 pre⟩ ∨ k.version = 6 ∧ fp = ⟨6, H.sha256 pre⟩) := by
  revert h
  fun_cases fingerprint H k <;> rintro ⟨⟩
  next pre hp h23 => exact ⟨pre, hp, .inl ⟨h23, rfl⟩⟩
  next pre hp _ h4 => exact ⟨pre, hp, .inr (.inl ⟨h4, rfl⟩)⟩
  next pre hp h23 h4 =>
    -- the pre-image exists for no other version
    refine ⟨pre, hp, .inr (.inr ⟨Decidable.byContradiction fun h6 => ?_, rfl⟩)⟩
    rw [preimage, if_neg h23, if_neg h4, if_neg h6] at hp
    cases hp

theorem Fp.new_eq_some {ver : Nat} {bs : Bytes} {fp : Fp} (h : Fp.new ver bs = some fp) :
    kvFpLen ver = some bs.length ∧ fp = ⟨ver, bs⟩ := by
  unfold Fp.new at h
  split at h
  · rename_i n hk
    split at h
    · rename_i hl
      cases h
      exact ⟨hl ▸ hk, rfl⟩
    · cases h
  · cases h

/-- the two length tables of the source (`KeyVersion::fingerprint_len`, `Fingerprint::len`) agree -/
theorem Fp.len_of_kvFpLen {ver n : Nat} (bs : Bytes) (h : kvFpLen ver = some n) :
    ver ≠ 0 ∧ (Fp.mk ver bs).len = n := by
  unfold Fp.len
  revert h
  fun_cases kvFpLen ver <;> rintro ⟨⟩
  next h23 => exact ⟨by omega, if_pos h23⟩
  next h23 h4 => exact ⟨by omega, (if_neg h23).trans (if_pos h4)⟩
  next h23 h4 h56 => exact ⟨by omega, (if_neg h23).trans ((if_neg h4).trans (if_pos h56))⟩

/-! ## the key parsers after repair D15d (`parseBodyCur`) -/

theorem pubLenExactF_on : pubLenExactF = true := rfl

theorem parseBodyCur_on (strict : Bool) (w : Bytes) :
    parseBodyCur strict w = if v6CountExact w then parseBody true w else none := by
  rw [parseBodyCur, pubLenExactF_on]; rfl

theorem parseBodyCur_some (strict : Bool) (w : Bytes) (p : PubKey × Bytes) (h : parseBodyCur strict w = some p) :
    parseBody true w = some p := by
  rw [parseBodyCur_on] at h
  split at h
  · exact h
  · cases h

theorem parseBodyCur_eq (strict : Bool) (w : Bytes) (h : v6CountExact w = true) :
    parseBodyCur strict w = parseBody true w := by
  rw [parseBodyCur_on, if_pos h]

theorem parseBodyCur_strict_irrelevant (w : Bytes) : parseBodyCur false w = parseBodyCur true w :=
  (parseBodyCur_on false w).trans (parseBodyCur_on true w).symm

theorem v6CountExact_other (v : Byte) (t : Bytes) (h : v ≠ 6) : v6CountExact (v :: t) = true :=
  if_neg h

theorem v6CountExact_v6 (c l : Bytes) (hc : c.length = 4) (hl : l.length = 4) (a : Byte) (r' : Bytes) :
    v6CountExact (6 :: (c ++ a :: (l ++ r'))) = decide (beNat l ≠ 0 ∧ beNat l ≤ r'.length) := by
  rw [← be32_beNat c hc, ← be32_beNat l hl]
  rfl

theorem v6CountExact_serBody (k : PubKey) (body rest : Bytes) (hs : serBody k = some body)
    (hpos : k.version = 6 → 0 < (serMaterial k.mat).length) :
    v6CountExact (body ++ rest) = true := by
  revert hs
  fun_cases serBody k <;> rintro ⟨⟩
  next h23 => exact v6CountExact_other _ _ (by rcases h23 with h | h <;> rw [h] <;> decide)
  next _ h4 => exact v6CountExact_other _ _ (by rw [h4]; decide)
  next _ _ h6 hlt =>
    have := hpos h6
    simp only [List.cons_append, List.append_assoc, List.nil_append]
    rw [h6, show (6 : Nat).toUInt8 = 6 from rfl, v6CountExact_v6 _ _ (be32_length _) (be32_length _),
      beNat_be32 _ hlt]
    exact decide_eq_true ⟨by omega, by rw [List.length_append]; omega⟩

end Rpgp
