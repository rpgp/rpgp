import RpgpProofs.ArmorBody
import RpgpProofs.ArmorHeader
import RpgpProofs.ArmorLine
/-!
# `Dearmor` on well-formed armor text

The footer stage, the three stages assembled (`dearmor_armorText`), `armor::write`'s output and its
CRLF form as instances of the text the reader tolerates, and the source schedules under which a
section without header lines may arrive.
-/
namespace Rpgp.Armor

/-! ## footer -/

/-- footer line and whatever follows it -/
def footText (t : BlockType) (tail : Bytes) : Bytes :=
  DASH5 ++ (asc "END " ++ (typeName t ++ (DASH5 ++ tail)))

theorem armorFoot_eq (t : BlockType) (crc : Option Nat) :
    armorFoot t crc = (match crc with
      | some c => EQS :: b64enc (crcOctets c) ++ [LF]
      | none => []) ++ footText t [LF] := by
  have e : asc "-----END " = DASH5 ++ asc "END " := by rw [asc_ofList, asc_ofList]; rfl
  cases crc <;> simp [armorFoot, footText, e, asc_dash5_lf, List.append_assoc]

/-- the footer line begins with two dashes, and the rest is what `armor_footer_line` reads -/
theorem footText_line (t : BlockType) (tail : Bytes) (ht : typeOk t = true) :
    ∃ L r, footText t tail = 45 :: 45 :: L ∧ armorFooterLine L = .ok t r := by
  have e : asc "---END " = [45, 45, 45] ++ asc "END " := by rw [asc_ofList, asc_ofList]; rfl
  obtain ⟨r, hr⟩ : ∃ r, armorFooterLine (asc "---END " ++ (typeName t ++ (DASH5 ++ tail))) = .ok t r := by
    -- `p` for `parseType`, for the reason given at `armorHeaderLine_eq`
    obtain ⟨p, hp⟩ : ∃ p, parseType = p := ⟨_, rfl⟩
    have hty := parseType_typeName t tail ht
    rw [hp] at hty
    rw [armorFooterLine, hp]
    simp only [tagS_append, hty]
    cases (lineEnding tail).complete <;> exact ⟨_, rfl⟩
  exact ⟨_, r, by simp [footText, DASH5, e], hr⟩

theorem manyLineEndings_les (les : List Bytes) (hles : ∀ le ∈ les, IsNl le) (r : Bytes) :
    ∀ fuel, les.length ≤ fuel → manyLineEndings fuel (les.flatten ++ 45 :: r) = .ok () (45 :: r) := by
  induction les with
  | nil =>
    intro fuel _
    cases fuel with
    | zero => rfl
    | succ f => simp [manyLineEndings, lineEnding, LF, CR]
  | cons le rest ih =>
    intro fuel hf
    cases fuel with
    | zero => simp at hf
    | succ f =>
      have hle := hles le (by simp)
      have := ih (fun x hx => hles x (by simp [hx])) f (by simp at hf; omega)
      simp only [List.flatten_cons, List.append_assoc, manyLineEndings, lineEnding_nl le _ hle, this]

theorem les_length (les : List Bytes) (hles : ∀ le ∈ les, IsNl le) : les.length ≤ les.flatten.length := by
  induction les with
  | nil => simp
  | cons le rest ih =>
    have hle := hles le (by simp)
    have := ih (fun x hx => hles x (by simp [hx]))
    have h1 : 1 ≤ le.length := by rcases hle with rfl | rfl <;> simp
    simp only [List.flatten_cons, List.length_append, List.length_cons]
    omega

theorem les_crlf (les : List Bytes) (hles : ∀ le ∈ les, IsNl le) : ∀ c ∈ les.flatten, c = CR ∨ c = LF := by
  intro c hc
  simp only [List.mem_flatten] at hc
  obtain ⟨le, hle, hc⟩ := hc
  rcases hles le hle with rfl | rfl
  · simp at hc; exact Or.inr hc
  · simp at hc; rcases hc with rfl | rfl <;> simp

theorem footerSep_les (les : List Bytes) (hles : ∀ le ∈ les, IsNl le) (r : Bytes) :
    footerSep (les.flatten ++ 45 :: 45 :: r) = .ok () r := by
  have := manyLineEndings_les les hles (45 :: r) (les.flatten ++ 45 :: 45 :: r).length
    (by have := les_length les hles; simp only [List.length_append, List.length_cons]; omega)
  simp only [footerSep]
  rw [this]
  simp [tagS]

theorem footerParser_nocrc {L r : Bytes} {t : BlockType} (hL : armorFooterLine L = .ok t r) :
    footerParser (45 :: 45 :: L) = .ok (none, t) r := by
  have hsep := footerSep_les [] (fun _ h => nomatch h) L
  have h1 : footerCrcAlt1 (45 :: 45 :: L) = .err := by simp [footerCrcAlt1, tagS, EQS]
  have h2 : footerCrcAlt2 (45 :: 45 :: L) = .ok none L := by
    simp only [List.flatten_nil, List.nil_append] at hsep
    simp [footerCrcAlt2, manyEq, EQS, hsep]
  simp only [footerParser, footerCrcRaw, h1, h2, PR.orElse, hL]

theorem crcOctets_eq (c : Nat) : crcOctets c = beBytes 3 c := (beBytes_three c).symm

theorem readChecksum_crcOctets (c : Nat) (hc : c < 16777216) : readChecksum (b64enc (crcOctets c)) = some c := by
  rw [readChecksum, b64dec_b64enc, crcOctets_eq]
  show some (beNat (beBytes 3 c ++ List.replicate (3 - (beBytes 3 c).length) 0)) = some c
  rw [beBytes_length, Nat.sub_self, List.replicate_zero, List.append_nil, beNat_beBytes_of_lt hc]

/-- the four checksum characters written by `write_footer` -/
theorem crcChars (c : Nat) : ∃ x1 x2 x3 x4, b64enc (crcOctets c) = [x1, x2, x3, x4] ∧
    isB64Sym x1 = true ∧ isB64Sym x2 = true ∧ isB64Sym x3 = true ∧ isB64Sym x4 = true := by
  obtain ⟨w, x, y, z, he, _, _, hw, hx, hy, hz⟩ :=
    dec4_enc3 (c / 2 ^ Gen.wrCrcShiftHi % 256).toUInt8 (c / 2 ^ Gen.wrCrcShiftMid % 256).toUInt8 (c % 256).toUInt8
  exact ⟨w, x, y, z, by simp [crcOctets, b64enc, he], hw, hx, hy, hz⟩

theorem footerParser_crc {L r : Bytes} {t : BlockType} (hL : armorFooterLine L = .ok t r) (c : Nat) (hc : c < 16777216)
    (les : List Bytes) (hles : ∀ le ∈ les, IsNl le) :
    footerParser (EQS :: b64enc (crcOctets c) ++ (les.flatten ++ 45 :: 45 :: L)) = .ok (some c, t) r := by
  obtain ⟨x1, x2, x3, x4, hx, _⟩ := crcChars c
  have hck := readChecksum_crcOctets c hc
  rw [hx] at hck ⊢
  have e4 : Gen.footerCrcChars = 4 := rfl
  have h1 : footerCrcAlt1 (EQS :: [x1, x2, x3, x4] ++ (les.flatten ++ 45 :: 45 :: L)) = .ok (some [x1, x2, x3, x4]) L := by
    simp [footerCrcAlt1, tagS, e4, footerSep_les les hles L]
  simp only [footerParser, footerCrcRaw, h1, PR.orElse, hck, Option.map_some, hL]

/-! ## the assembled reader -/

/-- the optional checksum line, followed by any number of line breaks -/
def crcText (ck : Option Nat) (les : List Bytes) : Bytes :=
  match ck with
  | none => []
  | some c => EQS :: b64enc (crcOctets c) ++ les.flatten

/-- everything after the header section -/
def restText (B : Bytes) (ck : Option Nat) (les : List Bytes) (t : BlockType) (tail : Bytes) : Bytes :=
  B ++ (crcText ck les ++ footText t tail)

/-- armor text in all the shapes the reader is meant to tolerate: leading text, LF or CRLF, a
separator line of blanks, CR/LF anywhere in the base64 part (`BodyText`), optional checksum line,
line breaks before the footer line, any trailing text -/
def armorText (lead nl ws : Bytes) (t : BlockType) (h : Headers) (B : Bytes) (ck : Option Nat)
    (les : List Bytes) (tail : Bytes) : Bytes :=
  headText lead nl ws t h ++ restText B ck les t tail

/-- what `Dearmor` returns for data `d` read under checksum `ck` -/
def dearmorResult (crcCheck : Bool) (t : BlockType) (h : Headers) (d : Bytes) (ck : Option Nat) :
    Except DearmorErr Dearmored :=
  match crcStatus crcCheck ck d with
  | .checkedInvalid _ _ => .error .crcMismatch
  | st => .ok { typ := t, headers := h, data := d, checksum := ck, status := st }

theorem dearmor_of_stages (crcCheck : Bool) (chunks : List Bytes) (t : BlockType) (h : Headers) (lead : Bool)
    (raw d left raw' r : Bytes) (ck : Option Nat)
    (hhead : readFromBuf headerParser [] chunks = .ok ((t, h, lead), raw))
    (hbody : decodeBody Gen.b64DecBufSize (raw.length + 1) [] 0 raw = (d, left, raw'))
    (hfoot : footerParser (left ++ raw') = .ok (ck, t) r) :
    dearmor crcCheck chunks = dearmorResult crcCheck t h d ck := by
  simp only [dearmor, hhead, hbody, hfoot, dearmorResult, ne_eq, not_true_eq_false, if_false]
  generalize crcStatus crcCheck ck d = st
  cases st <;> rfl

theorem Epilogue.crc (c : Nat) : Epilogue (EQS :: b64enc (crcOctets c)) := by
  obtain ⟨x1, x2, x3, x4, hx, _⟩ := crcChars c
  refine ⟨fun b hb => ?_, by simp [hx], fun _ => ⟨x1, x2, x3, [x4], by rw [hx]⟩⟩
  rcases List.mem_cons.mp hb with rfl | hb
  · decide
  · exact b64enc_bodySyms _ b hb

/-- after the header stage everything is a function of the remaining bytes -/
theorem dearmor_of_header (crcCheck : Bool) (chunks : List Bytes) (t : BlockType) (h : Headers) (lead : Bool)
    (d B : Bytes) (ck : Option Nat) (les : List Bytes) (tail : Bytes)
    (hrb : readFromBuf headerParser [] chunks = .ok ((t, h, lead), restText B ck les t tail))
    (ht : typeOk t = true) (hB : BodyText B (b64enc d))
    (hck : ∀ c, ck = some c → c < 16777216) (hles : ∀ le ∈ les, IsNl le) :
    dearmor crcCheck chunks = dearmorResult crcCheck t h d ck := by
  have ecap : Gen.b64DecBufSize = 4 * 256 := rfl
  obtain ⟨L, r, hS, hL⟩ := footText_line t tail ht
  have hfuel : d.length + 2 ≤ (restText B ck les t tail).length + 1 := by
    have := hB.data_length_le
    simp only [restText, hS, List.length_append, List.length_cons]
    omega
  rw [restText, hS] at hrb hfuel
  cases ck with
  | none =>
    rcases decodeBody_body (e := []) (nls := []) (45 :: L) Epilogue.nil (fun _ h => nomatch h) 256 (by decide) _ d B hB hfuel
      with hb | ⟨h4, _⟩
    · exact dearmor_of_stages crcCheck chunks t h lead _ d [] _ r none hrb (ecap ▸ hb) (footerParser_nocrc hL)
    · exact absurd h4 (by decide)
  | some c =>
    have hraw : crcText (some c) les ++ 45 :: 45 :: L = (EQS :: b64enc (crcOctets c)) ++ (les.flatten ++ 45 :: 45 :: L) := by
      simp [crcText]
    rw [hraw] at hrb hfuel
    rcases decodeBody_body (45 :: L) (Epilogue.crc c) (les_crlf les hles) 256 (by decide) _ d B hB hfuel
      with hb | ⟨_, hb⟩
    · -- the line breaks after the checksum were skipped by the body reader
      exact dearmor_of_stages crcCheck chunks t h lead _ d _ _ r (some c) hrb (ecap ▸ hb)
        (footerParser_crc hL c (hck c rfl) [] (fun _ h => nomatch h))
    · exact dearmor_of_stages crcCheck chunks t h lead _ d _ _ r (some c) hrb (ecap ▸ hb)
        (by rw [← List.append_assoc, List.take_append_drop]; exact footerParser_crc hL c (hck c rfl) les hles)

/-- **Dearmor on well-formed armor text**, for every payload, every admissible type and header map,
every tolerated layout, and every source schedule whose first `fill_buf` view contains the
header section -/
theorem dearmor_armorText (crcCheck : Bool) (lead nl ws : Bytes) (t : BlockType) (h : Headers) (d B : Bytes)
    (ck : Option Nat) (les : List Bytes) (tail : Bytes) (X1 : Bytes) (cs : List Bytes)
    (hlead : ∀ b ∈ lead, b ≠ 45) (hnl : IsNl nl) (hws : ∀ b ∈ ws, b = SP ∨ b = TAB)
    (ht : typeOk t = true) (hh : WFHeaders h = true) (hB : BodyText B (b64enc d))
    (hck : ∀ c, ck = some c → c < 16777216) (hles : ∀ le ∈ les, IsNl le)
    (hsplit : X1 ++ cs.flatten = restText B ck les t tail) :
    dearmor crcCheck ((headText lead nl ws t h ++ X1) :: cs) = dearmorResult crcCheck t h d ck := by
  have hhp := headerParser_headText lead nl ws t h X1 hlead hnl hws ht hh
  have hne : (headText lead nl ws t h ++ X1).isEmpty = false := by
    simp [headText, DASH5]
  have hrb : readFromBuf headerParser [] ((headText lead nl ws t h ++ X1) :: cs) =
      .ok ((t, h, !lead.isEmpty), restText B ck les t tail) := by
    simp only [readFromBuf, hne, List.nil_append, hhp]
    simp [hsplit]
  exact dearmor_of_header crcCheck _ t h _ d B ck les tail hrb ht hB hck hles

/-- result record for data `d` under checksum `ck`, CRC checking off -/
def readBack (t : BlockType) (h : Headers) (d : Bytes) (ck : Option Nat) : Except DearmorErr Dearmored :=
  .ok { typ := t, headers := h, data := d, checksum := ck,
        status := match ck with | none => .noCrc | some c => .unchecked c }

theorem dearmorResult_unchecked (t : BlockType) (h : Headers) (d : Bytes) (ck : Option Nat) :
    dearmorResult false t h d ck = readBack t h d ck := by
  cases ck <;> rfl

/-! ## the writer's output is well-formed armor text -/

/-- checksum option written by `armor::write` -/
def writtenCrc (d : Bytes) (checksum : Bool) : Option Nat := if checksum then some (crc24 d) else none

theorem writtenCrc_lt (d : Bytes) (checksum : Bool) : ∀ c, writtenCrc d checksum = some c → c < 16777216 := by
  intro c h
  cases checksum with
  | false => simp [writtenCrc] at h
  | true => simp [writtenCrc] at h; subst h; exact crc24_lt d

theorem armorWrite_eq (t : BlockType) (h : Headers) (d : Bytes) (checksum : Bool) :
    armorWrite t h d checksum =
      armorText [] [LF] [] t h (armorBody d) (writtenCrc d checksum) [[LF]] [LF] := by
  simp only [armorWrite, armorText, restText, armorHead_eq, armorFoot_eq, writtenCrc]
  cases checksum <;> simp [crcText, List.append_assoc]

theorem dearmor_armorWrite_within (crcCheck : Bool) (lead trail : Bytes) (t : BlockType) (h : Headers) (d : Bytes)
    (checksum : Bool) (hlead : ∀ b ∈ lead, b ≠ 45) (ht : typeOk t = true) (hh : WFHeaders h = true) :
    dearmor crcCheck [lead ++ (armorWrite t h d checksum ++ trail)] =
      dearmorResult crcCheck t h d (writtenCrc d checksum) := by
  have e : lead ++ (armorWrite t h d checksum ++ trail) =
      headText lead [LF] [] t h ++ restText (armorBody d) (writtenCrc d checksum) [[LF]] t (LF :: trail) := by
    rw [armorWrite_eq]; simp [armorText, headText, restText, footText, List.append_assoc]
  rw [e]
  exact dearmor_armorText crcCheck lead [LF] [] t h d (armorBody d) (writtenCrc d checksum) [[LF]] (LF :: trail) _ []
    hlead (Or.inl rfl) (fun _ h => nomatch h) ht hh (armorBody_bodyText d) (writtenCrc_lt d checksum)
    (by simp [IsNl]) (List.append_nil _)

theorem dearmor_armorWrite (crcCheck : Bool) (t : BlockType) (h : Headers) (d : Bytes) (checksum : Bool)
    (ht : typeOk t = true) (hh : WFHeaders h = true) :
    dearmor crcCheck [armorWrite t h d checksum] = dearmorResult crcCheck t h d (writtenCrc d checksum) := by
  have := dearmor_armorWrite_within crcCheck [] [] t h d checksum (fun _ h => nomatch h) ht hh
  rwa [List.append_nil, List.nil_append] at this

/-! ## CRLF conversion -/

theorem toCrlf_append (a b : Bytes) : toCrlf (a ++ b) = toCrlf a ++ toCrlf b := by
  induction a with
  | nil => rfl
  | cons c r ih =>
    simp only [List.cons_append, toCrlf, ih]
    split <;> simp

theorem toCrlf_noLf (s : Bytes) (h : ∀ b ∈ s, b ≠ LF) : toCrlf s = s := by
  induction s with
  | nil => rfl
  | cons c r ih =>
    have hc := h c (by simp)
    simp [toCrlf, hc, ih (fun b hb => h b (by simp [hb]))]

theorem toCrlf_pairLines (ps : List (Bytes × Bytes)) (h : ∀ kv ∈ ps, keyOk kv.1 = true ∧ valOk kv.2 = true) :
    toCrlf (pairLines [LF] ps) = pairLines [CR, LF] ps := by
  induction ps with
  | nil => rfl
  | cons kv r ih =>
    obtain ⟨hk, hv⟩ := h kv (by simp)
    simp only [keyOk, valOk, Bool.and_eq_true] at hk hv
    have hk1 : ∀ b ∈ kv.1, b ≠ LF := fun b hb => (noCrLf_mem _ hk.1.1.2 b hb).2
    have hv1 : ∀ b ∈ kv.2, b ≠ LF := fun b hb => (noCrLf_mem _ hv.1 b hb).2
    have := ih (fun x hx => h x (by simp [hx]))
    simp only [pairLines, List.flatMap_cons] at this ⊢
    rw [toCrlf_append, this, toCrlf_append, toCrlf_noLf _ hk1, toCrlf, if_neg (by decide), toCrlf,
      if_neg (by decide), toCrlf_append, toCrlf_noLf _ hv1]
    rfl

theorem toCrlf_crcText (ck : Option Nat) : toCrlf (crcText ck [[LF]]) = crcText ck [[CR, LF]] := by
  cases ck with
  | none => rfl
  | some c =>
    have hsym : ∀ b ∈ EQS :: b64enc (crcOctets c), b ≠ LF := fun b hb => (bodySym_facts b ((Epilogue.crc c).syms b hb)).2.2.1
    simp only [crcText, List.flatten_cons, List.flatten_nil, List.append_nil]
    rw [toCrlf_append, toCrlf_noLf _ hsym]
    rfl

theorem toCrlf_armorWrite (t : BlockType) (h : Headers) (d : Bytes) (checksum : Bool) (hh : WFHeaders h = true) :
    toCrlf (armorWrite t h d checksum) =
      armorText [] [CR, LF] [] t h (toCrlf (armorBody d)) (writtenCrc d checksum) [[CR, LF]] [CR, LF] := by
  have e1 : toCrlf DASH5 = DASH5 := by decide
  have e2 : toCrlf (asc "BEGIN ") = asc "BEGIN " := by rw [asc_ofList]; decide +kernel
  have e3 : toCrlf (asc "END ") = asc "END " := by rw [asc_ofList]; decide +kernel
  have e4 : toCrlf [LF] = [CR, LF] := by decide
  simp only [armorWrite_eq, armorText, restText, headText, footText, toCrlf_append, toCrlf_crcText,
    toCrlf_pairLines _ (WFHeaders_pairs h hh).1, toCrlf_noLf _ (typeName_noLf t), List.nil_append, e1, e2, e3, e4]

/-- `read_from_buf(header_parser)` over any sequence of views of `bareHead t ++ X` -/
theorem readFromBuf_bareHead (t : BlockType) (ht : typeOk t = true) (X : Bytes) :
    ∀ (chunks : List Bytes) (acc : Bytes), acc.length < (bareHead t).length →
      acc ++ chunks.flatten = bareHead t ++ X →
      readFromBuf headerParser acc chunks = .ok ((t, [], false), X) := by
  intro chunks
  induction chunks with
  | nil =>
    intro acc hlt hflat
    rw [List.flatten_nil, List.append_nil] at hflat
    rw [hflat, List.length_append] at hlt
    omega
  | cons c cs ih =>
    intro acc hlt hflat
    by_cases hc : c = []
    · subst hc
      simp only [readFromBuf, List.isEmpty_nil, if_true]
      exact ih acc hlt (by simpa using hflat)
    · have hne : c.isEmpty = false := by simpa using hc
      have hflat' : (acc ++ c) ++ cs.flatten = bareHead t ++ X := by simpa [List.append_assoc] using hflat
      simp only [readFromBuf, hne]
      by_cases hshort : (acc ++ c).length < (bareHead t).length
      · -- still inside the header section
        have hpre : acc ++ c <+: bareHead t :=
          List.prefix_of_prefix_length_le ⟨_, hflat'⟩ (List.prefix_append _ _) (Nat.le_of_lt hshort)
        simp only [headerParser_bareHead_prefix t ht hpre hshort, Bool.false_eq_true, if_false]
        exact ih (acc ++ c) hshort hflat'
      · -- the header section is complete
        obtain ⟨Y, hY⟩ : bareHead t <+: acc ++ c :=
          List.prefix_of_prefix_length_le (List.prefix_append _ _) ⟨_, hflat'⟩ (Nat.le_of_not_lt hshort)
        have hX : Y ++ cs.flatten = X := by
          rw [← hY, List.append_assoc] at hflat'
          exact List.append_cancel_left hflat'
        have hlen : ¬ (c.length < Y.length) := by
          have := congrArg List.length hY
          simp only [List.length_append] at this
          omega
        rw [← hY, bareHead, headerParser_headText [] [LF] [] t [] Y (by simp) (Or.inl rfl) (by simp) ht (by decide)]
        simp only [hlen, decide_false, Bool.and_false, Bool.false_eq_true, if_false, hX]
        rfl

/-- **every source schedule** for armor written without header lines: however the bytes of
`armor::write`'s output are split into `fill_buf` views (one byte at a time, inside the BEGIN line,
inside the checksum, …), `Dearmor` returns the same result -/
theorem dearmor_any_chunking_bare (crcCheck : Bool) (t : BlockType) (ht : typeOk t = true) (d : Bytes)
    (checksum : Bool) (chunks : List Bytes) (hflat : chunks.flatten = armorWrite t [] d checksum) :
    dearmor crcCheck chunks = dearmorResult crcCheck t [] d (writtenCrc d checksum) := by
  have hrb := readFromBuf_bareHead t ht _ chunks []
    (by simp [bareHead, headText, DASH5])
    (by rw [List.nil_append, hflat, armorWrite_eq]; rfl)
  exact dearmor_of_header crcCheck chunks t [] false d (armorBody d) (writtenCrc d checksum) [[LF]] [LF] hrb
    ht (armorBody_bodyText d) (writtenCrc_lt d checksum) (by simp [IsNl])

end Rpgp.Armor
