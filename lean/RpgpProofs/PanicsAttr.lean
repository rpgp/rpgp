import Lean.Meta.Tactic.Simp.RegisterCommand
/-! The simp set `out_simp`: what a region of `RpgpModel/Panics.lean` reduces to when one asks whether
it panics, or what it returns (lemmas in `RpgpProofs/Panics.lean`). -/
register_simp_attr out_simp
