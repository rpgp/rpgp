import RpgpModel.Sound
import RpgpProofs.SigDigest
/-!
# Sound — the soundness reduction for the `Signature::verify*` entry points (C02)

Inversion of the entry points of `RpgpModel/Sound.lean` (what a successful run has established), the
hypotheses of the reduction as definitions (`Unforgeable`, `LogHonest`, `CollisionFreeOn`,
`HonestInputs`) and the reduction: `finish_sound` (a successful entry point whose pre-image is
`Established` (C11) means an honest signer signed exactly this input under this key material) and
`finish_v3_never` (a version-3 signature never verifies, because a v3 pre-image equals a v4 / v6 one
only for the type octet 0xFF, which no hashing routine accepts).  `RpgpProps/C02.lean` instantiates
these per entry point; the inline reader is in `SoundMessage`.
-/
namespace Rpgp.Sound
open Rpgp Rpgp.SigDigest

/-! ## `check`, `finish` -/

theorem check_ok_iff (flag : Nat) (P : Prims) (k : VKey) (s : Sig) (d : Bytes) :
    check flag P k s d = .ok ↔
      (flag = 1 → s.left16 = d.take 2) ∧ P.pkVerify k.mat s.cfg.hash d s.sigval = true := by
  unfold check
  by_cases h1 : flag = 1 ∧ s.left16 ≠ d.take 2
  · simp [h1]
  · rw [if_neg h1]
    rw [not_and, Decidable.not_not] at h1
    by_cases h2 : P.pkVerify k.mat s.cfg.hash d s.sigval = true
    · simpa [h2] using h1
    · simp [h2]

theorem check_left16 (P : Prims) (k : VKey) (s : Sig) (d : Bytes) (h : s.left16 ≠ d.take 2) :
    check 1 P k s d = .err .left16 := by
  unfold check
  rw [if_pos ⟨rfl, h⟩]

theorem finish_ok_iff (flag : Nat) (P : Prims) (k : VKey) (s : Sig) (pre : Except Guard Bytes) :
    finish flag P k s pre = .ok ↔
      ∃ p, pre = .ok p ∧ check flag P k s (P.hash s.cfg.hash p) = .ok := by
  cases pre <;> simp [finish]

theorem finish_error (flag : Nat) (P : Prims) (k : VKey) (s : Sig) (g : Guard) :
    finish flag P k s (.error g) = .err g := rfl

/-! ## what each `…Pre` establishes

The five `…Pre` of the model are one chain of guards `if !b then .error g else …` (two of them
behind a call-site flag), ending in the hashing routine and the subpacket scan; they differ in the
type test, the two flags and the routine.  `guardChain` is that chain with the four as parameters,
`Guards` what it has established when it returns `p`, with a name for every guard. -/

section
variable {α : Type} {g : Guard} {e : Except Guard α} {p : α} {b : Bool}

theorem guard_ok_iff : (if !b then .error g else e) = .ok p ↔ b = true ∧ e = .ok p := by
  cases b <;> simp

theorem flagGuard_ok_iff {flag : Nat} :
    (if flag = 1 ∧ !b then .error g else e) = .ok p ↔ (flag = 1 → b = true) ∧ e = .ok p := by
  by_cases h : flag = 1 <;> cases b <;> simp [h]

end

/-- `typOk`: the entry point's test of the type octet (`true` for `Signature::verify`, which leaves
it to `hash_data_to_sign`); `saltFlag` is 0 where the salt size is left to the hashing routine -/
def guardChain (hk : Byte → Bool) (k : VKey) (s : Sig) (typOk : Bool) (idFlag saltFlag : Nat)
    (digest : Option Bytes) : Except Guard Bytes :=
  if !s.known then .error .unknown
  else if !typOk then .error .typ
  else if !verifyAligned s.cfg k.ver then .error .align
  else if !strengthOk s.cfg then .error .strength
  else if idFlag = 1 ∧ !matchIdentity s k then .error .issuer
  else if !hk s.cfg.hash then .error .hashAlg
  else if saltFlag = 1 ∧ !saltSizeOk s.cfg then .error .salt
  else
    match digest with
    | none => .error .input
    | some p => if !areaScanOk s.cfg s.hashed then .error .area else .ok p

structure Guards (hk : Byte → Bool) (k : VKey) (s : Sig) (typOk : Bool) (idFlag saltFlag : Nat)
    (digest : Option Bytes) (p : Bytes) : Prop where
  /-- the pre-image is the hashing routine's: what the reduction uses -/
  digest : digest = some p
  known : s.known = true
  typ : typOk = true
  aligned : verifyAligned s.cfg k.ver = true
  strength : strengthOk s.cfg = true
  identity : idFlag = 1 → matchIdentity s k = true
  hash : hk s.cfg.hash = true
  salt : saltFlag = 1 → saltSizeOk s.cfg = true
  scan : areaScanOk s.cfg s.hashed = true

theorem guardChain_ok {hk : Byte → Bool} {k : VKey} {s : Sig} {typOk : Bool} {idFlag saltFlag : Nat}
    {digest : Option Bytes} {p : Bytes} (h : guardChain hk k s typOk idFlag saltFlag digest = .ok p) :
    Guards hk k s typOk idFlag saltFlag digest p := by
  simp only [guardChain, guard_ok_iff, flagGuard_ok_iff] at h
  obtain ⟨h1, h2, h3, h4, h5, h6, h7, h8⟩ := h
  cases digest with
  | none => cases h8
  | some q =>
    simp only [guard_ok_iff, Except.ok.injEq] at h8
    exact ⟨congrArg some h8.2, h1, h2, h3, h4, h5, h6, h7, h8.1⟩

/-! Each `…Pre` unfolds to its instance of the chain (a guard `if !true` or `if 0 = 1 ∧ _` is no guard). -/

theorem dataPre_ok (hk : Byte → Bool) (k : VKey) (s : Sig) (d p : Bytes) (h : dataPre hk k s d = .ok p) :
    Guards hk k s true Gen.sndIdentityData Gen.sndSaltCheckVerify (SigDigest.verifyData s.cfg k.ver d) p :=
  guardChain_ok h

theorem certPre_ok (hk : Byte → Bool) (signer : VKey) (signee : Key) (s : Sig) (tag : Nat) (id : Ser) (p : Bytes)
    (h : certPre hk signer signee s tag id = .ok p) :
    Guards hk signer s (isCertification s.cfg.typ) Gen.sndIdentityCert 0
      (verifyCertification s.cfg signer.ver signee tag id) p :=
  guardChain_ok h

theorem subkeyBindingPre_ok (hk : Byte → Bool) (primary : VKey) (sub : Key) (s : Sig) (p : Bytes)
    (h : subkeyBindingPre hk primary sub s = .ok p) :
    Guards hk primary s
      (s.cfg.typ == Gen.sdSigTypeSubkeyBinding.toUInt8 || s.cfg.typ == Gen.sdSigTypeSubkeyRevocation.toUInt8)
      Gen.sndIdentitySubkeyBinding 0 (SigDigest.verifySubkeyBinding s.cfg primary.toKey sub) p :=
  guardChain_ok h

theorem primaryKeyBindingPre_ok (hk : Byte → Bool) (sub : VKey) (primary : Key) (s : Sig) (p : Bytes)
    (h : primaryKeyBindingPre hk sub primary s = .ok p) :
    Guards hk sub s (s.cfg.typ == Gen.sdSigTypeKeyBinding.toUInt8) Gen.sndIdentityPrimaryKeyBinding 0
      (SigDigest.verifyPrimaryKeyBinding s.cfg sub.toKey primary) p :=
  guardChain_ok h

theorem keyPre_ok (hk : Byte → Bool) (signer : VKey) (signee : Key) (s : Sig) (p : Bytes)
    (h : keyPre hk signer signee s = .ok p) :
    Guards hk signer s (s.cfg.typ == Gen.sdSigTypeKey.toUInt8 || s.cfg.typ == Gen.sdSigTypeKeyRevocation.toUInt8)
      Gen.sndIdentityKey 0 (SigDigest.verifyKey s.cfg signer.ver signee) p :=
  guardChain_ok h

theorem verifyCleartext_ok (P : Prims) (k : VKey) (sigs : List Sig) (csf : Bytes)
    (h : verifyCleartext P k sigs csf = .ok) :
    ∃ s ∈ sigs, verifyData P k s (SV.signedText csf) = .ok := by
  unfold verifyCleartext at h
  split at h
  · rename_i ha
    obtain ⟨s, hs, he⟩ := List.any_eq_true.1 ha
    exact ⟨s, hs, by simpa using he⟩
  · cases h

/-! ## the reduction: vocabulary -/

/-- one honest signing event: the key material it was made under and the RFC 9580 §5.2.4 input
(version, type, both algorithm octets, hashed area, salt, subject) -/
structure Signed where
  km : Bytes
  input : Spec.Input

/-- **unforgeability**, stated with a signing-oracle log: the primitive says yes for key material
`km` and digest `d` only if `d` is among the digests that were signed under `km` -/
def Unforgeable (P : Prims) (L : List (Bytes × Bytes)) : Prop :=
  ∀ km h d sv, P.pkVerify km h d sv = true → (km, d) ∈ L

/-- every entry of the log is the digest, by the hash algorithm named in the signature, of the
pre-image of something an honest signer signed under that key -/
def LogHonest (P : Prims) (L : List (Bytes × Bytes)) (S : List Signed) : Prop :=
  ∀ km d, (km, d) ∈ L → ∃ e ∈ S, e.km = km ∧ P.hash e.input.hash (Spec.preimage e.input) = d

/-- **collision freeness on the two pre-images**: the pre-image `p`, hashed with algorithm `h`,
collides with no honestly signed pre-image other than itself -/
def CollisionFreeOn (P : Prims) (S : List Signed) (h : Byte) (p : Bytes) : Prop :=
  ∀ e ∈ S, P.hash e.input.hash (Spec.preimage e.input) = P.hash h p → Spec.preimage e.input = p

/-- what honest signers sign: well-formed inputs of version 4 or 6 (`sign*` refuse everything
else, `SigDigest.signAligned_not_v3`) -/
def HonestInputs (S : List Signed) : Prop :=
  ∀ e ∈ S, Spec.WF e.input = true ∧ e.input.ver ≠ .v3

theorem sound_core (P : Prims) (L : List (Bytes × Bytes)) (S : List Signed) (flag : Nat)
    (k : VKey) (s : Sig) (p : Bytes)
    (hU : Unforgeable P L) (hH : LogHonest P L S) (hC : CollisionFreeOn P S s.cfg.hash p)
    (h : check flag P k s (P.hash s.cfg.hash p) = .ok) :
    ∃ e ∈ S, e.km = k.mat ∧ Spec.preimage e.input = p := by
  have hv := ((check_ok_iff flag P k s _).1 h).2
  obtain ⟨e, he, hkm, hd⟩ := hH _ _ (hU _ _ _ _ hv)
  exact ⟨e, he, hkm, hC e he hd⟩

theorem single_signed {km0 km : Bytes} {i0 i : Spec.Input}
    (h : ∃ e ∈ [(⟨km0, i0⟩ : Signed)], e.km = km ∧ e.input = i) : km0 = km ∧ i0 = i := by
  obtain ⟨e, he, h1, h2⟩ := h
  cases List.mem_singleton.1 he
  exact ⟨h1, h2⟩

theorem preimage_tail_ff (i : Spec.Input) (hv : i.ver ≠ .v3) :
    ∃ x n, Spec.preimage i = x ++ (0xFF :: be32 n) := by
  refine ⟨Spec.saltPart i ++ Spec.subjectBytes i.ver i.typ i.subject ++ Spec.hashedFields i ++ [i.ver.octet],
    (Spec.hashedFields i).length, ?_⟩
  rw [Spec.preimage_eq, tailBytes_of_ne_v3 i hv]
  simp only [List.append_assoc, List.cons_append, List.nil_append]

theorem v3_tail_typ_ff (i : Spec.Input) (hi : i.ver ≠ .v3) (x : Bytes) (typ : Byte) (created : Nat)
    (h : Spec.preimage i = x ++ typ :: be32 created) : typ = 0xFF := by
  obtain ⟨y, n, hy⟩ := preimage_tail_ff i hi
  rw [hy] at h
  have := (List.append_inj' h (by simp [be32_length])).2
  simp only [List.cons.injEq] at this
  exact this.1.symm

/-! ## text documents: the canonical representative -/

/-- the document as the well-formedness predicate wants it: canonical for text signatures -/
def docRep (typ : Byte) (d : Bytes) : Bytes := if typ = typText then canon d else d

theorem preimage_docRep (c : Cfg) (d : Bytes) :
    Spec.preimage (c.toInput (.document (docRep c.typ d))) = Spec.preimage (c.toInput (.document d)) := by
  unfold docRep
  split
  · rename_i ht
    exact (doc_text_iff (c.toInput (.document d)) (canon d) d (by rw [toInput_typ, ht, typText_eq])).2 (canon_idem d)
  · rfl

theorem docRep_canonical (typ : Byte) (d : Bytes) (x : Bytes)
    (h : Spec.Subject.document (docRep typ d) = .document x) (ht : typ = 0x01) : canon x = x := by
  injection h with h
  subst h
  unfold docRep
  rw [if_pos (by rw [ht, typText_eq])]
  exact canon_idem d

theorem established_docRep (c : Cfg) (d p : Bytes) (h : Established c (.document d) p) :
    Established c (.document (docRep c.typ d)) p :=
  ⟨by rw [preimage_docRep]; exact h.1, by simp [Spec.subjectWF], h.2.2⟩

/-- C11's refinement lemma for `Signature::verify`, in the form of the other four: the document
in its canonical representative, and the class of the type octet -/
theorem verifyData_established (c : Cfg) (kv : Nat) (d p : Bytes) (hty : c.typ = typBinary ∨ c.typ = typText)
    (h : SigDigest.verifyData c kv d = some p) :
    Established c (.document (docRep c.typ d)) p ∧ Spec.classOf c.typ = some .doc :=
  ⟨established_docRep c d p (verifyData_eq_spec c kv d p hty h), classOf_doc c.typ (by simpa using hty)⟩

/-! ## the reduction -/

theorem sound_of_established (P : Prims) (L : List (Bytes × Bytes)) (S : List Signed) (flag : Nat)
    (k : VKey) (s : Sig) (p : Bytes) (subj : Spec.Subject)
    (hU : Unforgeable P L) (hH : LogHonest P L S) (hS : HonestInputs S)
    (hE : Established s.cfg subj p) (hv : s.cfg.ver ≠ .v3)
    (hcls : Spec.classOf s.cfg.typ = some subj.cls)
    (hcan : ∀ d, subj = .document d → s.cfg.typ = 0x01 → canon d = d)
    (hC : CollisionFreeOn P S s.cfg.hash p)
    (h : check flag P k s (P.hash s.cfg.hash p) = .ok) :
    ∃ e ∈ S, e.km = k.mat ∧ e.input = s.cfg.toInput subj := by
  obtain ⟨e, he, hkm, hp⟩ := sound_core P L S flag k s p hU hH hC h
  have wf := hE.wf hcls hcan fun e => absurd e hv
  exact ⟨e, he, hkm, preimage_injective e.input _ (hS e he).2 hv (hS e he).1 wf (by rw [hp, hE.1])⟩

/-- **the reduction for every `Signature::verify*`**: `pre` is the entry point's `…Pre`, `digest`
the hashing routine it calls (`hpre`: the inversion lemma above), `hE` the refinement lemma of that
routine (C11) -/
theorem finish_sound (P : Prims) (L : List (Bytes × Bytes)) (S : List Signed) (flag : Nat)
    (k : VKey) (s : Sig) (pre : Except Guard Bytes) (digest : Option Bytes) (subj : Spec.Subject)
    (hU : Unforgeable P L) (hH : LogHonest P L S) (hS : HonestInputs S) (hv : s.cfg.ver ≠ .v3)
    (hpre : ∀ p, pre = .ok p → digest = some p)
    (hE : ∀ p, digest = some p → Established s.cfg subj p ∧ Spec.classOf s.cfg.typ = some subj.cls)
    (hcan : ∀ d, subj = .document d → s.cfg.typ = 0x01 → canon d = d)
    (hC : ∀ p, digest = some p → CollisionFreeOn P S s.cfg.hash p)
    (h : finish flag P k s pre = .ok) :
    ∃ e ∈ S, e.km = k.mat ∧ e.input = s.cfg.toInput subj := by
  obtain ⟨p, hp, hc⟩ := (finish_ok_iff flag P k s pre).1 h
  have hd := hpre p hp
  exact sound_of_established P L S flag k s p subj hU hH hS (hE p hd).1 hv (hE p hd).2 hcan (hC p hd) hc

/-! ## what every hashing routine establishes, whatever the subject -/

def HashedTail (c : Cfg) (p : Bytes) : Prop :=
  c.typ ≠ 0xFF ∧ ∃ x ft, fieldsAndTrailer c = some ft ∧ p = x ++ ft

theorem hashedTail_of_map {c : Cfg} {x p : Bytes} (hty : c.typ ≠ 0xFF)
    (h : (fieldsAndTrailer c).map (fun ft => x ++ ft) = some p) : HashedTail c p := by
  obtain ⟨ft, hft, rfl⟩ := Option.map_eq_some_iff.1 h
  exact ⟨hty, x, ft, hft, rfl⟩

/-- every routine but `hash_data_to_sign` accepts the types of one class, and 0xFF is of none -/
theorem ne_ff_of_class {t : Byte} {cls : Spec.Class} (h : Spec.classOf t = some cls) : t ≠ 0xFF := by
  rintro rfl
  cases h

/-- `hash_data_to_sign` hashes something for the types 0x00, 0x01, 0x02, 0x40 only -/
theorem verifyData_hashable (c : Cfg) (kv : Nat) (d p : Bytes) (h : SigDigest.verifyData c kv d = some p) :
    (c.typ = typText ∨ c.typ = typBinary) ∨
      (c.typ = Gen.sdSigTypeTimestamp.toUInt8 ∨ c.typ = Gen.sdSigTypeStandalone.toUInt8) := by
  apply Decidable.byContradiction
  intro hn
  rw [not_or] at hn
  have hd : ∀ x, hashDataToSign c x = none := by
    intro x
    unfold hashDataToSign
    rw [if_neg hn.1, if_neg hn.2]
  simp only [SigDigest.verifyData, guard_eq_some, hd] at h
  exact nomatch h.2.2

theorem verifyData_tail (c : Cfg) (kv : Nat) (d p : Bytes) (h : SigDigest.verifyData c kv d = some p) :
    HashedTail c p := by
  have hty : c.typ ≠ 0xFF := by
    have := verifyData_hashable c kv d p h
    rintro e
    rw [e] at this
    revert this
    decide
  simp only [SigDigest.verifyData, guard_eq_some] at h
  obtain ⟨_, _, h⟩ := h
  split at h
  · cases h
  · exact hashedTail_of_map hty h

theorem verifyCertification_tail (c : Cfg) (sv : Nat) (k : Key) (tag : Nat) (id : Ser) (p : Bytes)
    (h : verifyCertification c sv k tag id = some p) : HashedTail c p := by
  simp only [verifyCertification, guard_eq_some] at h
  obtain ⟨hty, _, h⟩ := h
  split at h
  · cases h
  split at h
  · cases h
  · exact hashedTail_of_map (ne_ff_of_class (classOf_cert _ hty)) h

theorem verifyKey_tail (c : Cfg) (sv : Nat) (k : Key) (p : Bytes)
    (h : SigDigest.verifyKey c sv k = some p) : HashedTail c p := by
  simp only [SigDigest.verifyKey, guard_eq_some] at h
  obtain ⟨hty, _, h⟩ := h
  split at h
  · cases h
  · exact hashedTail_of_map (ne_ff_of_class (classOf_direct _ hty)) h

theorem verifySubkeyBinding_tail (c : Cfg) (pk sk : Key) (p : Bytes)
    (h : SigDigest.verifySubkeyBinding c pk sk = some p) : HashedTail c p := by
  simp only [SigDigest.verifySubkeyBinding, guard_eq_some] at h
  obtain ⟨hty, _, h⟩ := h
  split at h
  · exact hashedTail_of_map (ne_ff_of_class (classOf_bind_sub _ hty)) h
  · cases h

theorem verifyPrimaryKeyBinding_tail (c : Cfg) (sk pk : Key) (p : Bytes)
    (h : SigDigest.verifyPrimaryKeyBinding c sk pk = some p) : HashedTail c p := by
  simp only [SigDigest.verifyPrimaryKeyBinding, guard_eq_some] at h
  obtain ⟨hty, _, h⟩ := h
  split at h
  · exact hashedTail_of_map (ne_ff_of_class (classOf_bind_prim _ hty)) h
  · cases h

/-- rpgp's signers produce v4 / v6 signatures only, and a v3 pre-image coincides with such a
pre-image for no type octet a hashing routine accepts -/
theorem check_v3_never (P : Prims) (L : List (Bytes × Bytes)) (S : List Signed) (flag : Nat)
    (k : VKey) (s : Sig) (p : Bytes)
    (hU : Unforgeable P L) (hH : LogHonest P L S) (hS : HonestInputs S) (hv : s.cfg.ver = .v3)
    (ht : HashedTail s.cfg p) (hC : CollisionFreeOn P S s.cfg.hash p) :
    check flag P k s (P.hash s.cfg.hash p) ≠ .ok := by
  intro h
  obtain ⟨e, he, _, hpe⟩ := sound_core P L S flag k s p hU hH hC h
  obtain ⟨hty, x, ft, hft, rfl⟩ := ht
  rw [fieldsAndTrailer_v3 s.cfg hv] at hft
  cases hft
  exact hty (v3_tail_typ_ff e.input (hS e he).2 x _ _ hpe)

/-- **a version-3 signature never verifies against honest signers**, through any
`Signature::verify*` (`pre`, `digest` as in `finish_sound`) -/
theorem finish_v3_never (P : Prims) (L : List (Bytes × Bytes)) (S : List Signed) (flag : Nat)
    (k : VKey) (s : Sig) (pre : Except Guard Bytes) (digest : Option Bytes)
    (hU : Unforgeable P L) (hH : LogHonest P L S) (hS : HonestInputs S) (hv : s.cfg.ver = .v3)
    (hpre : ∀ p, pre = .ok p → digest = some p)
    (ht : ∀ p, digest = some p → HashedTail s.cfg p)
    (hC : ∀ p, digest = some p → CollisionFreeOn P S s.cfg.hash p) :
    finish flag P k s pre ≠ .ok := by
  intro h
  obtain ⟨p, hp, hc⟩ := (finish_ok_iff flag P k s pre).1 h
  have hd := hpre p hp
  exact check_v3_never P L S flag k s p hU hH hS hv (ht p hd) (hC p hd) hc

theorem bodiesOf_append (t : Nat) (a b : List Wire.Subpacket) :
    bodiesOf t (a ++ b) = bodiesOf t a ++ bodiesOf t b := by
  simp only [bodiesOf, List.filter_append, List.map_append]

/-! ## lists of results (`verify_bindings`) -/

theorem firstErr_ok_iff (l : List Res) : firstErr l = .ok ↔ ∀ r ∈ l, r = .ok := by
  induction l with
  | nil => simp [firstErr]
  | cons a t ih => cases a <;> simp [firstErr, ih]

theorem firstErr_append (a b : List Res) : firstErr (a ++ b) = .ok ↔ firstErr a = .ok ∧ firstErr b = .ok := by
  simp only [firstErr_ok_iff, List.mem_append, or_imp, forall_and]

theorem firstErr_map {α : Type} (f : α → Res) (l : List α) :
    firstErr (l.map f) = .ok ↔ ∀ a ∈ l, f a = .ok := by
  simp only [firstErr_ok_iff, List.forall_mem_map]

/-- the shape of `SignedUser::verify_bindings` and `Signed*SubKey::verify_bindings`: at least one
signature, and every one verifies -/
theorem nonempty_all_ok {α : Type} (f : α → Res) (l : List α)
    (h : (if l.isEmpty then .err .noSig else firstErr (l.map f)) = .ok) : l ≠ [] ∧ ∀ a ∈ l, f a = .ok := by
  cases l with
  | nil => cases h
  | cons a t => exact ⟨List.cons_ne_nil a t, (firstErr_map f _).1 h⟩

theorem verifyOneBinding_ok (P : Prims) (primary sub : VKey) (b : BindSig)
    (h : verifyOneBinding P primary sub b = .ok) :
    verifySubkeyBinding P primary sub.toKey b.sig = .ok ∧
    (b.signFlag = true → ∃ e, b.embedded = some e ∧ verifyPrimaryKeyBinding P sub primary.toKey e = .ok) := by
  unfold verifyOneBinding at h
  split at h
  · cases h
  · rename_i hs
    refine ⟨hs, fun hf => ?_⟩
    rw [if_pos ⟨by decide, hf⟩] at h
    split at h
    · cases h
    · exact ⟨_, ‹_›, h⟩

theorem verifySubkeyBindings_ok (P : Prims) (primary sub : VKey) (sigs : List BindSig)
    (h : verifySubkeyBindings P primary sub sigs = .ok) :
    sigs ≠ [] ∧ ∀ b ∈ sigs, verifyOneBinding P primary sub b = .ok :=
  nonempty_all_ok _ sigs h

theorem verifyDetails_ok (P : Prims) (k : VKey) (d : Details) (h : verifyDetails P k d = .ok) :
    (∀ u ∈ d.users, verifyUser P k tagUserId u.1 u.2 = .ok) ∧
    (∀ u ∈ d.attrs, verifyUser P k tagUserAttribute u.1 u.2 = .ok) ∧
    (∀ s ∈ d.revocations, verifyKeySelf P k s = .ok) ∧ (∀ s ∈ d.directs, verifyKeySelf P k s = .ok) := by
  simp only [verifyDetails, firstErr_append, firstErr_map, and_assoc] at h
  exact h

end Rpgp.Sound
