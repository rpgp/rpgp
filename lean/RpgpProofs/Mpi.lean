import RpgpModel.KeyGen
import RpgpModel.Wire
import RpgpProofs.Bytes
/-!
# The MPI codec (`types/mpi.rs`)

The model transcribes `strip_leading_zeros`, `u8::leading_zeros`, `bit_size`, `Mpi::to_writer` and
`Mpi::try_from_reader` separately in the layers that use them; the proofs go through three of these
copies: `Rpgp.KeyGen.*`, `Rpgp.Wire.*` and `Rpgp.*` (`RpgpModel/Fingerprint.lean`).  The lemmas are
proved here about the `Rpgp.KeyGen` copy.  The `Rpgp.Wire` copy is shown to be the same functions at
the end of this file, the `Rpgp` copy at the head of `RpgpProofs/Fingerprint.lean`.

This file must not import `RpgpModel.Fingerprint`: an unqualified `stripZeros` in a file that says
`namespace Rpgp.C07  open Rpgp.KeyGen` (or `Rpgp.C05`, `open Rpgp.Wire`) is looked up in the enclosing
namespace `Rpgp` before the opened ones, so it would silently become `Rpgp.stripZeros`.
-/
namespace Rpgp.KeyGen

/-! ## stripZeros -/

def Normalized : Bytes → Prop
  | [] => True
  | b :: _ => b ≠ 0

def leadingZeros : Bytes → Nat
  | [] => 0
  | b :: r => if b = 0 then leadingZeros r + 1 else 0

theorem stripZeros_zero (r : Bytes) : stripZeros (0 :: r) = stripZeros r := by
  simp [stripZeros]

theorem stripZeros_of_normalized (m : Bytes) (h : Normalized m) : stripZeros m = m := by
  cases m with
  | nil => rfl
  | cons b r => exact if_neg h

theorem stripZeros_normalized (x : Bytes) : Normalized (stripZeros x) := by
  induction x with
  | nil => trivial
  | cons b r ih =>
    by_cases h : b = 0
    · rw [h, stripZeros_zero]; exact ih
    · rw [stripZeros_of_normalized (b :: r) h]; exact h

theorem normalized_iff (m : Bytes) : Normalized m ↔ stripZeros m = m :=
  ⟨stripZeros_of_normalized m, fun h => h ▸ stripZeros_normalized m⟩

theorem stripZeros_idem (x : Bytes) : stripZeros (stripZeros x) = stripZeros x :=
  stripZeros_of_normalized _ (stripZeros_normalized x)

theorem replicate_leadingZeros (x : Bytes) : List.replicate (leadingZeros x) 0 ++ stripZeros x = x := by
  induction x with
  | nil => rfl
  | cons b r ih =>
    by_cases h : b = 0
    · subst h
      rw [stripZeros_zero, leadingZeros, if_pos rfl, List.replicate_succ, List.cons_append, ih]
    · rw [stripZeros_of_normalized (b :: r) h, leadingZeros, if_neg h]; rfl

theorem stripZeros_length (x : Bytes) : (stripZeros x).length + leadingZeros x = x.length := by
  have := congrArg List.length (replicate_leadingZeros x)
  rw [List.length_append, List.length_replicate] at this
  omega

theorem stripZeros_length_le (x : Bytes) : (stripZeros x).length ≤ x.length := by
  have := stripZeros_length x
  omega

theorem replicate_stripZeros (x : Bytes) :
    List.replicate (x.length - (stripZeros x).length) (0 : Byte) ++ stripZeros x = x := by
  have := stripZeros_length x
  rw [show x.length - (stripZeros x).length = leadingZeros x by omega]
  exact replicate_leadingZeros x

theorem stripZeros_replicate (k : Nat) (m : Bytes) :
    stripZeros (List.replicate k (0 : Byte) ++ m) = stripZeros m := by
  induction k with
  | zero => rfl
  | succ k ih => rw [List.replicate_succ, List.cons_append, stripZeros_zero, ih]

theorem stripZeros_replicate_append (k : Nat) (m : Bytes) (h : Normalized m) :
    stripZeros (List.replicate k (0 : Byte) ++ m) = m := by
  rw [stripZeros_replicate, stripZeros_of_normalized m h]

theorem beNat_stripZeros (x : Bytes) : beNat (stripZeros x) = beNat x := by
  induction x with
  | nil => rfl
  | cons b r ih =>
    by_cases h : b = 0
    · rw [h, stripZeros_zero, ih, beNat_cons]; simp
    · rw [stripZeros_of_normalized (b :: r) h]

theorem beNat_replicate_zero (k : Nat) (m : Bytes) : beNat (List.replicate k (0 : Byte) ++ m) = beNat m := by
  rw [← beNat_stripZeros, stripZeros_replicate, beNat_stripZeros]

/-! ## clz8 and bitSize -/

/-- `clz8` is the number of leading zero bits: a table over the 256 octet values, which the kernel
evaluates row by row -/
theorem clz8_table : ∀ n, n < 256 → clz8 n.toUInt8 ≤ 8 ∧
    (n ≠ 0 → clz8 n.toUInt8 ≤ 7 ∧ 2 ^ (8 - clz8 n.toUInt8 - 1) ≤ n ∧ n < 2 ^ (8 - clz8 n.toUInt8)) := by
  decide +kernel

theorem clz8_le (b : Byte) : clz8 b ≤ 8 := by
  have := (clz8_table b.toNat b.toNat_lt).1
  rwa [toNat_toUInt8] at this

theorem clz8_bounds (b : Byte) (h : b ≠ 0) :
    clz8 b ≤ 7 ∧ 2 ^ (8 - clz8 b - 1) ≤ b.toNat ∧ b.toNat < 2 ^ (8 - clz8 b) := by
  have := (clz8_table b.toNat b.toNat_lt).2 (toNat_ne_zero b h)
  rwa [toNat_toUInt8] at this

theorem bitSize_cons (b : Byte) (r : Bytes) : bitSize (b :: r) = (r.length + 1) * 8 - clz8 b := rfl

theorem bitSize_le (m : Bytes) : bitSize m ≤ m.length * 8 := by
  cases m with
  | nil => exact Nat.le_refl 0
  | cons b r => exact Nat.sub_le _ _

theorem bitSize_bytes (m : Bytes) (h : Normalized m) : (bitSize m + 7) / 8 = m.length := by
  cases m with
  | nil => rfl
  | cons b r =>
    have := (clz8_bounds b h).1
    rw [bitSize_cons, List.length_cons]; omega

theorem bit_length_cons {x k n v : Nat} (hk : 1 ≤ k) (hlo : 2 ^ (k - 1) ≤ x) (hhi : x < 2 ^ k)
    (hv : v < 256 ^ n) :
    2 ^ (k + 8 * n - 1) ≤ x * 256 ^ n + v ∧ x * 256 ^ n + v < 2 ^ (k + 8 * n) := by
  have hp : 2 ^ (8 * n) = 256 ^ n := Nat.pow_mul 2 8 n
  rw [show k + 8 * n - 1 = k - 1 + 8 * n by omega, Nat.pow_add, Nat.pow_add, hp]
  have h1 := Nat.mul_le_mul_right (256 ^ n) hlo
  have h2 := Nat.mul_le_mul_right (256 ^ n) hhi
  rw [Nat.succ_mul] at h2
  exact ⟨Nat.le_trans h1 (Nat.le_add_right _ _), Nat.lt_of_lt_of_le (Nat.add_lt_add_left hv _) h2⟩

theorem bitSize_spec (m : Bytes) (h : Normalized m) (hne : m ≠ []) :
    2 ^ (bitSize m - 1) ≤ beNat m ∧ beNat m < 2 ^ bitSize m := by
  cases m with
  | nil => exact absurd rfl hne
  | cons b r =>
    obtain ⟨hc, hlo, hhi⟩ := clz8_bounds b h
    rw [beNat_cons, bitSize_cons, show (r.length + 1) * 8 - clz8 b = 8 - clz8 b + 8 * r.length by omega]
    exact bit_length_cons (by omega) hlo hhi (beNat_lt r)

/-! ## mpiWrite and mpiRead -/

theorem mpiRead_cons (a b : Byte) (rest : Bytes) :
    mpiRead (a :: b :: rest) =
      if 16384 < a.toNat * 256 + b.toNat then none
      else if rest.length < (a.toNat * 256 + b.toNat + 7) / 8 then none
      else some (stripZeros (rest.take ((a.toNat * 256 + b.toNat + 7) / 8)),
                 rest.drop ((a.toNat * 256 + b.toNat + 7) / 8)) := rfl

theorem mpiRead_be16 (bits : Nat) (raw rest : Bytes) (hmax : bits ≤ 16384)
    (hraw : raw.length = (bits + 7) / 8) :
    mpiRead (be16 bits ++ raw ++ rest) = some (stripZeros raw, rest) := by
  have e : (bits / 256 % 256).toUInt8.toNat * 256 + (bits % 256).toUInt8.toNat = bits := by
    rw [← beNat_two, ← be16_eq, beNat_be16 bits (by omega)]
  rw [be16_eq, List.append_assoc]
  simp only [List.cons_append, List.nil_append]
  rw [mpiRead_cons, e, ← hraw, if_neg (by omega), if_neg (by simp), List.take_left', List.drop_left'] <;> rfl

theorem mpiRead_eq_some {inp m rest : Bytes} (h : mpiRead inp = some (m, rest)) :
    ∃ bits raw, bits ≤ 16384 ∧ raw.length = (bits + 7) / 8 ∧ inp = be16 bits ++ raw ++ rest ∧
      m = stripZeros raw := by
  match inp, h with
  | a :: b :: t, h =>
    rw [mpiRead_cons] at h
    split at h
    · cases h
    · split at h
      · cases h
      · rename_i hmax hlen
        cases h
        refine ⟨beNat [a, b], _, by rw [beNat_two]; omega, ?_, ?_, rfl⟩
        · rw [List.length_take, beNat_two]; omega
        · rw [be16_beNat [a, b] rfl, List.append_assoc, List.take_append_drop]; rfl

theorem mpiRead_wf {inp m rest : Bytes} (h : mpiRead inp = some (m, rest)) :
    Normalized m ∧ m.length ≤ 2048 ∧ 2 + m.length + rest.length ≤ inp.length := by
  obtain ⟨bits, raw, hmax, hraw, rfl, rfl⟩ := mpiRead_eq_some h
  have := stripZeros_length_le raw
  refine ⟨stripZeros_normalized raw, by omega, ?_⟩
  rw [List.length_append, List.length_append, be16_length]; omega

theorem mpiRead_mpiWrite (m rest : Bytes) (h : Normalized m) (hb : bitSize m ≤ 16384) :
    mpiRead (mpiWrite m ++ rest) = some (m, rest) := by
  rw [mpiWrite, mpiRead_be16 _ m rest hb (bitSize_bytes m h).symm, stripZeros_of_normalized m h]

theorem mpiRead_mpiWrite_normalized (m rest : Bytes) (h : Normalized m) (hlen : m.length ≤ 2048) :
    mpiRead (mpiWrite m ++ rest) = some (m, rest) :=
  mpiRead_mpiWrite m rest h (Nat.le_trans (bitSize_le m) (Nat.mul_le_mul_right 8 hlen))

end Rpgp.KeyGen

/-! ## the copy in `RpgpModel/Wire.lean` is the same codec -/
namespace Rpgp.Mpi
open Rpgp.KeyGen

theorem wire_stripZeros_eq : Wire.stripZeros = KeyGen.stripZeros := by
  funext b
  induction b with
  | nil => rfl
  | cons x r ih => rw [Wire.stripZeros, KeyGen.stripZeros, ih]

theorem wire_byteBits_eq (x : Byte) : Wire.byteBits x = 8 - clz8 x := by
  simp only [Wire.byteBits, clz8, apply_ite (fun c => 8 - c)]

theorem wire_bitLen_eq : Wire.bitLen = KeyGen.bitSize := by
  funext m
  cases m with
  | nil => rfl
  | cons x r =>
    have := clz8_le x
    rw [Wire.bitLen, wire_byteBits_eq, bitSize_cons]; omega

theorem wire_mpiSer_eq : Wire.mpiSer = KeyGen.mpiWrite := by
  funext m; rw [Wire.mpiSer, wire_bitLen_eq]; rfl

theorem wire_mpiParse_eq : Wire.mpiParse = KeyGen.mpiRead := by
  funext b
  match b with
  | [] => rfl
  | [_] => rfl
  | a :: c :: t =>
    have h2 : Wire.take 2 (a :: c :: t) = some ([a, c], t) := rfl
    rw [Wire.mpiParse, h2]
    simp only [mpiRead_cons, beNat_two, wire_stripZeros_eq, Wire.take, Gen.mpiMaxBits]
    by_cases h1 : 16384 < a.toNat * 256 + c.toNat
    · rw [if_pos h1, if_pos h1]
    · rw [if_neg h1, if_neg h1]
      by_cases hl : t.length < (a.toNat * 256 + c.toNat + 7) / 8
      · rw [if_pos hl, if_pos hl]
      · rw [if_neg hl, if_neg hl]

theorem wire_mpiWF_iff (m : Bytes) : Wire.MpiWF m ↔ Normalized m ∧ bitSize m ≤ 16384 := by
  rw [Wire.MpiWF, wire_stripZeros_eq, wire_bitLen_eq, ← normalized_iff]
  exact Iff.rfl

end Rpgp.Mpi
