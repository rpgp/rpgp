import RpgpModel.Armor
/-!
# CRC-24 and `LineWriter` lemmas (model: `RpgpModel/Armor.lean`)
-/
namespace Rpgp.Armor

/-! ## CRC-24 -/

theorem crcFrom_append (c : Nat) (a b : Bytes) : crcFrom c (a ++ b) = crcFrom (crcFrom c a) b := by
  simp [crcFrom, List.foldl_append]

theorem crcShift_lt (c : Nat) (h : c < 16777216) : crcShift c < 16777216 := by
  unfold crcShift
  split
  · assumption
  · have h1 : c * 2 - 16777216 < 2 ^ 24 := by omega
    have h2 : crc24Gen < 2 ^ 24 := by decide
    exact Nat.xor_lt_two_pow h1 h2

theorem crcByte_lt (c : Nat) (b : Byte) (h : c < 16777216) : crcByte c b < 16777216 := by
  unfold crcByte
  have hb := UInt8.toNat_lt b
  have h0 : c ^^^ (b.toNat * 65536) < 16777216 := by
    have h1 : c < 2 ^ 24 := by omega
    have h2 : b.toNat * 65536 < 2 ^ 24 := by omega
    exact Nat.xor_lt_two_pow h1 h2
  exact crcShift_lt _ (crcShift_lt _ (crcShift_lt _ (crcShift_lt _ (crcShift_lt _ (crcShift_lt _
    (crcShift_lt _ (crcShift_lt _ h0)))))))

theorem crcFrom_lt (d : Bytes) : ∀ c, c < 16777216 → crcFrom c d < 16777216 := by
  induction d with
  | nil => intro c h; simpa [crcFrom] using h
  | cons b r ih => intro c h; simpa [crcFrom] using ih _ (crcByte_lt c b h)

theorem crc24_lt (d : Bytes) : crc24 d < 16777216 := crcFrom_lt d _ (by decide)

/-! ## wrap -/

theorem wrapAux_line (w : Nat) (l : Bytes) : ∀ (col : Nat) (rest : Bytes), l ≠ [] → col + l.length = w →
    wrapAux w col (l ++ rest) = l ++ LF :: wrapAux w 0 rest := by
  induction l with
  | nil => intro col rest h; exact absurd rfl h
  | cons b l ih =>
    intro col rest _ hlen
    cases l with
    | nil =>
      have : col + 1 = w := by simpa using hlen
      simp [wrapAux, this]
    | cons b' l' =>
      have hne : ¬ (col + 1 = w) := by simp at hlen; omega
      have := ih (col + 1) rest (by simp) (by simp at hlen ⊢; omega)
      simp only [List.cons_append] at this ⊢
      rw [wrapAux, if_neg hne, this]

theorem wrap_line (w : Nat) (l rest : Bytes) (hw : 0 < w) (hl : l.length = w) :
    wrap w (l ++ rest) = l ++ LF :: wrap w rest := by
  have hne : l ≠ [] := by intro h; subst h; simp at hl; omega
  exact wrapAux_line w l 0 rest hne (by omega)

theorem wrapAux_short (w : Nat) (l : Bytes) : ∀ (col : Nat), col + l.length < w →
    wrapAux w col l = if col = 0 ∧ l = [] then [] else l ++ [LF] := by
  induction l with
  | nil => intro col _; by_cases h : col = 0 <;> simp [wrapAux, h]
  | cons b l ih =>
    intro col hlen
    have hne : ¬ (col + 1 = w) := by simp at hlen; omega
    have := ih (col + 1) (by simp at hlen ⊢; omega)
    rw [wrapAux, if_neg hne, this]
    simp

theorem wrap_short (w : Nat) (l : Bytes) (h : l.length < w) : wrap w l = lwFinish l := by
  unfold wrap lwFinish
  rw [wrapAux_short w l 0 (by omega)]
  cases l <;> simp

/-! ## LineWriter -/

theorem lwWrite_spec (w : Nat) (hw : 0 < w) (extra input : Bytes) (he : extra.length < w) :
    (lwWrite w extra input).2.1 ≤ input.length ∧ (input ≠ [] → 0 < (lwWrite w extra input).2.1) ∧
    (lwWrite w extra input).2.2.length < w ∧
    ∀ rest, (lwWrite w extra input).1 ++ wrap w ((lwWrite w extra input).2.2 ++ rest) =
      wrap w (extra ++ input.take (lwWrite w extra input).2.1 ++ rest) := by
  unfold lwWrite
  split
  · next h0 => exact ⟨Nat.zero_le _, fun h => absurd (List.isEmpty_iff.mp h0) h, he, fun _ => by simp⟩
  · next h0 =>
    have hpos : 0 < input.length := List.length_pos_iff.mpr (fun h => h0 (List.isEmpty_iff.mpr h))
    split
    · next h1 => exact ⟨Nat.le_refl _, fun _ => hpos, by simpa using h1, fun _ => by simp⟩
    · next h1 =>
      have hm : min (w - extra.length) input.length = w - extra.length := Nat.min_eq_left (by omega)
      simp only [hm]
      refine ⟨by omega, fun _ => by omega, hw, fun rest => ?_⟩
      have hl : (extra ++ input.take (w - extra.length)).length = w := by
        rw [List.length_append, List.length_take]; omega
      rw [List.nil_append, List.append_assoc (extra ++ _), wrap_line w _ _ hw hl]
      simp only [List.append_assoc, List.cons_append, List.nil_append]

/-- invariant of the line writer under an arbitrary sequence of offered writes: what has been emitted is
what `wrap` emits for the consumed octets, whatever is written later -/
theorem lwFeed_spec (w : Nat) (hw : 0 < w) (offers : List Nat) :
    ∀ (extra data : Bytes), extra.length < w →
      ∃ consumed, data = consumed ++ (lwFeed w extra data offers).2.2 ∧
        (lwFeed w extra data offers).2.1.length < w ∧
        ∀ rest, (lwFeed w extra data offers).1 ++ wrap w ((lwFeed w extra data offers).2.1 ++ rest) =
          wrap w (extra ++ consumed ++ rest) := by
  induction offers with
  | nil => intro extra data he; exact ⟨[], rfl, he, fun _ => by simp [lwFeed]⟩
  | cons n ns ih =>
    intro extra data he
    obtain ⟨hle, _, hlt, hw1⟩ := lwWrite_spec w hw extra (data.take n) he
    simp only [List.take_take, Nat.min_eq_left (Nat.le_trans hle (List.length_take_le _ _))] at hw1
    simp only [lwFeed]
    generalize lwWrite w extra (data.take n) = r at hlt hw1 ⊢
    obtain ⟨c, h1, h2, h3⟩ := ih r.2.2 (data.drop r.2.1) hlt
    refine ⟨data.take r.2.1 ++ c, ?_, h2, fun rest => ?_⟩
    · rw [List.append_assoc, ← h1, List.take_append_drop]
    · rw [List.append_assoc, h3]
      simpa only [List.append_assoc] using hw1 (c ++ rest)

/-- every write of a non-empty buffer makes progress, so offering the whole rest `data.length` times
(what `write_all` does) consumes everything -/
theorem lwFeed_write_all (w : Nat) (hw : 0 < w) (big : Nat) : ∀ (m : Nat) (extra data : Bytes),
    extra.length < w → data.length ≤ m → data.length ≤ big →
    (lwFeed w extra data (List.replicate m big)).2.2 = [] := by
  intro m
  induction m with
  | zero => intro extra data _ hm _; exact List.eq_nil_of_length_eq_zero (Nat.le_zero.mp hm)
  | succ m ih =>
    intro extra data he hm hb
    obtain ⟨_, hpos, hlt, _⟩ := lwWrite_spec w hw extra (data.take big) he
    rw [List.take_of_length_le hb] at hpos hlt
    simp only [List.replicate_succ, lwFeed, List.take_of_length_le hb]
    refine ih _ _ hlt ?_ (Nat.le_trans (by simp) hb)
    rw [List.length_drop]
    by_cases hd : data = []
    · subst hd; exact Nat.zero_le _
    · have := hpos hd; omega

/-! ## line structure of the emitted body -/

/-- consecutive pieces of `w` bytes (the last one possibly shorter); `fuel ≥ T.length` -/
def linesOf (w : Nat) : Nat → Bytes → List Bytes
  | 0, _ => []
  | f + 1, T => if T.isEmpty then [] else T.take w :: linesOf w f (T.drop w)

theorem wrap_eq_lines (w : Nat) (hw : 0 < w) : ∀ (f : Nat) (T : Bytes), T.length ≤ f →
    wrap w T = (linesOf w f T).flatMap (· ++ [LF]) := by
  intro f
  induction f with
  | zero =>
    intro T hT
    have : T = [] := List.eq_nil_of_length_eq_zero (by omega)
    subst this; rfl
  | succ f ih =>
    intro T hT
    by_cases hE : T = []
    · subst hE; rfl
    · have hne : T.isEmpty = false := by simpa using hE
      simp only [linesOf, hne]
      by_cases hlt : T.length < w
      · have h1 : T.take w = T := List.take_of_length_le (by omega)
        have h2 : T.drop w = [] := List.drop_of_length_le (by omega)
        rw [h1, h2, wrap_short w T hlt]
        have : linesOf w f [] = [] := by cases f <;> rfl
        simp [lwFinish, hne, this]
      · have hsplit : T = T.take w ++ T.drop w := (List.take_append_drop _ _).symm
        have hl : (T.take w).length = w := by simp; omega
        have := wrap_line w (T.take w) (T.drop w) hw hl
        rw [← hsplit] at this
        rw [this, ih (T.drop w) (by simp; omega)]
        simp

theorem linesOf_spec (w : Nat) (hw : 0 < w) : ∀ (f : Nat) (T : Bytes), T.length ≤ f →
    (linesOf w f T).flatten = T ∧
    (∀ l ∈ linesOf w f T, 0 < l.length ∧ l.length ≤ w) ∧
    (∀ l ∈ (linesOf w f T).dropLast, l.length = w) := by
  intro f
  induction f with
  | zero =>
    intro T hT
    have : T = [] := List.eq_nil_of_length_eq_zero (by omega)
    subst this; simp [linesOf]
  | succ f ih =>
    intro T hT
    by_cases hE : T = []
    · subst hE; simp [linesOf]
    · have hne : T.isEmpty = false := by simpa using hE
      have hpos : 0 < T.length := List.length_pos_iff.mpr hE
      obtain ⟨h1, h2, h3⟩ := ih (T.drop w) (by simp; omega)
      simp only [linesOf, hne, Bool.false_eq_true, if_false]
      refine ⟨by simp [h1], ?_, ?_⟩
      · intro l hl
        rcases List.mem_cons.mp hl with rfl | hl
        · simp; omega
        · exact h2 l hl
      · intro l hl
        by_cases hrest : linesOf w f (T.drop w) = []
        · simp [hrest] at hl
        · rw [List.dropLast_cons_of_ne_nil hrest] at hl
          rcases List.mem_cons.mp hl with rfl | hl
          · -- a following line exists, so this one is full
            by_cases hlt : T.length ≤ w
            · have : T.drop w = [] := List.drop_of_length_le hlt
              rw [this] at hrest
              exact absurd (by cases f <;> rfl) hrest
            · simp; omega
          · exact h3 l hl

end Rpgp.Armor
