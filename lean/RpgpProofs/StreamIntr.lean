import RpgpModel.StreamIntr
/-! Interruptions are transparent to the repaired `fill_buffer` (C09). -/
namespace Rpgp

theorem fixD14c_on : Gen.fixD14cFillBufferRetriesInterrupted = 1 := by decide

/-- two results agree up to the interruptions left in the source -/
def RestAgrees (a : Option (Bytes × List EvI)) (b : Option (Bytes × List Ev)) : Prop :=
  match a, b with
  | none, none => True
  | some (x, ra), some (y, rb) => x = y ∧ dropIntr ra = rb
  | _, _ => False

theorem restAgrees_iff (a : Option (Bytes × List EvI)) (b : Option (Bytes × List Ev)) :
    RestAgrees a b ↔ b = a.map fun p => (p.1, dropIntr p.2) := by
  match a, b with
  | none, none => exact ⟨fun _ => rfl, fun _ => trivial⟩
  | none, some _ => exact ⟨False.elim, fun h => nomatch h⟩
  | some _, none => exact ⟨False.elim, fun h => nomatch h⟩
  | some (x, ra), some (y, rb) =>
    simp only [RestAgrees, Option.map_some, Option.some.injEq, Prod.mk.injEq]
    exact ⟨fun h => ⟨h.1.symm, h.2.symm⟩, fun h => ⟨h.1.symm, h.2.symm⟩⟩

theorem fillBufferI_zero_req (fixed : Bool) (fuel : Nat) (src : List EvI) :
    fillBufferI fixed fuel src 0 = some ([], src) := by
  cases fuel <;> rfl

theorem fillBufferEv_zero_req (fuel : Nat) (src : List Ev) : fillBufferEv fuel src 0 = some ([], src) := by
  cases fuel <;> rfl

theorem evReadI_some {src src' : List EvI} {n : Nat} {r : RdRes} (h : evReadI src n = (some r, src')) :
    evRead (dropIntr src) n = (r, dropIntr src') ∧
    ∀ got, r = .bytes got → got ≠ [] → src'.length + (n - got.length) < src.length + n := by
  match src with
  | [] => cases h; exact ⟨rfl, fun _ hg hne => absurd (RdRes.bytes.inj hg).symm hne⟩
  | .err :: _ => cases h; exact ⟨rfl, fun _ hg => nomatch hg⟩
  | .intr :: _ => cases h
  | .data c :: es =>
    simp only [evReadI] at h
    simp only [dropIntr, evRead]
    split at h <;> cases h
    · exact ⟨if_pos ‹_›, fun _ hg _ => by cases hg; simp only [List.length_cons]; omega⟩
    · refine ⟨if_neg ‹_›, fun _ hg hne => ?_⟩
      cases hg
      have := List.length_pos_iff.mpr hne
      have := List.length_take_le n c
      simp only [List.length_cons]
      omega

theorem evReadI_none {src src' : List EvI} {n : Nat} (h : evReadI src n = (none, src')) : src = .intr :: src' := by
  match src with
  | [] => cases h
  | .err :: _ => cases h
  | .intr :: _ => cases h; rfl
  | .data c :: es => simp only [evReadI] at h; split at h <;> cases h

/-- fuel: one unit per event and per octet asked for is plenty -/
theorem fillBufferEv_dropIntr (fuelI : Nat) : ∀ (src : List EvI) (n fuel : Nat),
    src.length + n ≤ fuelI → src.length + n ≤ fuel →
    fillBufferEv fuel (dropIntr src) n = (fillBufferI true fuelI src n).map fun p => (p.1, dropIntr p.2) := by
  induction fuelI with
  | zero =>
    intro src n fuel h _
    cases Nat.eq_zero_of_add_eq_zero_left (Nat.le_zero.mp h)
    exact fillBufferEv_zero_req fuel _
  | succ fuelI ih =>
    intro src n fuel h1 h2
    by_cases hn : n = 0
    · subst hn; rw [fillBufferI_zero_req]; exact fillBufferEv_zero_req fuel _
    rw [fillBufferI, if_neg hn]
    match hrd : evReadI src n with
    | (none, src') =>
      cases evReadI_none hrd
      rw [List.length_cons] at h1 h2
      exact ih src' n fuel (by omega) (by omega)
    | (some r, src') =>
      obtain ⟨f, rfl⟩ := Nat.exists_eq_succ_of_ne_zero (n := fuel) (by omega)
      obtain ⟨hev, hlt⟩ := evReadI_some hrd
      rw [fillBufferEv, if_neg hn, hev]
      match r with
      | .fail => rfl
      | .bytes got =>
        by_cases hemp : got.isEmpty = true
        · simp only [hemp, if_true, Option.map_some]
        · have hlt := hlt got rfl (by simpa using hemp)
          simp only [hemp, Bool.false_eq_true, if_false]
          rw [ih src' (n - got.length) f (Nat.le_of_lt_succ (Nat.lt_of_lt_of_le hlt h1))
            (Nat.le_of_lt_succ (Nat.lt_of_lt_of_le hlt h2))]
          cases fillBufferI true fuelI src' (n - got.length) <;> rfl

theorem fillBufferI_transparent (fuelI fuel : Nat) (src : List EvI) (n : Nat)
    (h1 : src.length + n ≤ fuelI) (h2 : src.length + n ≤ fuel) :
    RestAgrees (fillBufferI true fuelI src n) (fillBufferEv fuel (dropIntr src) n) :=
  (restAgrees_iff _ _).mpr (fillBufferEv_dropIntr fuelI src n fuel h1 h2)

/-- regression witness (D14c): the source delivers `[1, 2]`, is interrupted, delivers `[3, 4]`.  The
pre-repair helper gives up (and its caller, retrying, starts the window again at `[3, 4]`: a hole);
the repaired one returns the whole window -/
theorem fillBuffer_interrupted_witness :
    fillBufferI false 8 [.data [1, 2], .intr, .data [3, 4]] 4 = none ∧
    fillBufferI true 8 [.data [1, 2], .intr, .data [3, 4]] 4 = some ([1, 2, 3, 4], []) := by decide

end Rpgp
