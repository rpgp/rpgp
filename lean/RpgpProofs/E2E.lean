import RpgpProofs.E2ESize
import RpgpProps.C10
/-! E2E, recovering the session key with ONE presented secret (a thin adapter from the wire values
`Wire.Pkesk`, `Wire.Skesk` to the abstract ESKs of the C18 model, then
`C18.each_password_recipient_alone_partial` / `C18.each_key_recipient_decrypts`), and the assembly of the
layers: `readFull secret (buildFull cfg src)`. -/
namespace Rpgp.E2E
open Rpgp

/-! ### the session-key search on the builder's ESKs -/

/-- the ESKs handed to `TheRing` -/
def ringEsks (P : Prims) (e : Encryption) : List (Ring.Esk Wire.PkeskVals Wire.Skesk) :=
  (wireEsks P e).map WireEsk.toRing

theorem toRingSk_skeskOf (P : Prims) (e : Encryption) (wf : EskWF e) (r : PwRcpt) :
    ∃ ver, toRingSk (skeskOf P e r) = .known ver e.container.sym (skeskOf P e r) ∧ Ring.skSkip false ver = false := by
  have hsym := wf.sym.1
  cases hc : e.container with
  | v1 sym pre =>
    simp only [hc, Container.sym] at hsym
    exact ⟨Gen.skeskVersionA, by simp [skeskOf, hc, toRingSk, Container.sym, toUInt8_toNat_of_lt sym hsym], by decide⟩
  | v2 sym aead cs salt =>
    simp only [hc, Container.sym] at hsym
    exact ⟨Gen.skeskVersionC, by simp [skeskOf, hc, toRingSk, Container.sym, toUInt8_toNat_of_lt sym hsym], by decide⟩

theorem mem_ringEsks (P : Prims) (e : Encryption) (x : Ring.Esk Wire.PkeskVals Wire.Skesk) :
    x ∈ ringEsks P e ↔ (∃ r ∈ e.passwords, x = .sk (toRingSk (skeskOf P e r))) ∨
      ∃ r ∈ e.keys, x = .pk (toRingPk (pkeskPacket P e r)) := by
  simp [ringEsks, wireEsks, WireEsk.toRing, eq_comm]

theorem mem_ringEsks_sk (P : Prims) (e : Encryption) (wf : EskWF e) (ver alg : Nat) (ct : Wire.Skesk)
    (h : Ring.Esk.sk (.known ver alg ct) ∈ ringEsks P e) :
    ∃ r ∈ e.passwords, ct = skeskOf P e r ∧ alg = e.container.sym := by
  rcases (mem_ringEsks P e _).mp h with ⟨r, hr, heq⟩ | ⟨r, _, heq⟩
  · obtain ⟨ver', hk, _⟩ := toRingSk_skeskOf P e wf r
    simp only [hk, Ring.Esk.sk.injEq, Ring.Skesk.known.injEq] at heq
    exact ⟨r, hr, heq.2.2, heq.2.1⟩
  · cases heq

theorem mem_ringEsks_pk (P : Prims) (e : Encryption) (pe : Ring.Pkesk Wire.PkeskVals)
    (h : Ring.Esk.pk pe ∈ ringEsks P e) : ∃ r ∈ e.keys, pe = toRingPk (pkeskPacket P e r) := by
  rcases (mem_ringEsks P e _).mp h with ⟨r, _, heq⟩ | ⟨r, hr, heq⟩
  · cases heq
  · exact ⟨r, hr, Ring.Esk.pk.inj heq⟩

theorem no_plaintext_skesk (P : Prims) (e : Encryption) (wf : EskWF e) :
    ∀ ver ct, Ring.Esk.sk (.known ver Gen.symIdPlaintext ct) ∉ ringEsks P e := by
  intro ver ct h
  obtain ⟨_, _, _, halg⟩ := mem_ringEsks_sk P e wf ver _ ct h
  exact sym_ne_zero e wf halg.symm

theorem payload_pkesk (P : Prims) (e : Encryption) (r : KeyRcpt) :
    (toRingPk (pkeskPacket P e r)).payload = some (pkVals P e r, e.container.isV2) := by
  cases hc : e.container with
  | v1 sym pre => simp [pkeskPacket, hc, toRingPk, Ring.Pkesk.payload, Container.isV2]
  | v2 sym aead cs salt =>
    by_cases ha : r.anonymous <;> simp [pkeskPacket, hc, toRingPk, Ring.Pkesk.payload, Container.isV2, ha]

/-- **each password recipient alone** at message level: `decrypt_with_password(pw_r)` finds the session
key and opens the container, provided this password does not "open" another SKESK of the message to a
different key (the guard of `C18.each_password_recipient_alone_partial`; see D18b) -/
theorem ring_password (P : Prims) (L : CryptoLaws P) (e : Encryption) (wf : EskWF e)
    (openEd : Wire.Seipd → Ring.SessionKey → Option Result) (ed : Wire.Seipd) (res : Result)
    (r : PwRcpt) (hr : r ∈ e.passwords) (b : Bytes) (hb : skeskBody P e r = some b)
    (hguard : ∀ r' ∈ e.passwords, ∀ k', skDec P (skeskOf P e r') r.pw = some k' → k' = sessionKeyOf e)
    (hed : openEd ed (sessionKeyOf e) = some res) :
    Ring.decryptWithPassword (ringPrims P) openEd r.pw (.encrypted (ringEsks P e) ed) = .ok res := by
  obtain ⟨_, _, hopen⟩ := skeskBody_facts P L e r b wf hr hb
  obtain ⟨ver, hk, hskip⟩ := toRingSk_skeskOf P e wf r
  have hmem : Ring.Esk.sk (.known ver e.container.sym (skeskOf P e r)) ∈ ringEsks P e :=
    (mem_ringEsks P e _).mpr (Or.inl ⟨r, hr, by rw [hk]⟩)
  obtain ⟨rr, hfind⟩ := C18.each_password_recipient_alone_partial (ringPrims P) r.pw (ringEsks P e) true false
    (sessionKeyOf e) (no_plaintext_skesk P e wf) ver e.container.sym (skeskOf P e r) hmem hskip hopen
    (by
      intro ver' alg' ct' hm' k' hk'
      obtain ⟨r', hr', rfl, _⟩ := mem_ringEsks_sk P e wf ver' alg' ct' hm'
      exact hguard r' hr' k' hk')
  simp [Ring.decryptWithPassword, Ring.decryptTheRing, hfind, hed, Except.map]

/-- a recipient key as it sits in the presented `SignedSecretKey`: a component with the recipient's
identity whose secret material is unlocked -/
def HoldsKey (K : Ring.SecKey Nat Unit) (r : KeyRcpt) : Prop :=
  ∃ c ∈ K.comps, c.ident = r.ident ∧ c.secret = .plain r.key

theorem matchIdentity_own (P : Prims) (e : Encryption) (r : KeyRcpt) (hver : r.ident.fp.ver < 256) :
    (toRingPk (pkeskPacket P e r)).matchIdentity r.ident = true := by
  cases hc : e.container with
  | v1 sym pre =>
    by_cases ha : r.anonymous <;> simp [pkeskPacket, hc, toRingPk, Ring.Pkesk.matchIdentity, ha]
  | v2 sym aead cs salt =>
    by_cases ha : r.anonymous
    · simp [pkeskPacket, hc, toRingPk, Ring.Pkesk.matchIdentity, ha]
    · simp only [pkeskPacket, hc, toRingPk, Ring.Pkesk.matchIdentity, ha, Bool.false_eq_true, if_false,
        toUInt8_toNat_of_lt _ hver]
      simp

/-- **each key recipient alone** at message level: `decrypt(&Password::empty(), key)` finds the session
key and opens the container, provided no component of the presented key decrypts a PKESK of the
message to a *different* session key (robustness of the public-key primitive, as in
`C18.each_key_recipient_alone`) -/
theorem ring_key (P : Prims) (e : Encryption) (wf : EskWF e)
    (openEd : Wire.Seipd → Ring.SessionKey → Option Result) (ed : Wire.Seipd) (res : Result)
    (K : Ring.SecKey Nat Unit) (r : KeyRcpt) (hr : r ∈ e.keys) (hK : HoldsKey K r) (hver : r.ident.fp.ver < 256)
    (hlaw : PkLaw P r.key r.isX)
    (hrob : ∀ c' ∈ K.comps, ∀ p, c'.secret = .plain p → ∀ r' ∈ e.keys, ∀ k,
      P.pkDec p (pkVals P e r') e.container.isV2 = some k → k = sessionKeyOf e)
    (hed : openEd ed (sessionKeyOf e) = some res) :
    Ring.decrypt (ringPrims P) openEd [] K (.encrypted (ringEsks P e) ed) = .ok res := by
  obtain ⟨c, hc, hid, hsec⟩ := hK
  have hmem : Ring.Esk.pk (toRingPk (pkeskPacket P e r)) ∈ ringEsks P e :=
    (mem_ringEsks P e _).mpr (Or.inr ⟨r, hr, rfl⟩)
  refine C18.each_key_recipient_decrypts (ringPrims P) openEd [] K (ringEsks P e) ed (sessionKeyOf e) res
    (no_plaintext_skesk P e wf) _ hmem _ _ (payload_pkesk P e r) c hc
    (by rw [hid]; exact matchIdentity_own P e r hver)
    (C18.unlocked_opens (ringPrims P) _ c _ _ r.key hsec _ (pkDec_pkVals P e wf r hlaw)) ?_ hed
  intro e' he' c' hc' k hy
  obtain ⟨r', hr', rfl⟩ := mem_ringEsks_pk P e e' he'
  obtain ⟨ct, v6, p, hp, _, hreach, hd⟩ := hy
  rw [payload_pkesk] at hp
  simp only [Option.some.injEq, Prod.mk.injEq] at hp
  obtain ⟨rfl, rfl⟩ := hp
  rcases hreach with hpl | ⟨enc, pw, _, _, hu⟩
  · exact hrob c' hc' p hpl r' hr' k hd
  · simp [ringPrims] at hu

/-! ### the binary message -/

theorem buildBinary_some_inv (P : Prims) (c : Cfg) (src : List Bytes) (msg : Bytes)
    (h : buildBinary P c src = some msg) :
    srcOk P c.mode src = true ∧ ∃ S, signedStream P c src = some S ∧
      match c.encryption with
      | none => msg = compressedLayer P c S
      | some e => sessionKeyOk e = true ∧ (eskBodies P e).all (fun tb => tb.2.isSome) = true ∧
          msg = ((eskBodies P e).map fun tb => fixedPkt tb.1 (tb.2.getD [])).flatten ++
            containerPkt P c.k e (compressedLayer P c S) := by
  unfold buildBinary at h
  cases hok : srcOk P c.mode src
  · simp [hok] at h
  · simp only [hok, Bool.not_true, Bool.false_eq_true, if_false] at h
    refine ⟨rfl, ?_⟩
    cases hS : signedStream P c src with
    | none => simp [hS] at h
    | some S =>
      simp only [hS] at h
      refine ⟨S, rfl, ?_⟩
      cases he : c.encryption with
      | none => simp only [he] at h; exact (Option.some.inj h).symm
      | some e =>
        simp only [he] at h
        cases hk : sessionKeyOk e
        · simp [hk] at h
        · simp only [hk, Bool.not_true, Bool.false_eq_true, if_false] at h
          by_cases ha : ((eskBodies P e).all fun tb => tb.2.isSome) = true
          · rw [if_pos ha] at h
            exact ⟨hk, ha, (Option.some.inj h).symm⟩
          · rw [if_neg ha] at h; cases h

theorem readInner_inner (P : Prims) (L : Laws P) (o : ReadOpts) (c : Cfg) (src : List Bytes) (S : Bytes)
    (wf : WF P o c src) (hS : signedStream P c src = some S) :
    readInner P o (compressedLayer P c S) = some (expected c src) := by
  rw [readInner_compressedLayer P L.decompress_compress o c src S wf.signed hS (wf.comp S hS)]
  exact readSigned_signedStream P L.verify_sign o wf.hashRead c src S wf.signed hS wf.verifiers

theorem readBinary_plain (P : Prims) (L : Laws P) (o : ReadOpts) (c : Cfg) (src : List Bytes) (msg : Bytes)
    (wf : WF P o c src) (henc : c.encryption = none) (hb : buildBinary P c src = some msg) (secret : Secret) :
    readBinary P o secret msg = some (expected c src) := by
  obtain ⟨_, S, hS, hcase⟩ := buildBinary_some_inv P c src msg hb
  rw [henc] at hcase
  subst hcase
  unfold readBinary
  rw [parseTop_compressedLayer P c src S wf.signed hS (wf.comp S hS)]
  exact readInner_inner P L o c src S wf hS

/-- encrypted message: the reader sees the builder's ESKs and container, and the container opens under
the session key of the message to the expected result; what remains is the session-key search -/
theorem readBinary_encrypted (P : Prims) (L : Laws P) (o : ReadOpts) (c : Cfg) (src : List Bytes) (msg : Bytes)
    (wf : WF P o c src) (e : Encryption) (he : c.encryption = some e) (hb : buildBinary P c src = some msg) :
    EskWF e ∧ (eskBodies P e).all (fun tb => tb.2.isSome) = true ∧
    ∃ ed, openEd P o ed (sessionKeyOf e) = some (expected c src) ∧
      ∀ secret, readBinary P o secret msg =
        match secret with
        | .none => none
        | .password pw => (Ring.decryptWithPassword (ringPrims P) (openEd P o) pw (.encrypted (ringEsks P e) ed)).toOption
        | .key K => (Ring.decrypt (ringPrims P) (openEd P o) [] K (.encrypted (ringEsks P e) ed)).toOption := by
  obtain ⟨_, S, hS, hcase⟩ := buildBinary_some_inv P c src msg hb
  rw [he] at hcase
  obtain ⟨hsk, hall, rfl⟩ := hcase
  obtain ⟨wfC, wfE, wfP⟩ := wf.enc S e hS he
  refine ⟨wfE, hall, edataOf P e (compressedLayer P c S), ?_, ?_⟩
  · unfold openEd
    rw [openContainer_edataOf P L.crypto o c.k e _ wfC hsk]
    exact readInner_inner P L o c src S wf hS
  · intro secret
    unfold readBinary
    rw [parseTop_encrypted P L.crypto o c.k e _ wfC wfE wfP hall]
    rfl

theorem readBinary_password (P : Prims) (L : Laws P) (o : ReadOpts) (c : Cfg) (src : List Bytes) (msg : Bytes)
    (wf : WF P o c src) (e : Encryption) (he : c.encryption = some e) (hb : buildBinary P c src = some msg)
    (r : PwRcpt) (hr : r ∈ e.passwords)
    (hguard : ∀ r' ∈ e.passwords, ∀ k', skDec P (skeskOf P e r') r.pw = some k' → k' = sessionKeyOf e) :
    readBinary P o (.password r.pw) msg = some (expected c src) := by
  obtain ⟨wfE, hall, ed, hed, hread⟩ := readBinary_encrypted P L o c src msg wf e he hb
  obtain ⟨b, hbody⟩ := (eskBodies_all_inv P e hall).1 r hr
  rw [hread]
  simp only
  rw [ring_password P L.crypto e wfE (openEd P o) ed _ r hr b hbody hguard hed]
  rfl

theorem readBinary_key (P : Prims) (L : Laws P) (o : ReadOpts) (c : Cfg) (src : List Bytes) (msg : Bytes)
    (wf : WF P o c src) (e : Encryption) (he : c.encryption = some e) (hb : buildBinary P c src = some msg)
    (K : Ring.SecKey Nat Unit) (r : KeyRcpt) (hr : r ∈ e.keys) (hK : HoldsKey K r) (hver : r.ident.fp.ver < 256)
    (hlaw : PkLaw P r.key r.isX)
    (hrob : ∀ c' ∈ K.comps, ∀ p, c'.secret = .plain p → ∀ r' ∈ e.keys, ∀ k,
      P.pkDec p (pkVals P e r') e.container.isV2 = some k → k = sessionKeyOf e) :
    readBinary P o (.key K) msg = some (expected c src) := by
  obtain ⟨wfE, _, ed, hed, hread⟩ := readBinary_encrypted P L o c src msg wf e he hb
  rw [hread]
  simp only
  rw [ring_key P e wfE (openEd P o) ed _ K r hr hK hver hlaw hrob hed]
  rfl

/-! ### armor and source schedules -/

theorem buildFull_some_inv (P : Prims) (c : Cfg) (src : List Bytes) (m : Bytes) (h : buildFull P c src = some m) :
    ∃ b, buildBinary P c src = some b ∧
      m = (match c.armor with | none => b | some ck => Armor.armorWrite .message [] b ck) := by
  unfold buildFull at h
  cases hb : buildBinary P c src with
  | none => simp [hb] at h
  | some b => simp only [hb, Option.map_some, Option.some.injEq] at h; exact ⟨b, rfl, h.symm⟩

theorem readFull_chunks (P : Prims) (o : ReadOpts) (secret : Secret) (c : Cfg) (m b : Bytes)
    (hb : m = (match c.armor with | none => b | some ck => Armor.armorWrite .message [] b ck))
    (chunks : List Bytes) (hflat : chunks.flatten = m) :
    readFull P o secret c.armor.isSome chunks = readBinary P o secret b := by
  unfold readFull
  cases ha : c.armor with
  | none =>
    simp only [ha] at hb
    simp [hflat, hb]
  | some ck =>
    simp only [ha] at hb
    simp only [Option.isSome_some, if_true]
    rw [C10.schedule_independent_no_headers false .message (by decide) b ck chunks (by rw [hflat, hb]),
      C10.armor_roundtrip .message [] b ck (by decide) (by decide)]
    rfl

/-! ### the composed statement -/

/-- the presented secret belongs to an intended recipient of the message (for an unencrypted message
nothing needs to be presented, and whatever is presented is ignored) -/
inductive Intended (P : Prims) (c : Cfg) : Secret → Prop where
  | unencrypted (s : Secret) : c.encryption = none → Intended P c s
  | password (e : Encryption) (r : PwRcpt) : c.encryption = some e → r ∈ e.passwords → Intended P c (.password r.pw)
  | key (e : Encryption) (r : KeyRcpt) (K : Ring.SecKey Nat Unit) : c.encryption = some e → r ∈ e.keys →
      HoldsKey K r → r.ident.fp.ver < 256 → PkLaw P r.key r.isX → Intended P c (.key K)

/-- the presented secret obtains no *other* session key from any ESK of the message.  For a key this is
robustness of the public-key scheme; for a password on SKESK v6 robustness of the AEAD; for a password
on SKESK v4 packets of *other* recipients nothing in CFB provides it (finding D18b). -/
def NoForeignOpen (P : Prims) (c : Cfg) : Secret → Prop
  | .none => True
  | .password pw => ∀ e, c.encryption = some e → ∀ r' ∈ e.passwords, ∀ k',
      skDec P (skeskOf P e r') pw = some k' → k' = sessionKeyOf e
  | .key K => ∀ e, c.encryption = some e → ∀ c' ∈ K.comps, ∀ p, c'.secret = .plain p → ∀ r' ∈ e.keys, ∀ k,
      P.pkDec p (pkVals P e r') e.container.isV2 = some k → k = sessionKeyOf e

/-- **end-to-end round trip, guarded form**: for every configuration, every payload (delivered to the
builder in any reads `src`), every intended recipient secret presented alone and every way `chunks`
of handing the message to the reader -/
theorem roundtrip_guarded (P : Prims) (L : Laws P) (o : ReadOpts) (c : Cfg) (src : List Bytes)
    (wf : WF P o c src) (m : Bytes) (hb : buildFull P c src = some m)
    (secret : Secret) (hint : Intended P c secret) (hrob : NoForeignOpen P c secret)
    (chunks : List Bytes) (hflat : chunks.flatten = m) :
    readFull P o secret c.armor.isSome chunks = some (expected c src) := by
  obtain ⟨b, hbin, hm⟩ := buildFull_some_inv P c src m hb
  rw [readFull_chunks P o secret c m b hm chunks hflat]
  cases hint with
  | unencrypted _ henc => exact readBinary_plain P L o c src b wf henc hbin _
  | password e r he hr => exact readBinary_password P L o c src b wf e he hbin r hr (hrob e he)
  | key e r K he hr hK hver hlaw => exact readBinary_key P L o c src b wf e he hbin K r hr hK hver hlaw (hrob e he)

/-! ### discharging the guard -/

theorem noForeignOpen_unencrypted (P : Prims) (c : Cfg) (henc : c.encryption = none) (secret : Secret) :
    NoForeignOpen P c secret := by
  cases secret with
  | none => trivial
  | password pw => intro e he; rw [henc] at he; cases he
  | key K => intro e he; rw [henc] at he; cases he

theorem noForeignOpen_password_of (P : Prims) (c : Cfg) (e : Encryption) (he : c.encryption = some e) (pw : Bytes)
    (h : ∀ r' ∈ e.passwords, ∀ k', skDec P (skeskOf P e r') pw = some k' → k' = sessionKeyOf e) :
    NoForeignOpen P c (.password pw) := by
  intro e' he'
  obtain rfl : e = e' := Option.some.inj (he.symm.trans he')
  exact h

/-- robustness laws of the primitives ("a ciphertext made under one key never opens under another to
something else").  `pk_foreign` and `aead_committing` hold of the real primitives up to negligible
probability.  `skesk4_committing` does **not** hold of CFB: SKESK v4 has no integrity, and the
plausibility check of `SymKeyEncryptedSessionKey::decrypt` accepts a foreign packet for 3 to 5 of the 256
values of its first decrypted octet (finding D18b); it is listed so that the one place where it is needed
is visible. -/
structure RobustLaws (P : Prims) : Prop where
  pk_foreign : ∀ p j d v6, p ≠ j → P.pkDec p (P.pkEnc j d v6) v6 = none
  aead_committing : ∀ s m k k' n ad pt x, P.aeadOpen s m k' n ad (P.sym.aead s m k n ad pt) = some x → x = pt
  skesk4_committing : ∀ alg k k' iv (a : Byte) sk x,
    Ring.decodeSkeskV4 (P.cfbDec alg k' iv (P.sym.cfbEnc alg k iv (a :: sk))) = some x → x = .v3_4 a.toNat sk

theorem noForeignOpen_key (P : Prims) (R : ∀ p j d v6, p ≠ j → P.pkDec p (P.pkEnc j d v6) v6 = none)
    (c : Cfg) (K : Ring.SecKey Nat Unit) (hwf : ∀ e, c.encryption = some e → EskWF e)
    (hlaws : ∀ e, c.encryption = some e → ∀ r' ∈ e.keys, PkLaw P r'.key r'.isX) :
    NoForeignOpen P c (.key K) := by
  intro e he c' _ p _ r' hr' k hk
  by_cases hp : p = r'.key
  · subst hp
    rw [pkDec_pkVals P e (hwf e he) r' (hlaws e he r' hr')] at hk
    exact (Option.some.inj hk).symm
  · obtain ⟨d, hd⟩ := pkVals_eq_pkEnc P e r'
    rw [hd, R p r'.key _ _ hp] at hk
    cases hk

theorem noForeignOpen_password_v2 (P : Prims)
    (R : ∀ s m k k' n ad pt x, P.aeadOpen s m k' n ad (P.sym.aead s m k n ad pt) = some x → x = pt)
    (e : Encryption) (wfE : EskWF e) (hv2 : e.container.isV2 = true) (pw : Bytes) :
    ∀ r' ∈ e.passwords, ∀ k', skDec P (skeskOf P e r') pw = some k' → k' = sessionKeyOf e := by
  intro r' hr' k' hk
  cases hc : e.container with
  | v1 sym pre => simp [hc, Container.isV2] at hv2
  | v2 sym aead cs salt =>
    have hsym : sym < 256 := by have := wfE.sym.1; simpa [hc, Container.sym] using this
    obtain ⟨haead, _, _, _⟩ := (wfE.pw r' hr').2 sym aead cs salt hc
    simp only [skeskOf, hc, skDec, toUInt8_toNat_of_lt sym hsym, toUInt8_toNat_of_lt aead haead] at hk
    simp only [sessionKeyOf, hc]
    cases hspec : specOfWire r'.s2k with
    | none => simp [hspec] at hk
    | some spec =>
      simp only [hspec] at hk
      by_cases hw : spec.weakHash = true
      · simp [hw] at hk
      · simp only [hw, Bool.false_eq_true, if_false] at hk
        cases hd : Sym.S2k.derive P.sym spec pw (Gen.c12SymKeySize sym) with
        | none => simp [hd] at hk
        | some ikm =>
          simp only [hd, Option.map_eq_some_iff] at hk
          obtain ⟨x, ho, rfl⟩ := hk
          rw [R _ _ _ _ _ _ _ _ ho]

/-- a presented password obtains nothing else from the SKESK v4 packets of the message — under
`skesk4_committing`, which CFB does not provide (D18b) -/
theorem noForeignOpen_password_v1 (P : Prims) (LC : CryptoLaws P)
    (R : ∀ alg k k' iv (a : Byte) sk x,
      Ring.decodeSkeskV4 (P.cfbDec alg k' iv (P.sym.cfbEnc alg k iv (a :: sk))) = some x → x = .v3_4 a.toNat sk)
    (e : Encryption) (wfE : EskWF e) (hv1 : e.container.isV2 = false) (pw : Bytes) :
    ∀ r' ∈ e.passwords, ∀ k', skDec P (skeskOf P e r') pw = some k' → k' = sessionKeyOf e := by
  intro r' _ k' hk
  cases hc : e.container with
  | v2 sym aead cs salt => simp [hc, Container.isV2] at hv1
  | v1 sym pre =>
    have hsym : sym < 256 := by have := wfE.sym.1; simpa [hc, Container.sym] using this
    have et : sym.toUInt8.toNat = sym := toUInt8_toNat_of_lt sym hsym
    simp only [skeskOf, hc, skDec, et] at hk
    simp only [sessionKeyOf, hc]
    cases hspec : specOfWire r'.s2k with
    | none => simp [hspec] at hk
    | some spec =>
      simp only [hspec] at hk
      cases hd : Sym.S2k.derive P.sym spec pw (Gen.c12SymKeySize sym) with
      | none => simp [hd] at hk
      | some key =>
        simp only [hd] at hk
        rw [if_neg (cfbEnc_ne_nil P LC _ _ _ _ _)] at hk
        rw [R _ _ _ _ _ _ _ hk, et]

/-- with a single SKESK the only packet a password is tried on is its own (no robustness needed) -/
theorem noForeignOpen_single_password (P : Prims) (LC : CryptoLaws P) (e : Encryption) (wfE : EskWF e)
    (hall : (eskBodies P e).all (fun tb => tb.2.isSome) = true)
    (r : PwRcpt) (hr : r ∈ e.passwords) (hone : e.passwords.length ≤ 1) :
    ∀ r' ∈ e.passwords, ∀ k', skDec P (skeskOf P e r') r.pw = some k' → k' = sessionKeyOf e := by
  intro r' hr' k' hk'
  obtain rfl : r' = r := by
    match hl : e.passwords, hone with
    | [x], _ => rw [hl] at hr hr'; rw [List.mem_singleton.mp hr, List.mem_singleton.mp hr']
    | [], _ => rw [hl] at hr; cases hr
    | _ :: _ :: _, h => simp at h
  obtain ⟨b, hb⟩ := (eskBodies_all_inv P e hall).1 r' hr'
  obtain ⟨_, _, hopen⟩ := skeskBody_facts P LC e r' b wfE hr' hb
  rw [hopen] at hk'
  exact (Option.some.inj hk').symm

end Rpgp.E2E
