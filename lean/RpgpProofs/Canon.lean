import RpgpModel.Canon
/-! Canonicalisation: the three implementations and the CRLF check against `canon` (C14, used by C06/C09/C16). -/
namespace Rpgp
theorem CR_ne_LF : CR ≠ LF := by decide
@[simp] theorem LF_beq_CR : (LF == CR) = false := by decide
@[simp] theorem CR_beq_LF : (CR == LF) = false := by decide
@[simp] theorem endsCR_nil : endsCR [] = false := rfl
@[simp] theorem endsCR_single (b : Byte) : endsCR [b] = (b == CR) := rfl
@[simp] theorem endsCR_cons_cons (a b : Byte) (r : Bytes) : endsCR (a :: b :: r) = endsCR (b :: r) := rfl

theorem endsCR_cons_ne_nil (x : Byte) (r : Bytes) (h : r ≠ []) : endsCR (x :: r) = endsCR r := by
  cases r with
  | nil => exact absurd rfl h
  | cons => rfl

theorem endsCR_append_ne_nil (a b : Bytes) (h : b ≠ []) : endsCR (a ++ b) = endsCR b := by
  induction a with
  | nil => rfl
  | cons x a ih =>
    rw [List.cons_append, endsCR_cons_ne_nil _ _ (List.append_ne_nil_of_right_ne_nil a h), ih]

theorem endsCR_cons_of_ne (b : Byte) (r : Bytes) (h : b ≠ CR) : endsCR (b :: r) = endsCR r := by
  cases r with
  | nil => exact beq_eq_false_iff_ne.mpr h
  | cons => rfl

@[simp] theorem endsCR_LF_cons (r : Bytes) : endsCR (LF :: r) = endsCR r :=
  endsCR_cons_of_ne _ _ (by decide)

theorem endsCR_eq_getLastD (w : Bytes) : endsCR w = (w.getLastD 0 == CR) := by
  induction w with
  | nil => decide
  | cons x r ih =>
    cases r with
    | nil => rfl
    | cons y r' => exact ih

theorem endsCR_replicate_zero (n : Nat) : endsCR (List.replicate n (0 : Byte)) = false := by
  induction n with
  | zero => rfl
  | succ n ih => rw [List.replicate_succ, endsCR_cons_of_ne _ _ (by decide), ih]

theorem dropLast_append_CR (w : Bytes) (h : endsCR w = true) : w.dropLast ++ [CR] = w := by
  induction w with
  | nil => cases h
  | cons x r ih =>
    cases r with
    | nil => rw [beq_iff_eq.mp h]; rfl
    | cons y r' => exact congrArg (x :: ·) (ih h)

/-! ## `canonGo` -/

theorem canonGo_cons_of_ne (p : Bool) (b : Byte) (r : Bytes) (h : b ≠ LF) :
    canonGo p (b :: r) = b :: canonGo (b == CR) r := by
  rw [canonGo, if_neg h]

theorem canonGo_cons_CR (p : Bool) (r : Bytes) : canonGo p (CR :: r) = CR :: canonGo true r :=
  canonGo_cons_of_ne p CR r CR_ne_LF

theorem canonGo_true_LF (r : Bytes) : canonGo true (LF :: r) = LF :: canonGo false r := by
  rw [canonGo, if_pos rfl, if_pos rfl]

theorem canonGo_true_of_ne (b : Byte) (r : Bytes) (h : b ≠ LF) : canonGo true (b :: r) = canonGo false (b :: r) := by
  rw [canonGo_cons_of_ne _ b r h, canonGo_cons_of_ne _ b r h]

/-! `canonGo false` as a scanner with one octet of lookahead: the shape in which `hash_buf`,
`replace_newlines` and the CRLF check are written -/

theorem canonGo_LF (r : Bytes) : canonGo false (LF :: r) = CR :: LF :: canonGo false r := by
  rw [canonGo, if_pos rfl, if_neg Bool.false_ne_true]

theorem canonGo_CR_LF (r : Bytes) : canonGo false (CR :: LF :: r) = CR :: LF :: canonGo false r := by
  rw [canonGo_cons_CR, canonGo_true_LF]

theorem canonGo_CR_other (c : Byte) (r : Bytes) (h : c ≠ LF) :
    canonGo false (CR :: c :: r) = CR :: canonGo false (c :: r) := by
  rw [canonGo_cons_CR, canonGo_true_of_ne c r h]

theorem canonGo_CR_of_not_LF (x : Bytes) (h : ∀ t, x ≠ LF :: t) : canonGo false (CR :: x) = CR :: canonGo false x := by
  cases x with
  | nil => rfl
  | cons c r => exact canonGo_CR_other c r fun e => h r (e ▸ rfl)

theorem canonGo_other (b : Byte) (r : Bytes) (h1 : b ≠ LF) (h2 : b ≠ CR) :
    canonGo false (b :: r) = b :: canonGo false r := by
  rw [canonGo_cons_of_ne _ b r h1, beq_eq_false_iff_ne.mpr h2]

def carry (p : Bool) (a : Bytes) : Bool := if a = [] then p else endsCR a
@[simp] theorem carry_nil (p : Bool) : carry p [] = p := rfl

theorem carry_of_ne_nil (p : Bool) {a : Bytes} (h : a ≠ []) : carry p a = endsCR a := if_neg h

theorem carry_false (a : Bytes) : carry false a = endsCR a := by
  cases a <;> rfl

theorem carry_cons (p : Bool) (b : Byte) (r : Bytes) : carry p (b :: r) = carry (b == CR) r := by
  cases r <;> rfl

theorem carry_append (p : Bool) (a b : Bytes) : carry p (a ++ b) = carry (carry p a) b := by
  by_cases hb : b = []
  · rw [hb, List.append_nil, carry_nil]
  · rw [carry_of_ne_nil _ hb, carry_of_ne_nil _ (List.append_ne_nil_of_right_ne_nil a hb),
      endsCR_append_ne_nil a b hb]

theorem canonGo_append (p : Bool) (a b : Bytes) :
    canonGo p (a ++ b) = canonGo p a ++ canonGo (carry p a) b := by
  induction a generalizing p with
  | nil => rfl
  | cons x a ih =>
    rw [List.cons_append, carry_cons]
    by_cases hx : x = LF
    · subst hx
      cases p
      · rw [canonGo_LF, canonGo_LF, ih]; rfl
      · rw [canonGo_true_LF, canonGo_true_LF, ih]; rfl
    · rw [canonGo_cons_of_ne p x _ hx, canonGo_cons_of_ne p x _ hx, ih]; rfl

theorem canonGo_false_append (a b : Bytes) :
    canonGo false (a ++ b) = canonGo false a ++ canonGo (endsCR a) b := by
  rw [canonGo_append, carry_false]

theorem canonGo_canonGo (p : Bool) (d : Bytes) : canonGo p (canonGo p d) = canonGo p d := by
  induction d generalizing p with
  | nil => rfl
  | cons b r ih =>
    by_cases hb : b = LF
    · subst hb
      cases p
      · rw [canonGo_LF, canonGo_CR_LF, ih]
      · rw [canonGo_true_LF, canonGo_true_LF, ih]
    · rw [canonGo_cons_of_ne p b r hb, canonGo_cons_of_ne p b _ hb, ih]

theorem canon_idem (d : Bytes) : canon (canon d) = canon d := canonGo_canonGo false d

/-! ## `NormalizingHasher` -/

theorem hashLoop_eq (xs : Bytes) : hashLoop xs = (canonGo false xs, endsCR xs) := by
  fun_induction hashLoop xs with
  | case1 => rfl
  | case2 r o f hr ih =>
    rw [canonGo_LF, endsCR_LF_cons]; rw [ih] at hr; cases hr; rfl
  | case3 => rfl
  | case4 r o f hr _ ih =>
    rw [canonGo_CR_LF, endsCR_cons_cons, endsCR_LF_cons]; rw [ih] at hr; cases hr; rfl
  | case5 c r hc o f hr _ ih =>
    rw [canonGo_CR_other c r hc, endsCR_cons_cons]; rw [ih] at hr; cases hr; rfl
  | case6 b r h1 h2 o f hr ih =>
    rw [canonGo_other b r h1 h2, endsCR_cons_of_ne b r h2]; rw [ih] at hr; cases hr; rfl

/-- one `hash_buf` call continues the canonical form where the last one stopped: `last_was_cr` is the
carry of `canonGo` -/
theorem hashBuf_spec (h : Hasher) (c : Bytes) :
    (h.hashBuf c).out = h.out ++ canonGo h.lastWasCr c ∧ (h.hashBuf c).lastWasCr = carry h.lastWasCr c := by
  match c with
  | [] => exact ⟨(List.append_nil _).symm, rfl⟩
  | b :: r =>
    simp only [Hasher.hashBuf, hashLoop_eq]
    by_cases hb : h.lastWasCr = true ∧ b = LF
    · obtain ⟨hp, rfl⟩ := hb
      rw [hp, canonGo_true_LF]
      exact ⟨List.append_assoc _ _ _, (endsCR_LF_cons r).symm⟩
    · have hc : (h.lastWasCr && b == LF) = false := by
        simpa only [Bool.and_eq_false_imp, beq_eq_false_iff_ne, ne_eq, not_and] using hb
      rw [hc]
      refine ⟨?_, rfl⟩
      cases hp : h.lastWasCr
      · exact congrArg (· ++ _) (List.append_nil _)
      · rw [canonGo_true_of_ne b r (fun hl => hb ⟨hp, hl⟩)]
        exact congrArg (· ++ _) (List.append_nil _)

theorem hashBuf_fold (chunks : List Bytes) (h : Hasher) :
    (chunks.foldl Hasher.hashBuf h).out = h.out ++ canonGo h.lastWasCr chunks.flatten ∧
    (chunks.foldl Hasher.hashBuf h).lastWasCr = carry h.lastWasCr chunks.flatten := by
  induction chunks generalizing h with
  | nil => exact ⟨(List.append_nil _).symm, rfl⟩
  | cons c cs ih =>
    obtain ⟨h1, h2⟩ := hashBuf_spec h c
    rw [List.foldl_cons, List.flatten_cons, canonGo_append, carry_append, ← List.append_assoc, ← h1, ← h2]
    exact ih _

theorem hasher_fold (chunks : List Bytes) (h : Hasher) (seen : Bytes)
    (hout : h.out = canon seen) (hflag : h.lastWasCr = endsCR seen) :
    (chunks.foldl Hasher.hashBuf h).out = canon (seen ++ chunks.flatten) ∧
    (chunks.foldl Hasher.hashBuf h).lastWasCr = endsCR (seen ++ chunks.flatten) := by
  obtain ⟨h1, h2⟩ := hashBuf_fold chunks h
  rw [h1, h2, hout, hflag, canon, canon, canonGo_false_append, ← carry_false seen, ← carry_append]
  exact ⟨rfl, carry_false _⟩

theorem hashedText_eq_canon (chunks : List Bytes) : hashedText chunks = canon chunks.flatten :=
  (hasher_fold chunks {} [] rfl rfl).1

/-! ## `replace_newlines` -/

theorem replaceNewlines_nil (repl : Bytes) : replaceNewlines repl [] = [] := by
  rw [replaceNewlines.eq_def]

theorem replaceNewlines_CR (repl : Bytes) : replaceNewlines repl [CR] = [CR] := by
  rw [replaceNewlines.eq_def]; rfl

theorem replaceNewlines_cons_LF (repl : Bytes) (r : Bytes) :
    replaceNewlines repl (LF :: r) = repl ++ replaceNewlines repl r := by
  rw [replaceNewlines.eq_def]; rfl

theorem replaceNewlines_CR_LF (repl r : Bytes) :
    replaceNewlines repl (CR :: LF :: r) = repl ++ replaceNewlines repl r := by
  rw [replaceNewlines.eq_def]; rfl

theorem replaceNewlines_CR_other (repl : Bytes) (c : Byte) (r : Bytes) (h : c ≠ LF) :
    replaceNewlines repl (CR :: c :: r) = CR :: replaceNewlines repl (c :: r) := by
  rw [replaceNewlines.eq_def]; simp only [CR_ne_LF, h, if_false, if_true]

theorem replaceNewlines_cons_other (repl : Bytes) (b : Byte) (r : Bytes) (h1 : b ≠ LF) (h2 : b ≠ CR) :
    replaceNewlines repl (b :: r) = b :: replaceNewlines repl r := by
  rw [replaceNewlines.eq_def]; simp only [h1, h2, if_false]

theorem replaceNewlines_crlf (xs : Bytes) : replaceNewlines CRLF xs = canonGo false xs := by
  fun_induction replaceNewlines CRLF xs with
  | case1 => rfl
  | case2 r ih => rw [canonGo_LF, ih]; rfl
  | case3 => rfl
  | case4 r _ ih => rw [canonGo_CR_LF, ih]; rfl
  | case5 c r hc _ ih => rw [canonGo_CR_other c r hc, ih]
  | case6 b r h1 h2 ih => rw [canonGo_other b r h1 h2, ih]

/-- convert CRLF line endings to LF (`replace_newlines(_, "\n")`) -/
def toLF (d : Bytes) : Bytes := replaceNewlines [LF] d

theorem toLF_canon (d : Bytes) : toLF (canon d) = toLF d := by
  unfold toLF canon
  fun_induction replaceNewlines [LF] d with
  | case1 => exact replaceNewlines_nil _
  | case2 r ih => rw [canonGo_LF, replaceNewlines_CR_LF, ih]
  | case3 => exact replaceNewlines_CR _
  | case4 r _ ih => rw [canonGo_CR_LF, replaceNewlines_CR_LF, ih]
  | case5 c r hc _ ih =>
    rw [canonGo_CR_other c r hc, canonGo_cons_of_ne _ c r hc, replaceNewlines_CR_other _ c _ hc,
      ← canonGo_cons_of_ne _ c r hc, ih]
  | case6 b r h1 h2 ih => rw [canonGo_other b r h1 h2, replaceNewlines_cons_other _ _ _ h1 h2, ih]

/-- `canon` identifies nothing but line-ending representation -/
theorem canon_sensitive (d d' : Bytes) (h : canon d = canon d') : toLF d = toLF d' := by
  rw [← toLF_canon d, ← toLF_canon d', h]

theorem toLF_canon_of_noCR (d : Bytes) (h : ∀ b ∈ d, b ≠ CR) : toLF (canon d) = d := by
  rw [toLF_canon]
  unfold toLF
  induction d with
  | nil => exact replaceNewlines_nil _
  | cons b r ih =>
    have hb : b ≠ CR := h b List.mem_cons_self
    have hr : ∀ x ∈ r, x ≠ CR := fun x hx => h x (List.mem_cons_of_mem _ hx)
    by_cases hl : b = LF
    · subst hl; rw [replaceNewlines_cons_LF, ih hr]; rfl
    · rw [replaceNewlines_cons_other _ _ _ hl hb, ih hr]

/-! ## `NormalizedReader` -/

theorem headD_append_of_ne_nil (w r : Bytes) (d : Byte) (h : w ≠ []) : (w ++ r).headD d = w.headD d := by
  cases w <;> simp_all

theorem headD_LF_iff (w r : Bytes) :
    ((w ++ r).headD 0 == LF && decide (w.length > 0)) = true ↔ ∃ t, w = LF :: t := by
  cases w <;> simp

theorem dropLast_head_LF (w : Bytes) (h : endsCR w = true) :
    (∃ t, w.dropLast = LF :: t) ↔ ∃ t, w = LF :: t := by
  match w, h with
  | [y], h =>
    have : y ≠ LF := by rintro rfl; exact absurd h (by decide)
    simp [this]
  | y :: z :: t, _ => simp

/-- one `fill_buffer` + `cleanup_buffer` round: the new `in_buffer`, and the block as the canonical form
of (CR deferred by the round before ++ what was read, less a final CR when the window is full) -/
theorem nrCleanup_spec (W : Nat) (inBuf w : Bytes) (hW : 0 < W) (hlen : inBuf.length = W)
    (hw : w.length ≤ W) :
    (nrCleanup CRLF W inBuf w).2 = w ++ inBuf.drop w.length ∧
    (nrCleanup CRLF W inBuf w).1 =
      canonGo false ((if endsCR inBuf then [CR] else []) ++
        (if w.length = W ∧ endsCR w then w.dropLast else w)) := by
  refine ⟨rfl, ?_⟩
  -- the part of the window normalised in this round
  have hbody : (w ++ inBuf.drop w.length).take
      (if (w.length == W && endsCR (w ++ inBuf.drop w.length)) = true then w.length - 1 else w.length) =
      if w.length = W ∧ endsCR w then w.dropLast else w := by
    by_cases hfull : w.length = W
    · subst hfull
      rw [List.drop_eq_nil_of_le (Nat.le_of_eq hlen), List.append_nil]
      by_cases hd : endsCR w <;> simp [hd, List.dropLast_eq_take]
    · simp [hfull]
  -- `first == LF && read > 0` asks whether that part starts with LF
  have hLF : ((w ++ inBuf.drop w.length).headD 0 == LF && decide (w.length > 0)) = true ↔
      ∃ t, (if w.length = W ∧ endsCR w then w.dropLast else w) = LF :: t := by
    split
    · rw [dropLast_head_LF w ‹_ ∧ _›.2]
      exact headD_LF_iff w _
    · exact headD_LF_iff w _
  have hcl : canonGo false [CR, LF] = [CR, LF] := by decide
  unfold nrCleanup
  simp only [replaceNewlines_crlf, hcl, ← endsCR_eq_getLastD, hbody]
  generalize (if w.length = W ∧ endsCR w then w.dropLast else w) = x at hLF ⊢
  generalize ((w ++ inBuf.drop w.length).headD 0 == LF && decide (w.length > 0)) = c at hLF ⊢
  -- no CR pending; a pending CR before anything but LF; a pending CR and its LF
  cases endsCR inBuf
  · rfl
  · cases c
    · exact (canonGo_CR_of_not_LF x fun t ht => Bool.false_ne_true (hLF.2 ⟨t, ht⟩)).symm
    · obtain ⟨t, rfl⟩ := hLF.1 rfl
      exact (canonGo_CR_LF t).symm

/-- a round that defers a final CR loses nothing: its block followed by the canonical form of
(deferred CR ++ rest) is the canonical form of the whole -/
theorem canonGo_deferCR (a w rest : Bytes) (hw : w ≠ []) :
    canonGo false (a ++ (if endsCR w then w.dropLast else w)) ++
      canonGo false ((if endsCR w then [CR] else []) ++ rest) = canonGo false (a ++ w ++ rest) := by
  by_cases hd : endsCR w
  · simp only [hd, if_true]
    conv => rhs; rw [← dropLast_append_CR w hd, ← List.append_assoc a, List.append_assoc, canonGo_false_append]
    simp only [List.singleton_append, canonGo_cons_CR]
  · simp only [hd, Bool.false_eq_true, if_false, List.nil_append]
    rw [canonGo_false_append (a ++ w), endsCR_append_ne_nil _ _ hw, (Bool.not_eq_true _).mp hd]

theorem nrCleanup_full (W : Nat) (inBuf w : Bytes) (hW : 0 < W) (hlen : inBuf.length = W) (hw : w.length = W) :
    nrCleanup CRLF W inBuf w =
      (canonGo false ((if endsCR inBuf then [CR] else []) ++ if endsCR w then w.dropLast else w), w) := by
  have hs := nrCleanup_spec W inBuf w hW hlen (Nat.le_of_eq hw)
  rw [List.drop_eq_nil_of_le (by omega), List.append_nil] at hs
  simp only [hw, true_and] at hs
  exact Prod.ext hs.2 hs.1

theorem nrBlocks_flatten (W : Nat) (hW : 0 < W) (inBuf inp : Bytes) (hlen : inBuf.length = W) :
    (nrBlocks CRLF W inBuf inp).flatten = canonGo false ((if endsCR inBuf then [CR] else []) ++ inp) := by
  fun_induction nrBlocks CRLF W inBuf inp with
  | case1 => omega
  | case2 inBuf inp _ w blk inBuf' hcl hshort =>
    have hw : w = inp := List.take_of_length_le (Nat.le_of_lt hshort)
    have hne : ¬ (inp.length = W ∧ endsCR inp = true) := fun h => Nat.ne_of_lt hshort h.1
    have hs := (nrCleanup_spec W inBuf w hW hlen (List.length_take_le _ _)).2
    rw [hcl, hw, if_neg hne] at hs
    rw [List.flatten_singleton]
    exact hs
  | case3 inBuf inp _ w blk inBuf' hcl hlong ih =>
    have hwl : w.length = W := List.length_take_of_le (Nat.le_of_not_lt hlong)
    have hwne : w ≠ [] := fun h => Nat.ne_of_gt hW (by rw [← hwl, h]; rfl)
    cases hcl.symm.trans (nrCleanup_full W inBuf w hW hlen hwl)
    rw [List.flatten_cons, ih hwl, canonGo_deferCR _ w _ hwne, List.append_assoc, List.take_append_drop]

theorem normalizedRead_eq_canon (W : Nat) (hW : 0 < W) (inp : Bytes) :
    normalizedRead W inp = canon inp := by
  unfold normalizedRead
  rw [nrBlocks_flatten W hW (nrInit W) inp List.length_replicate, nrInit, endsCR_replicate_zero]
  rfl

/-! ## `CrLfCheckReader` -/

theorem crlfOkGo_cons_of_ne (p : Bool) (b : Byte) (r : Bytes) (h : b ≠ LF) :
    crlfOkGo p (b :: r) = crlfOkGo (b == CR) r := by
  rw [crlfOkGo, decide_eq_false h, Bool.false_and, if_neg Bool.false_ne_true]

theorem crlfOkGo_true_LF (r : Bytes) : crlfOkGo true (LF :: r) = crlfOkGo false r := by
  rw [crlfOkGo]; rfl

theorem crlfOkGo_false_LF (r : Bytes) : crlfOkGo false (LF :: r) = false := by
  rw [crlfOkGo]; rfl

theorem crlfOkGo_true_of_ne (b : Byte) (r : Bytes) (h : b ≠ LF) : crlfOkGo true (b :: r) = crlfOkGo false (b :: r) := by
  rw [crlfOkGo_cons_of_ne _ b r h, crlfOkGo_cons_of_ne _ b r h]

theorem crlfScan_eq (xs : Bytes) : crlfScan xs = crlfOkGo false xs := by
  fun_induction crlfScan xs with
  | case1 => rfl
  | case2 b =>
    by_cases h : b = LF
    · subst h; rfl
    · rw [crlfOkGo_cons_of_ne _ b [] h]; exact bne_iff_ne.mpr h
  | case3 c r => exact (crlfOkGo_false_LF _).symm
  | case4 b c r hb hc ih =>
    obtain ⟨rfl, rfl⟩ : b = CR ∧ c = LF := by simpa using hc
    rw [crlfOkGo_cons_of_ne _ CR _ CR_ne_LF, ih]; exact (crlfOkGo_true_LF r).symm
  | case5 b c r hb hc ih =>
    rw [crlfOkGo_cons_of_ne _ b _ hb, ih]
    by_cases hcr : b = CR
    · have : c ≠ LF := fun hl => hc (by simp [hcr, hl])
      rw [hcr]; exact (crlfOkGo_true_of_ne c r this).symm
    · rw [beq_eq_false_iff_ne.mpr hcr]

theorem crlfOkGo_append (p : Bool) (a b : Bytes) :
    crlfOkGo p (a ++ b) = (crlfOkGo p a && crlfOkGo (carry p a) b) := by
  induction a generalizing p with
  | nil => rfl
  | cons x a ih =>
    simp only [List.cons_append, crlfOkGo, carry_cons, ih]
    split <;> simp

theorem crlfCheckChunks_eq (f : Bool) (chunks : List Bytes) :
    crlfCheckChunks f chunks =
      if crlfOkGo f chunks.flatten then some (carry f chunks.flatten) else none := by
  induction chunks generalizing f with
  | nil => rfl
  | cons c cs ih =>
    cases c with
    | nil => exact ih f
    | cons b r =>
      -- the chunk is scanned from its second octet when it starts with the LF of a CR LF
      have hbody : crlfOkGo false (if (f && b == LF) = true then r else b :: r) = crlfOkGo f (b :: r) := by
        by_cases hb : f = true ∧ b = LF
        · obtain ⟨rfl, rfl⟩ := hb; exact (crlfOkGo_true_LF r).symm
        · have hc : (f && b == LF) = false := by
            simpa only [Bool.and_eq_false_imp, beq_eq_false_iff_ne, ne_eq, not_and] using hb
          rw [hc]
          cases f
          · rfl
          · exact (crlfOkGo_true_of_ne b r fun hl => hb ⟨rfl, hl⟩).symm
      rw [crlfCheckChunks, crlfScan_eq, hbody, ih, List.flatten_cons, crlfOkGo_append, carry_append,
        carry_of_ne_nil f (List.cons_ne_nil b r)]
      cases crlfOkGo f (b :: r) <;> rfl

theorem crlfOkGo_iff_canonGo (p : Bool) (d : Bytes) : crlfOkGo p d = true ↔ canonGo p d = d := by
  induction d generalizing p with
  | nil => exact ⟨fun _ => rfl, fun _ => rfl⟩
  | cons b r ih =>
    by_cases hb : b = LF
    · subst hb
      cases p
      · rw [crlfOkGo_false_LF, canonGo_LF]
        exact ⟨fun h => (nomatch h), fun h => absurd (List.cons.inj h).1 CR_ne_LF⟩
      · rw [crlfOkGo_true_LF, canonGo_true_LF, ih, List.cons.injEq, eq_self, true_and]
    · rw [crlfOkGo_cons_of_ne p b r hb, canonGo_cons_of_ne p b r hb, ih, List.cons.injEq, eq_self, true_and]

theorem crlfCheck_iff (chunks : List Bytes) :
    crlfCheck chunks = true ↔ canon chunks.flatten = chunks.flatten := by
  unfold crlfCheck canon
  rw [crlfCheckChunks_eq, ← crlfOkGo_iff_canonGo]
  split <;> simp_all

end Rpgp
