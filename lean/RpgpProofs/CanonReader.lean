import RpgpProofs.Canon
import RpgpProofs.Stream
/-! `NormalizedReader`: no spurious EOF, and independence of the source schedule. -/
namespace Rpgp

theorem canonGo_ne_nil (p : Bool) (d : Bytes) (h : d ≠ []) : canonGo p d ≠ [] := by
  cases d with
  | nil => exact absurd rfl h
  | cons b r => simp only [canonGo]; split <;> (try split) <;> simp

/-- with a window of two octets or more every block but the last is non-empty: a full window
yields at least `W - 1` octets even when its final CR is deferred -/
theorem nrBlocks_noSpurious (W : Nat) (hW : 2 ≤ W) (inBuf inp : Bytes) (hlen : inBuf.length = W) :
    NoSpuriousEOF (nrBlocks CRLF W inBuf inp) := by
  fun_induction nrBlocks CRLF W inBuf inp with
  | case1 => exact .nil
  | case2 => exact .singleton _
  | case3 inBuf inp _ w blk inBuf' hcl hlong ih =>
    have hwl : w.length = W := List.length_take_of_le (Nat.le_of_not_lt hlong)
    cases hcl.symm.trans (nrCleanup_full W inBuf w (by omega) hlen hwl)
    refine .cons (canonGo_ne_nil _ _ fun h => ?_) (ih hwl)
    have := congrArg List.length (List.append_eq_nil_iff.mp h).2
    split at this <;> simp only [List.length_dropLast, List.length_nil] at this <;> omega

theorem nrBlocksSrc_eq (W : Nat) (hW : 0 < W) : ∀ (fuel : Nat) (src : List Bytes) (inBuf : Bytes),
    AllNonEmpty src → src.flatten.length < fuel →
    nrBlocksSrc CRLF W fuel inBuf src = nrBlocks CRLF W inBuf src.flatten := by
  intro fuel
  induction fuel with
  | zero => intro src inBuf _ h; omega
  | succ fuel ih =>
    intro src inBuf hne hf
    obtain ⟨h1, h2, h3⟩ := fillBuffer_spec (W + 1) src W hne (Nat.lt_succ_self W)
    rw [nrBlocksSrc, nrBlocks, dif_neg (Nat.ne_of_gt hW)]
    generalize fillBuffer (W + 1) src W = g at h1 h2 h3
    obtain ⟨w, src'⟩ := g
    cases h1
    by_cases hs : src.flatten.length < W
    · have : (src.flatten.take W).length < W := by rw [List.length_take]; omega
      simp only [this, if_true, hs, dite_true]
    · have : ¬ (src.flatten.take W).length < W := by rw [List.length_take]; omega
      simp only [this, if_false, hs, dite_false]
      rw [ih src' _ h3 (by rw [h2, List.length_drop]; omega), h2]

theorem normalizedReadSrc_eq_canon (W : Nat) (hW : 0 < W) (src : List Bytes) (hsrc : AllNonEmpty src) :
    normalizedReadSrc W src = canon src.flatten := by
  unfold normalizedReadSrc
  rw [nrBlocksSrc_eq W hW _ src _ hsrc (by omega)]
  exact normalizedRead_eq_canon W hW src.flatten

end Rpgp
