import RpgpProofs.Canon
import RpgpProofs.CanonReader
import RpgpModel.Gen.Constants
/-!
# C14 — text canonicalisation is one function, however the text is delivered

Property theorems only (helper lemmas live in `RpgpProofs`).  Model: `RpgpModel/Canon.lean`.
Every theorem quantifies over *all* byte strings / chunkings / window sizes / schedules.
-/
namespace Rpgp.C14
open Rpgp

/-- The streaming hasher (`NormalizingHasher`, text mode) hashes exactly `canon` of the
concatenated input, for every chunking. -/
theorem hasher_eq_canon (chunks : List Bytes) : hashedText chunks = canon chunks.flatten :=
  hashedText_eq_canon chunks

/-- … hence its output does not depend on the chunking. -/
theorem hasher_chunk_indep (c c' : List Bytes) (h : c.flatten = c'.flatten) :
    hashedText c = hashedText c' := by
  rw [hasher_eq_canon, hasher_eq_canon, h]

/-- The in-memory normaliser (`replace_newlines(_, "\r\n")`) is `canon`. -/
theorem replace_eq_canon (d : Bytes) : replaceNewlines CRLF d = canon d :=
  replaceNewlines_crlf d

/-- The streaming reader (`NormalizedReader`, any window size `W > 0`; the code uses 512)
produces `canon` of its input: window-boundary CR deferral, the stale `last_char` and EOF
exactly on a window edge are all cases of the induction. -/
theorem reader_eq_canon (W : Nat) (hW : 0 < W) (d : Bytes) : normalizedRead W d = canon d :=
  normalizedRead_eq_canon W hW d

/-- … for every way the underlying source splits the data into `read` results. -/
theorem reader_source_schedule_indep (W : Nat) (hW : 0 < W) (src : List Bytes)
    (hsrc : AllNonEmpty src) : normalizedReadSrc W src = canon src.flatten :=
  normalizedReadSrc_eq_canon W hW src hsrc

/-- … and for every way the consumer asks for it (any positive request sizes, read until a
0-byte read): with a window of at least two bytes no refill is empty before the end, so the
consumer never sees a spurious end-of-stream. -/
theorem reader_request_schedule_indep (W : Nat) (hW : 2 ≤ W) (d : Bytes) (reqs : List Nat)
    (hreqs : ∀ r ∈ reqs, 0 < r)
    (heof : (bpDrain [] (nrBlocks CRLF W (nrInit W) d) reqs).2 = true) :
    (bpDrain [] (nrBlocks CRLF W (nrInit W) d) reqs).1 = canon d := by
  have hns := nrBlocks_noSpurious W hW (nrInit W) d List.length_replicate
  rw [(bpDrain_spec reqs [] _ hreqs hns).2 heof]
  exact normalizedRead_eq_canon W (by omega) d

/-- All three implementations agree on every input and chunking. -/
theorem three_agree (W : Nat) (hW : 0 < W) (chunks : List Bytes) :
    hashedText chunks = normalizedRead W chunks.flatten ∧
    hashedText chunks = replaceNewlines CRLF chunks.flatten := by
  rw [hasher_eq_canon, reader_eq_canon W hW, replace_eq_canon]; exact ⟨rfl, rfl⟩

/-- canonical form is a fixed point: converting LF line endings to CRLF does not change what
is signed. -/
theorem canon_idem (d : Bytes) : canon (canon d) = canon d := Rpgp.canon_idem d

/-- an LF-only document and its CRLF conversion are signed identically, and the LF form is
recovered from the CRLF form -/
theorem canon_lf_crlf (d : Bytes) (h : ∀ b ∈ d, b ≠ CR) :
    canon (canon d) = canon d ∧ toLF (canon d) = d :=
  ⟨Rpgp.canon_idem d, toLF_canon_of_noCR d h⟩

/-- `canon` identifies nothing except line-ending representation: equal canonical forms
imply equal documents once CR-before-LF is stripped. -/
theorem canon_sensitive (d d' : Bytes) (h : canon d = canon d') : toLF d = toLF d' :=
  Rpgp.canon_sensitive d d' h

/-- The CRLF acceptance check for UTF-8 literals accepts a text, however chunked, iff the text
is already in canonical form. -/
theorem crlf_check_accepts_iff (chunks : List Bytes) :
    crlfCheck chunks = true ↔ canon chunks.flatten = chunks.flatten :=
  crlfCheck_iff chunks

/-- the window the code uses (re-extracted from `normalize_lines.rs` on every run) is large
enough for the request-schedule theorem -/
theorem extracted_window_ok : 2 ≤ Gen.normalizedReaderWindow := by decide

/-- instantiation at the extracted window -/
theorem reader_eq_canon_extracted (d : Bytes) :
    normalizedRead Gen.normalizedReaderWindow d = canon d :=
  reader_eq_canon _ (by decide) d

/-! ## non-vacuity / sanity: concrete evaluations of the executable model -/

example : canon [97, LF, 98, CR, LF, CR, 99, CR] = [97, CR, LF, 98, CR, LF, CR, 99, CR] := by decide
example : hashedText [[97, CR], [LF, 98], [CR]] = [97, CR, LF, 98, CR] := by
  rw [hasher_eq_canon]; decide
example : normalizedRead 2 [97, CR, LF, LF, CR] = [97, CR, LF, CR, LF, CR] := by
  rw [reader_eq_canon 2 (by decide)]; decide
example : AllNonEmpty [[97, CR], [LF]] := by intro c hc; simp at hc; rcases hc with rfl | rfl <;> simp
example : crlfCheck [[97, CR], [LF, 98]] = true := by rw [crlf_check_accepts_iff]; decide
/-- a trailing lone CR stays a lone CR (the defect D6a/D14 appended an LF here) -/
example : hashedText [[97, CR]] = [97, CR] := by rw [hasher_eq_canon]; decide

end Rpgp.C14
