import RpgpProofs.SecretKey
/-!
# C08 — secret-key locking: the right password restores the key, nothing else does

Model: `RpgpModel/SecretKey.lean` (usage octet ↔ `S2kParams` variant tables on read and on write,
S2K specifier codec, wire form of the secret part, `lock` = `PlainSecretParams::encrypt`,
`unlock` = `EncryptedSecretParams::unlock`, `protect` = the RFC 9580 layout of every usage).
Primitives (S2K, MD5, SHA-1, CFB, HKDF, AEAD) are parameters; their laws (`SK.Laws`, `SK.CfbLaws`)
and the idealised security predicates (`SK.IntCtxt`, `SK.CtxBinding`, `SK.WrongKeyFails`,
`SK.CollisionFree`, `SK.HkdfInj`, `SK.DeriveInj`) are explicit hypotheses; `SK.toyLaws` and the
`SK.ideal_*` lemmas show they are jointly satisfiable.

History: D5b (`parse_secret_fields` built `S2kParams::Cfb` for usage octet 255) and D8a
(`PlainSecretParams::encrypt` accepted parameters `unlock` refuses) are repaired in the tree; the
theorems below make no exception for those cases: `usage_octet_bijective` (read, then write: each of
the 256 octets comes back; the other direction is `usage_variant_roundtrip`), `lock_unlock`,
`wire_unlock`.
-/
namespace Rpgp.C08
open Rpgp Rpgp.SK

/-! ## the constants are the RFC's, and the sites that must agree do -/

theorem usage_octets_rfc :
    Gen.wrUsageUnprotected = 0 ∧ Gen.wrUsageAead = 253 ∧ Gen.wrUsageCfb = 254 ∧ Gen.wrUsageMalleable = 255 ∧
    Gen.wrUsageLegacyIsSym = 1 ∧
    Gen.rdUsageUnprotected = Gen.wrUsageUnprotected ∧ Gen.rdUsageAead = Gen.wrUsageAead ∧
    Gen.rdUsageCfb = Gen.wrUsageCfb ∧ Gen.rdUsageMalleable = Gen.wrUsageMalleable ∧
    Gen.rdUsageLegacyMin = 1 ∧ Gen.rdUsageLegacyMax = 252 ∧
    Gen.v6UsageAllowedA = 0 ∧ Gen.v6UsageAllowedB = 253 ∧ Gen.v6UsageAllowedC = 254 := by decide

/-- every arm of `parse_secret_fields` constructs the variant of the same name -/
theorem parse_arms_build_their_variant :
    Gen.rdArmUnprotectedBuilds = 0 ∧ Gen.rdArmLegacyBuilds = 1 ∧ Gen.rdArmAeadBuilds = 2 ∧
    Gen.rdArmCfbBuilds = 3 ∧ Gen.rdArmMalleableBuilds = 4 := by decide

theorem s2k_specifier_sites_agree :
    Gen.s2kIdSimple = 0 ∧ Gen.s2kIdSalted = 1 ∧ Gen.s2kIdReserved = 2 ∧ Gen.s2kIdIterated = 3 ∧ Gen.s2kIdArgon2 = 4 ∧
    Gen.s2kRdSimple = Gen.s2kIdSimple ∧ Gen.s2kRdSalted = Gen.s2kIdSalted ∧ Gen.s2kRdReserved = Gen.s2kIdReserved ∧
    Gen.s2kRdIterated = Gen.s2kIdIterated ∧ Gen.s2kRdArgon2 = Gen.s2kIdArgon2 ∧
    Gen.s2kRdPrivateMin = 100 ∧ Gen.s2kRdPrivateMax = 110 ∧
    Gen.s2kRdSaltedSalt = 8 ∧ Gen.s2kRdIteratedSalt = 8 ∧ Gen.s2kRdArgon2Salt = 16 ∧
    Gen.s2kSaltFieldSalted = Gen.s2kRdSaltedSalt ∧ Gen.s2kSaltFieldArgon2 = Gen.s2kRdArgon2Salt ∧
    -- `StringToKey::len` (the v6 length octet) = 1 type octet + fields
    Gen.s2kLenSimple = 2 ∧ Gen.s2kLenSalted = 2 + Gen.s2kRdSaltedSalt ∧
    Gen.s2kLenIterated = 3 + Gen.s2kRdIteratedSalt ∧ Gen.s2kLenArgon2 = 4 + Gen.s2kRdArgon2Salt := by decide

theorem aead_constants_rfc :
    Gen.aeadTypeIdMask = 192 ∧ Gen.aeadOkmLen = 32 ∧
    Gen.aeadIdEax = 1 ∧ Gen.aeadIdOcb = 2 ∧ Gen.aeadIdGcm = 3 ∧
    Gen.aeadNonceEax = 16 ∧ Gen.aeadNonceOcb = 15 ∧ Gen.aeadNonceGcm = 12 ∧
    Gen.aeadTagEax = 16 ∧ Gen.aeadTagOcb = 16 ∧ Gen.aeadTagGcm = 16 ∧
    Gen.tagSecretKey = 5 ∧ Gen.tagSecretSubkey = 7 ∧ Gen.keyVersionV4 = 4 ∧ Gen.keyVersionV6 = 6 := by decide

/-- block and key sizes of every cipher octet RFC 9580 §9.3 defines (IDEA … Camellia-256) -/
theorem cipher_tables_rfc :
    (List.map Gen.c08SymBlockSize [1, 2, 3, 4, 7, 8, 9, 10, 11, 12, 13]) = [8, 8, 8, 8, 16, 16, 16, 16, 16, 16, 16] ∧
    (List.map Gen.c08SymKeySize [1, 2, 3, 4, 7, 8, 9, 10, 11, 12, 13]) = [16, 24, 16, 16, 16, 24, 32, 32, 16, 24, 32] ∧
    Gen.c08SymBlockSize 0 = 0 ∧ Gen.c08SymBlockSize 5 = 0 ∧ Gen.c08SymBlockSize 110 = 0 ∧ Gen.c08SymKeySize 0 = 0 := by decide

theorem check_constants_rfc :
    Gen.unlockSha1Len = 20 ∧ Gen.unlockSha1Split = Gen.unlockSha1Len ∧ Gen.unlockLegacyMin = 2 ∧
    Gen.unlockMalleableMin = 2 ∧ Gen.plainChecksumLen = 2 ∧ Gen.plainChecksumVersionsV3V4 = 1 ∧
    Gen.hashIdMd5 = 1 ∧ Gen.hashIdSha1 = 2 ∧ Gen.hashIdRipemd160 = 3 ∧ Gen.weakHashSetIsMd5Sha1Ripemd = 1 := by
  decide

/-! ## usage octet ↔ variant, over all 256 octets and both key versions -/

/-- `impl From<u8> for S2kUsage` partitions the octets as RFC 9580 §3.7.2.1 does -/
theorem usage_of_octet_rfc : ∀ o, o < 256 → usageOfOctet o =
    (if o = 0 then Variant.unprotected else if o ≤ 252 then .legacyCfb else if o = 253 then .aead
     else if o = 254 then .cfb else .malleableCfb) := fun o _ => usageOfOctet_eq o

/-- reading a usage octet and writing the variant back gives the octet — all 256 octets -/
theorem usage_octet_bijective : ∀ o, o < 256 → writeOctet (readVariant o) o = o := fun o h => by
  rw [readVariant_eq, writeOctet_usageOfOctet o h]

/-- writing a variant and reading the octet back gives the variant -/
theorem usage_variant_roundtrip : ∀ sym, sym < 256 →
    readVariant (writeOctet .unprotected sym) = .unprotected ∧
    readVariant (writeOctet .aead sym) = .aead ∧ readVariant (writeOctet .cfb sym) = .cfb ∧
    readVariant (writeOctet .malleableCfb sym) = .malleableCfb ∧
    (1 ≤ sym → sym ≤ 252 → readVariant (writeOctet .legacyCfb sym) = .legacyCfb) := fun sym _ =>
  ⟨rfl, rfl, rfl, rfl, fun h1 h2 => (readVariant_eq _).trans (usageOfOctet_legacy sym h1 h2)⟩

/-- `SecretParams::from_slice`: a v6 key is admitted with usage 0, 253 or 254 only -/
theorem v6_usage_admission : ∀ o, o < 256 →
    (usageAdmitted 6 o = true ↔ (o = 0 ∨ o = 253 ∨ o = 254)) := fun o h => by
  rw [usageAdmitted_eq 6 o h]; exact v6UsageAllowed_iff o

/-- other key versions: every octet is admitted -/
theorem v4_admits_every_usage : ∀ o, o < 256 → usageAdmitted 4 o = true := fun o h => by
  rw [usageAdmitted_eq 4 o h]; rfl

/-! ## S2K specifier codec -/

/-- every specifier of a known kind is read back, whatever follows it -/
theorem s2k_parse_ser (s : S2k) (hk : s.Known) (hw : s.WF) (rest : Bytes) :
    S2k.parse (s.ser ++ rest) = some (s, rest) := SK.s2k_parse_ser s hk hw rest

/-- the reader consumes exactly the serialisation of what it returns (all kinds, opaque ones too) -/
theorem s2k_ser_parse (b : Bytes) (s : S2k) (rest : Bytes) (h : S2k.parse b = some (s, rest)) :
    s.ser ++ rest = b ∧ s.WF := by
  revert h
  fun_cases S2k.parse b <;> intro h
  -- the input ends too early
  case case1 | case3 | case5 | case8 | case9 | case11 => cases h
  -- Simple, Salted, Reserved, Iterated, Argon2: `ht` says that the type octet `typ` is the one written
  case case2 typ ht _ _ =>
    cases h
    exact ⟨by rw [← toNat_toUInt8 typ, ht]; rfl, trivial⟩
  case case4 typ _ ht hash r =>
    obtain ⟨⟨salt, r'⟩, hx, h⟩ := Option.map_eq_some_iff.mp h
    cases h
    obtain ⟨rfl, hl⟩ := takeN_some hx
    exact ⟨by rw [← toNat_toUInt8 typ, ht]; rfl, hl⟩
  case case6 typ r _ _ ht =>
    cases h
    exact ⟨by rw [← toNat_toUInt8 typ, ht]; exact List.append_nil _, trivial⟩
  case case7 typ _ _ _ ht hash r salt c r' hx =>
    cases h
    obtain ⟨rfl, hl⟩ := takeN_some hx
    exact ⟨by rw [← toNat_toUInt8 typ, ht]; simp only [S2k.ser, List.cons_append, List.append_assoc, List.nil_append]; rfl,
      hl⟩
  case case10 typ r _ _ _ _ ht salt t p m r' hx =>
    cases h
    obtain ⟨rfl, hl⟩ := takeN_some hx
    exact ⟨by rw [← toNat_toUInt8 typ, ht]; simp only [S2k.ser, List.cons_append, List.append_assoc, List.nil_append]; rfl,
      hl⟩
  -- private and unknown types keep their octet
  case case12 | case13 =>
    cases h
    exact ⟨List.append_nil _, trivial⟩

/-- the v6 length octet (`StringToKey::len`) is the length of what is written -/
theorem s2k_len_truthful (s : S2k) (hw : s.WF) (n : Nat) (h : s.len = some n) : s.ser.length = n := by
  cases s <;> cases h
  case simple => rfl
  case salted => exact congrArg (· + 2) hw
  case iterated =>
    simp only [S2k.ser, List.length_cons, List.length_append, List.length_nil]
    exact congrArg (· + 3) hw
  case argon2 =>
    simp only [S2k.ser, List.length_cons, List.length_append, List.length_nil]
    exact congrArg (· + 4) hw

/-! ## serialize → parse of a locked key's secret part (every key version) -/

/-- legacy cipher octet -/
theorem parse_ser_legacy {Mat} (A : KeyAlg Mat) (ver sym : Byte) (iv data bytes : Bytes)
    (hw : (Params.legacyCfb sym iv).WireWF ver) (hs : serEncrypted ver (.legacyCfb sym iv) data = some bytes) :
    parseSecret A ver bytes = some (.encrypted (.legacyCfb sym iv) data) :=
  parse_ser_encrypted A ver _ data bytes hw (fun hv => by rw [hw.1] at hv; cases hv) hs

/-- AEAD (253), v4 and v6 layouts (two length octets in v6) -/
theorem parse_ser_aead {Mat} (A : KeyAlg Mat) (ver sym mode : Byte) (s2k : S2k) (nonce data bytes : Bytes)
    (hw : (Params.aead sym mode s2k nonce).WireWF ver)
    (hs : serEncrypted ver (.aead sym mode s2k nonce) data = some bytes) :
    parseSecret A ver bytes = some (.encrypted (.aead sym mode s2k nonce) data) :=
  parse_ser_encrypted A ver _ data bytes hw (fun _ => rfl) hs

/-- CFB + SHA-1 (254), v4 and v6 layouts -/
theorem parse_ser_cfb {Mat} (A : KeyAlg Mat) (ver sym : Byte) (s2k : S2k) (iv data bytes : Bytes)
    (hw : (Params.cfb sym s2k iv).WireWF ver) (hs : serEncrypted ver (.cfb sym s2k iv) data = some bytes) :
    parseSecret A ver bytes = some (.encrypted (.cfb sym s2k iv) data) :=
  parse_ser_encrypted A ver _ data bytes hw (fun _ => rfl) hs

/-- `parse_secret_fields` returns what was written, for usage 255 too -/
theorem asParsed_id (p : Params) : p.asParsed = p := asParsed_eq p

/-- usage 255: what is written for `MalleableCfb` is read back as the variant the source's arm
for 255 constructs (`Params.asParsed`, the identity: `asParsed_id`) -/
theorem parse_ser_malleable {Mat} (A : KeyAlg Mat) (ver sym : Byte) (s2k : S2k) (iv data bytes : Bytes)
    (hw : (Params.malleableCfb sym s2k iv).WireWF ver)
    (hadm : isV6 ver = true → v6UsageAllowed (Params.malleableCfb sym s2k iv).asParsed.usageOctet = true)
    (hs : serEncrypted ver (.malleableCfb sym s2k iv) data = some bytes) :
    parseSecret A ver bytes = some (.encrypted (Params.malleableCfb sym s2k iv).asParsed data) := by
  rw [asParsed_id] at hadm ⊢
  exact parse_ser_encrypted A ver _ data bytes hw hadm hs

/-! ## lock → unlock -/

/-- **right password restores the key**: for every key version, packet type, public key, cipher,
AEAD mode, S2K specifier, IV / nonce, password and material — whatever `lock` accepts is unlocked to
exactly the original material -/
theorem lock_unlock {Mat} (P : Prims) (L : Laws P) (A : KeyAlg Mat)
    (hA : ∀ m, A.parse (A.ser m) = some (m, []))
    (ver tag : Byte) (pub : Bytes) (p : Params) (pw : Bytes) (m : Mat) (blob : Bytes)
    (hl : lock P A ver tag pub p pw m = some blob) :
    unlock P A ver tag pub p blob pw = some m := SK.lock_unlock L hA hl

/-- `lock` refuses what `unlock` refuses (AEAD + salted S2K; v6 CFB + simple S2K), and whatever it
accepts `unlock` does not refuse on the parameters -/
theorem lock_accepts_only_what_unlock_opens {Mat} (P : Prims) (A : KeyAlg Mat) (ver tag : Byte) (pub : Bytes)
    (p : Params) (pw : Bytes) (m : Mat) (blob : Bytes) (hl : lock P A ver tag pub p pw m = some blob) :
    unlockAccepts ver p = true := lockAdmits_accepts (lock_some hl).1

theorem lock_refusal_examples :
    lock toyPrims toyAlg 4 5 wPub wAeadSalted wPw (1, 2) = none ∧
    lock toyPrims toyAlg 6 5 wPub wCfbSimpleV6 wPw (1, 2) = none := by decide

/-- packet level (`SecretKey::set_password_with_s2k`, then `unlock` / `remove_password`): the
closure given to `unlock` sees the original material, and `remove_password` restores the very
packet that was locked -/
theorem set_password_roundtrip {Mat} (P : Prims) (L : Laws P) (A : KeyAlg Mat)
    (hA : ∀ m, A.parse (A.ser m) = some (m, []))
    (k k' : SecretKey Mat) (pw : Bytes) (p : Params)
    (hs : setPasswordWithS2k P A k pw p = some k') :
    ∃ m, k.secret = .plain m ∧ unlockKey P A k' pw = some m ∧ removePassword P A k' pw = some k := by
  obtain ⟨ver, tag, pub, secret⟩ := k
  cases secret with
  | encrypted p0 d0 => cases hs
  | plain m =>
    obtain ⟨blob, hl, rfl⟩ := Option.map_eq_some_iff.mp hs
    have hu := SK.lock_unlock L hA hl
    exact ⟨m, rfl, hu, by simp [removePassword, hu]⟩

/-- a locked packet is not locked again (`Secret Key packet must be unlocked`) -/
theorem set_password_on_locked_fails {Mat} (P : Prims) (A : KeyAlg Mat) (k : SecretKey Mat) (pw : Bytes)
    (p p0 : Params) (d0 : Bytes) (h : k.secret = .encrypted p0 d0) : setPasswordWithS2k P A k pw p = none := by
  rw [setPasswordWithS2k, h]

/-- `lock` writes the RFC layout -/
theorem lock_is_rfc_layout {Mat} (P : Prims) (A : KeyAlg Mat) (ver tag : Byte) (pub : Bytes) (p : Params)
    (pw : Bytes) (m : Mat) (blob : Bytes) (hl : lock P A ver tag pub p pw m = some blob) :
    protect P A ver tag pub p pw m = some blob := (lock_some hl).2

/-- **also after the locked key has been serialized and parsed** (both key versions, usages 253 and
254 — the only ones `lock` produces) -/
theorem lock_serialize_parse_unlock {Mat} (P : Prims) (L : Laws P) (A : KeyAlg Mat)
    (hA : ∀ m, A.parse (A.ser m) = some (m, []))
    (ver tag : Byte) (pub : Bytes) (p : Params) (pw : Bytes) (m : Mat) (blob bytes : Bytes)
    (hl : lock P A ver tag pub p pw m = some blob)
    (hwf : p.WireWF ver) (hs : serEncrypted ver p blob = some bytes) :
    ∃ p' d, parseSecret A ver bytes = some (.encrypted p' d) ∧ unlock P A ver tag pub p' d pw = some m := by
  have hw := lockAdmits_accepts (lock_some hl).1
  exact ⟨p, blob, parse_ser_encrypted A ver p blob bytes hwf (unlockAccepts_v6_usage · hw) hs,
    SK.lock_unlock L hA hl⟩

/-! ## a key accepted from the wire unlocks with its password, whichever usage octet it carries -/

/-- in memory: a blob laid out as the RFC prescribes for the usage of `p` — 253, 254, 255 or a
legacy cipher octet — is opened by `unlock` with the same password -/
theorem protect_unlock {Mat} (P : Prims) (L : Laws P) (A : KeyAlg Mat)
    (hA : ∀ m rest, A.parse (A.ser m ++ rest) = some (m, rest))
    (ver tag : Byte) (pub : Bytes) (p : Params) (pw : Bytes) (m : Mat) (blob : Bytes)
    (hp : protect P A ver tag pub p pw m = some blob) (hw : unlockAccepts ver p = true) :
    unlock P A ver tag pub p blob pw = some m := SK.protect_unlock L hA hp hw

/-- from the wire: the secret part of a key packet that carries usage octet 253, 254, 255 or a
legacy cipher octet and a blob in the RFC layout is parsed, and what was parsed unlocks to the
material (v6 keys: 253 / 254 only — `unlockAccepts`) -/
theorem wire_unlock {Mat} (P : Prims) (L : Laws P) (A : KeyAlg Mat)
    (hA : ∀ m rest, A.parse (A.ser m ++ rest) = some (m, rest))
    (ver tag : Byte) (pub : Bytes) (p : Params) (pw : Bytes) (m : Mat) (blob bytes : Bytes)
    (hp : protect P A ver tag pub p pw m = some blob) (hw : unlockAccepts ver p = true)
    (hwf : p.WireWF ver) (hs : serEncrypted ver p blob = some bytes) :
    ∃ p' d, parseSecret A ver bytes = some (.encrypted p' d) ∧ unlock P A ver tag pub p' d pw = some m :=
  ⟨p, blob, parse_ser_encrypted A ver p blob bytes hwf (unlockAccepts_v6_usage · hw) hs,
    SK.protect_unlock L hA hp hw⟩

/-- concrete instance (toy primitives): a v4 key with usage octet 255 laid out as the RFC
prescribes starts with octet 255, is parsed as `MalleableCfb` and unlocks; a v6 key carrying the
octet is rejected by the parser -/
theorem usage255_from_wire_unlocks :
    unlock toyPrims toyAlg 4 5 wPub wMalleable w255Blob wPw = some (1, 2) ∧
    w255Wire.head? = some 255 ∧
    (match parseSecret toyAlg 4 w255Wire with
     | some (.encrypted p d) => (p.variant, p.usageOctet, unlock toyPrims toyAlg 4 5 wPub p d wPw)
     | _ => (.unprotected, 0, none)) = (.malleableCfb, 255, some (1, 2)) ∧
    (parseSecret toyAlg 6 ((serEncrypted 6 wMalleable w255Blob).getD [])).isNone = true := by
  decide

/-! ## nothing else restores it — AEAD (253) -/

/-- the associated data determines the packet type and the whole public key packet body -/
theorem ad_binds_public (tag tag' : Byte) (pub pub' : Bytes) (h : tag.toNat < 64) (h' : tag'.toNat < 64)
    (he : aeadAd tag pub = aeadAd tag' pub') : tag = tag' ∧ pub = pub' := aeadAd_inj tag tag' pub pub' h h' he

/-- … and the body determines version, creation time, algorithm and public parameters -/
theorem public_body_binds_fields (ver ver' : Byte) (c c' e e' : Nat) (alg alg' : Byte) (pp pp' : Bytes)
    (hv : isV4V6 ver = true) (hv' : isV4V6 ver' = true) (hc : c < 4294967296) (hc' : c' < 4294967296)
    (h : pubKeyBody ver c e alg pp = pubKeyBody ver' c' e' alg' pp') :
    ver = ver' ∧ c = c' ∧ alg = alg' ∧ pp = pp' := by
  simp only [pubKeyBody, hv, hv', if_true, List.cons.injEq] at h
  obtain ⟨rfl, h⟩ := h
  obtain ⟨h1, h2⟩ := List.append_inj h ((be32_length c).trans (be32_length c').symm)
  simp only [List.cons.injEq] at h2
  obtain ⟨rfl, h2⟩ := h2
  refine ⟨rfl, be32_inj c c' hc hc' h1, rfl, ?_⟩
  cases hv6 : isV6 ver
  · simpa [hv6] using h2
  · simp only [hv6, if_true] at h2
    exact (List.append_inj h2 ((be32_length _).trans (be32_length _).symm)).2

/-- the HKDF info determines packet type, key version, cipher and mode -/
theorem info_binds_tag_version_cipher_mode (tag tag' ver ver' sym sym' mode mode' : Byte)
    (h : tag.toNat < 64) (h' : tag'.toNat < 64)
    (he : aeadInfo tag ver sym mode = aeadInfo tag' ver' sym' mode') :
    tag = tag' ∧ ver = ver' ∧ sym = sym' ∧ mode = mode' :=
  aeadInfo_inj tag tag' ver ver' sym sym' mode mode' h h' he

/-- blob unchanged, any change of the nonce or of the public key packet body ⇒ error -/
theorem aead_public_or_nonce_change_fails {Mat} (P : Prims) (hI : IntCtxt P) (hB : CtxBinding P) (A : KeyAlg Mat)
    (ver tag : Byte) (pub pub' : Bytes) (sym mode : Byte) (s2k : S2k) (nonce nonce' pw : Bytes)
    (m : Mat) (blob : Bytes) (ht : tag.toNat < 64)
    (hl : lock P A ver tag pub (.aead sym mode s2k nonce) pw m = some blob)
    (hch : nonce' ≠ nonce ∨ pub' ≠ pub) :
    unlock P A ver tag pub' (.aead sym mode s2k nonce') blob pw = none := by
  refine Option.eq_none_iff_forall_ne_some.mpr fun m' hu => ?_
  obtain ⟨-, -, ts, dk', pt', -, -, hdk', hopen, -⟩ := (unlock_aead_iff ..).mp hu
  obtain ⟨dk, hdk, hseal⟩ := protect_aead_some (lock_some hl).2
  rw [hdk] at hdk'; cases hdk'
  obtain ⟨hn, had, -⟩ := hB _ _ _ _ _ _ _ _ _ _ hseal (hI _ _ _ _ _ _ _ hopen)
  exact hch.elim (· hn) (· (aeadAd_inj tag tag pub' pub ht ht had).2)

/-- blob unchanged, any key other than the one it was sealed under ⇒ error (any S2K, password,
packet type, version, nonce, public key) -/
theorem aead_other_key_fails {Mat} (P : Prims) (hK : WrongKeyFails P) (A : KeyAlg Mat)
    (ver ver' tag tag' : Byte) (pub pub' : Bytes) (sym mode : Byte) (s2k s2k' : S2k) (nonce nonce' pw pw' : Bytes)
    (m : Mat) (blob dk : Bytes)
    (hdk : P.derive s2k pw (Gen.c08SymKeySize sym.toNat) = some dk)
    (hl : lock P A ver tag pub (.aead sym mode s2k nonce) pw m = some blob)
    (hne : ∀ dk', P.derive s2k' pw' (Gen.c08SymKeySize sym.toNat) = some dk' →
      P.hkdf dk' (aeadInfo tag' ver' sym mode) ≠ P.hkdf dk (aeadInfo tag ver sym mode)) :
    unlock P A ver' tag' pub' (.aead sym mode s2k' nonce') blob pw' = none := by
  refine Option.eq_none_iff_forall_ne_some.mpr fun m' hu => ?_
  obtain ⟨-, -, ts, dk', pt', -, -, hdk', hopen, -⟩ := (unlock_aead_iff ..).mp hu
  obtain ⟨dk0, hdk0, hseal⟩ := protect_aead_some (lock_some hl).2
  rw [hdk] at hdk0; cases hdk0
  rw [hK _ _ _ _ _ _ _ _ nonce' (aeadAd tag' pub') hseal (hne dk' hdk')] at hopen
  cases hopen

/-- blob unchanged, another password or a changed packet type / key version ⇒ error
(whatever nonce and public key are presented) -/
theorem aead_wrong_password_fails {Mat} (P : Prims) (hK : WrongKeyFails P) (hH : HkdfInj P)
    (hD : DeriveInj P) (A : KeyAlg Mat)
    (ver ver' tag tag' : Byte) (pub pub' : Bytes) (sym mode : Byte) (s2k : S2k) (nonce nonce' pw pw' : Bytes)
    (m : Mat) (blob : Bytes) (ht : tag.toNat < 64) (ht' : tag'.toNat < 64)
    (hl : lock P A ver tag pub (.aead sym mode s2k nonce) pw m = some blob)
    (hch : pw' ≠ pw ∨ tag' ≠ tag ∨ ver' ≠ ver) :
    unlock P A ver' tag' pub' (.aead sym mode s2k nonce') blob pw' = none := by
  obtain ⟨dk, hdk, -⟩ := protect_aead_some (lock_some hl).2
  refine aead_other_key_fails P hK A ver ver' tag tag' pub pub' sym mode s2k s2k nonce nonce' pw pw' m blob dk hdk hl ?_
  intro dk' hdk' heq
  obtain ⟨rfl, h2⟩ := hH _ _ _ _ heq
  obtain ⟨e1, e2, -⟩ := aeadInfo_inj tag' tag ver' ver sym sym mode mode ht' ht h2
  exact hch.elim (· (hD _ _ _ _ _ hdk' hdk)) (·.elim (· e1) (· e2))

/-- changed blob: whatever `unlock` accepts is a sealing, under the secret key, of bytes that parse
to exactly the returned material (so producing different material means forging a ciphertext) -/
theorem aead_accepts_only_sealings {Mat} (P : Prims) (hI : IntCtxt P) (A : KeyAlg Mat)
    (ver tag : Byte) (pub : Bytes) (sym mode : Byte) (s2k : S2k) (nonce data pw : Bytes) (m : Mat)
    (h : unlock P A ver tag pub (.aead sym mode s2k nonce) data pw = some m) :
    ∃ dk pt, P.derive s2k pw (Gen.c08SymKeySize sym.toNat) = some dk ∧
      P.aseal sym mode (P.hkdf dk (aeadInfo tag ver sym mode)) nonce (aeadAd tag pub) pt = some data ∧
      parseNoCk A pt = some m := by
  obtain ⟨-, -, ts, dk, pt, -, -, hdk, hopen, hp⟩ := (unlock_aead_iff ..).mp h
  exact ⟨dk, pt, hdk, hI _ _ _ _ _ _ _ hopen, hp⟩

/-! ## nothing else restores it — CFB + SHA-1 (254) -/

/-- whatever is accepted decrypts to a body followed by that body's SHA-1 -/
theorem cfb254_accepts_only_consistent_pairs {Mat} (P : Prims) (A : KeyAlg Mat) (ver tag : Byte) (pub : Bytes)
    (sym : Byte) (s2k : S2k) (iv data pw : Bytes) (m : Mat)
    (h : unlock P A ver tag pub (.cfb sym s2k iv) data pw = some m) :
    ∃ key pt, P.derive s2k pw (Gen.c08SymKeySize sym.toNat) = some key ∧
      P.cfbDec sym key iv data = some pt ∧
      P.sha1 (pt.take (data.length - Gen.unlockSha1Split)) = some (pt.drop (data.length - Gen.unlockSha1Split)) ∧
      parseNoCk A (pt.take (data.length - Gen.unlockSha1Split)) = some m := by
  obtain ⟨-, key, pt, hk, hd, -, hs, hp⟩ := (unlock_cfb_iff ..).mp h
  exact ⟨key, pt, hk, hd, hs, hp⟩

/-- never *different* material behind the same decrypted digest (collision freeness of SHA-1) -/
theorem cfb254_same_digest_same_material {Mat} (P : Prims) (hC : CollisionFree P) (A : KeyAlg Mat)
    (ver ver' tag tag' : Byte) (pub pub' : Bytes) (sym sym' : Byte) (s2k s2k' : S2k) (iv iv' data data' pw pw' : Bytes)
    (m m' : Mat) (key key' pt pt' : Bytes)
    (hk : P.derive s2k pw (Gen.c08SymKeySize sym.toNat) = some key)
    (hk' : P.derive s2k' pw' (Gen.c08SymKeySize sym'.toNat) = some key')
    (hd : P.cfbDec sym key iv data = some pt) (hd' : P.cfbDec sym' key' iv' data' = some pt')
    (hu : unlock P A ver tag pub (.cfb sym s2k iv) data pw = some m)
    (hu' : unlock P A ver' tag' pub' (.cfb sym' s2k' iv') data' pw' = some m')
    (hdig : pt.drop (data.length - Gen.unlockSha1Split) = pt'.drop (data'.length - Gen.unlockSha1Split)) :
    m = m' := by
  obtain ⟨-, k1, p1, hk1, hd1, -, hs1, hp1⟩ := (unlock_cfb_iff ..).mp hu
  obtain ⟨-, k2, p2, hk2, hd2, -, hs2, hp2⟩ := (unlock_cfb_iff ..).mp hu'
  cases hk.symm.trans hk1
  cases hk'.symm.trans hk2
  cases hd.symm.trans hd1
  cases hd'.symm.trans hd2
  rw [hdig] at hs1
  rw [hC _ _ _ hs1 hs2, hp2] at hp1
  exact (Option.some.inj hp1).symm

/-- any change confined to the encrypted digest (the last 20 octets of the blob) ⇒ error -/
theorem cfb254_digest_tamper_rejected {Mat} (P : Prims) (L : Laws P) (C : CfbLaws P) (A : KeyAlg Mat)
    (ver tag : Byte) (pub : Bytes) (sym : Byte) (s2k : S2k) (iv pw : Bytes) (m : Mat) (a b b' : Bytes)
    (hl : lock P A ver tag pub (.cfb sym s2k iv) pw m = some (a ++ b))
    (hb : b.length = Gen.unlockSha1Split) (hb' : b'.length = Gen.unlockSha1Split) (hne : b' ≠ b) :
    unlock P A ver tag pub (.cfb sym s2k iv) (a ++ b') pw = none := by
  refine Option.eq_none_iff_forall_ne_some.mpr fun m' hu => ?_
  obtain ⟨key', pt', hk', hd', hs', -⟩ :=
    cfb254_accepts_only_consistent_pairs P A ver tag pub sym s2k iv (a ++ b') pw m' hu
  obtain ⟨key, h, hkey, hh, henc⟩ := protect_cfb_some (lock_some hl).2
  rw [hkey] at hk'; cases hk'
  have hdec := L.cfb_dec_enc _ _ _ _ _ henc
  have hal : a.length = (A.ser m).length := by
    have := L.cfb_enc_len _ _ _ _ _ henc
    rw [List.length_append, List.length_append, L.sha1_len _ _ hh, hb] at this
    exact Nat.add_right_cancel this
  -- both decryptions agree on the first |a| octets
  obtain ⟨pa, hpa, hpae⟩ := C.dec_prefix _ _ _ _ _ _ hdec
  obtain ⟨pa', hpa', hpae'⟩ := C.dec_prefix _ _ _ _ _ _ hd'
  rw [hpa] at hpa'; cases hpa'
  have hx : pt'.take a.length = A.ser m := by
    rw [← hpae', hpae, hal, List.take_left' rfl]
  have hcut : (a ++ b').length - Gen.unlockSha1Split = a.length := by
    rw [List.length_append, hb']; exact Nat.add_sub_cancel ..
  rw [hcut, hx, hh] at hs'
  -- so pt' = ser m ++ h, hence a ++ b' = a ++ b
  have hpt' : pt' = A.ser m ++ h := by
    rw [← List.take_append_drop a.length pt', hx, Option.some.inj hs']
  have := C.enc_dec _ _ _ _ _ hd'
  rw [hpt', henc] at this
  exact hne (List.append_cancel_left (Option.some.inj this)).symm

/-! ## 255 and the legacy cipher octets: a 16-bit sum, stated honestly -/

/-- all that stands between a tampered / wrongly decrypted blob and acceptance is: what precedes the
last two octets parses completely, and those two octets equal the 16-bit sum of the stored octets -/
theorem sum16_is_the_only_check_255 {Mat} (P : Prims) (A : KeyAlg Mat) (ver tag : Byte) (pub : Bytes)
    (sym : Byte) (s2k : S2k) (iv data pw : Bytes) (m : Mat) (hv : isV3V4 ver = true)
    (h : unlock P A ver tag pub (.malleableCfb sym s2k iv) data pw = some m) :
    ∃ key mat a b, P.derive s2k pw (Gen.c08SymKeySize sym.toNat) = some key ∧
      P.cfbDec sym key iv data = some (mat ++ [a, b]) ∧ A.parse mat = some (m, []) ∧
      a.toNat * 256 + b.toNat = sum16 mat := by
  obtain ⟨-, key, pt, hk, hd, -, hck⟩ := (unlock_malleable_iff ..).mp h
  rw [parseCk_eq_stored] at hck
  obtain ⟨mat, a, b, rfl, hparse, hsum⟩ := (parseCkStored_iff A ver hv pt m).mp hck
  exact ⟨key, mat, a, b, hk, hd, hparse, hsum⟩

theorem sum16_is_the_only_check_legacy {Mat} (P : Prims) (A : KeyAlg Mat) (ver tag : Byte) (pub : Bytes)
    (sym : Byte) (iv data pw : Bytes) (m : Mat) (hv : isV3V4 ver = true)
    (h : unlock P A ver tag pub (.legacyCfb sym iv) data pw = some m) :
    ∃ mat a b, P.cfbDec sym (P.md5 pw) iv data = some (mat ++ [a, b]) ∧ A.parse mat = some (m, []) ∧
      a.toNat * 256 + b.toNat = sum16 mat := by
  obtain ⟨-, pt, hd, -, hck⟩ := (unlock_legacy_iff ..).mp h
  rw [parseCk_eq_stored] at hck
  obtain ⟨mat, a, b, rfl, hparse, hsum⟩ := (parseCkStored_iff A ver hv pt m).mp hck
  exact ⟨mat, a, b, hd, hparse, hsum⟩

/-- "a locked key that the library accepts from the wire unlocks with its password whichever S2K usage
octet it carries", for the 16-bit-sum usages and **whichever encoding** the material was stored in
(other implementations round MPI bit counts up to whole octets): any encoding `mat` the parser reads
completely, followed by the sum of those octets, is opened by the right password (D8e: before the
repair the sum was taken over the re-serialised material and such keys were refused) -/
theorem wire_unlock_255_any_stored_encoding {Mat} (P : Prims) (A : KeyAlg Mat) (ver tag : Byte) (pub : Bytes)
    (sym : Byte) (s2k : S2k) (iv data pw key mat : Bytes) (m : Mat) (hv : isV3V4 ver = true)
    (hw : unlockWilling ver (.malleableCfb sym s2k iv) = true)
    (hk : P.derive s2k pw (Gen.c08SymKeySize sym.toNat) = some key)
    (hd : P.cfbDec sym key iv data = some (mat ++ be16 (sum16 mat)))
    (hp : A.parse mat = some (m, [])) :
    unlock P A ver tag pub (.malleableCfb sym s2k iv) data pw = some m :=
  (unlock_malleable_iff ..).mpr
    ⟨hw, key, _, hk, hd, two_le_length_append_be16 _ _, parseCk_any_encoding A ver hv mat m hp⟩

theorem wire_unlock_legacy_any_stored_encoding {Mat} (P : Prims) (A : KeyAlg Mat) (ver tag : Byte) (pub : Bytes)
    (sym : Byte) (iv data pw mat : Bytes) (m : Mat) (hv : isV3V4 ver = true)
    (hw : unlockWilling ver (.legacyCfb sym iv) = true)
    (hd : P.cfbDec sym (P.md5 pw) iv data = some (mat ++ be16 (sum16 mat)))
    (hp : A.parse mat = some (m, [])) :
    unlock P A ver tag pub (.legacyCfb sym iv) data pw = some m :=
  (unlock_legacy_iff ..).mpr ⟨hw, _, hd, two_le_length_append_be16 _ _, parseCk_any_encoding A ver hv mat m hp⟩

/-- the repair is in the tree the model was generated from; regression witness for the pre-repair form -/
theorem d8e_repaired : Gen.fixD8eChecksumOverStoredOctets = 1 := fixD8e_on

theorem d8e_prefix_witness :
    parseCkReencoded toyAlgBitCount 4 ([8, 7] ++ be16 (sum16 [8, 7])) = none ∧
    parseCkStored toyAlgBitCount 4 ([8, 7] ++ be16 (sum16 [8, 7])) = some 7 ∧
    parseCkReencoded toyAlgBitCount 4 ([3, 7] ++ be16 (sum16 [3, 7])) = some 7 := by decide

/-- the sum does not bind the material … -/
theorem sum16_not_binding : ∃ x y : Bytes, x ≠ y ∧ x.length = y.length ∧ sum16 x = sum16 y :=
  ⟨[1, 2], [2, 1], by decide, rfl, by decide⟩

/-- … so "any change to the protected bytes fails" is false for usage 255 as a matter of format:
witness (toy primitives) of a tampered blob that is accepted and yields different material -/
theorem usage255_tamper_can_yield_other_material :
    w255Tampered ≠ w255Blob ∧
    unlock toyPrims toyAlg 4 5 wPub wMalleable w255Tampered wPw = some (2, 1) := by decide

/-! ## policy: what is refused, on every input -/

/-- the refusals at the head of `unlock`, as a table: v6 keys only from AEAD (Argon2 / iterated) or
CFB+SHA-1 (iterated / salted) and never over MD5 / SHA-1 / RIPEMD-160; other versions everything
but Argon2 outside AEAD and AEAD with a simple / salted / opaque S2K -/
theorem unlock_policy_table (ver : Byte) (p : Params) :
    unlockAccepts ver p = if isV6 ver then v6Unlockable p else nonV6Unlockable p := unlockAccepts_table ver p

/-- … and nothing outside the table is ever unlocked, whatever data and password -/
theorem unlock_only_within_policy {Mat} (P : Prims) (A : KeyAlg Mat) (ver tag : Byte) (pub : Bytes) (p : Params)
    (data pw : Bytes) (m : Mat) (h : unlock P A ver tag pub p data pw = some m) :
    (if isV6 ver then v6Unlockable p else nonV6Unlockable p) = true := by
  rw [← unlockAccepts_table]; exact unlock_some_accepts P A ver tag pub p data pw m h

/-- `lock` never produces a weak-hash S2K, Argon2 outside AEAD, usage 255, a legacy cipher octet,
or a locked key of a version other than 4 / 6 -/
theorem lock_policy {Mat} (P : Prims) (A : KeyAlg Mat) (ver tag : Byte) (pub : Bytes) (p : Params)
    (pw : Bytes) (m : Mat) (blob : Bytes) (hl : lock P A ver tag pub p pw m = some blob) :
    isV4V6 ver = true ∧
    ((∃ sym mode s2k nonce, p = .aead sym mode s2k nonce ∧ s2k.weak = false) ∨
     (∃ sym s2k iv, p = .cfb sym s2k iv ∧ s2k.weak = false ∧ s2k.isArgon2 = false)) := by
  have ha := (lock_some hl).1
  cases p with
  | unprotected | legacyCfb | malleableCfb => cases ha
  | cfb sym s2k iv =>
    simp only [lockAdmits, Bool.and_eq_true, Bool.not_eq_true'] at ha
    exact ⟨ha.2, .inr ⟨sym, s2k, iv, rfl, ha.1.1.1, ha.1.1.2⟩⟩
  | aead sym mode s2k nonce =>
    simp only [lockAdmits, Bool.and_eq_true, Bool.not_eq_true'] at ha
    exact ⟨ha.2, .inl ⟨sym, mode, s2k, nonce, rfl, ha.1.1⟩⟩

/-- whatever bytes a version 6 key packet carries, what the parser returns has usage id 0, 253 or 254 -/
theorem v6_parsed_usage {Mat} (A : KeyAlg Mat) (ver : Byte) (b : Bytes) (s : Secret Mat) (hv : isV6 ver = true)
    (h : parseSecret A ver b = some s) : v6UsageAllowed s.usageId = true := by
  unfold parseSecret at h
  split at h; · cases h
  obtain ⟨hn, h⟩ := Option.ite_none_left_eq_some.mp h
  cases h
  simpa [hv] using hn

/-- unprotected secret part (what `remove_password` leaves): serialize → parse, with the v3/v4 checksum -/
theorem parse_ser_plain {Mat} (A : KeyAlg Mat) (hA : ∀ m rest, A.parse (A.ser m ++ rest) = some (m, rest))
    (ver : Byte) (m : Mat) (bytes : Bytes) (hs : serSecret A ver (.plain m) = some bytes) :
    ∃ m', parseSecret A ver bytes = some (.plain m') ∧ m' = m := by
  cases hs
  have h0 : usageOfOctet (Gen.wrUsageUnprotected.toUInt8).toNat = .unprotected := by decide
  refine ⟨m, parseSecret_of_fields A ver ?_ fun _ => rfl, rfl⟩
  simp only [parseSecretFields, h0]
  cases hv : isV6 ver <;> simp [parseCk_plain A ver hA m]

/-! ## the hypotheses are satisfiable -/

example : Laws toyPrims := toyLaws
example : ∀ m rest, toyAlg.parse (toyAlg.ser m ++ rest) = some (m, rest) := toyAlg_law
example : Laws idealPrims ∧ CfbLaws idealPrims ∧ IntCtxt idealPrims ∧ CtxBinding idealPrims ∧
    WrongKeyFails idealPrims ∧ CollisionFree idealPrims ∧ HkdfInj idealPrims ∧ DeriveInj idealPrims :=
  ⟨ideal_laws, ideal_cfbLaws, ideal_intCtxt, ideal_ctxBinding, ideal_wrongKeyFails, ideal_collisionFree,
    ideal_hkdfInj, ideal_deriveInj⟩

/-- `lock_unlock` instantiated: the toy primitives lock and unlock a v6 AEAD/Argon2 key -/
example : unlock toyPrims toyAlg 6 5 wPub (.aead 9 2 (.argon2 (List.replicate 16 7) 1 4 10) (List.replicate 15 3))
    ((lock toyPrims toyAlg 6 5 wPub (.aead 9 2 (.argon2 (List.replicate 16 7) 1 4 10) (List.replicate 15 3)) wPw (1, 2)).getD [])
    wPw = some (1, 2) := by decide

end Rpgp.C08
