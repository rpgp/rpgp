import RpgpProofs.Cleartext
import RpgpProofs.CleartextIncr
/-!
# C16 — cleartext signatures: text survives, framing is unspoofable, signature binds

Property theorems only (helper lemmas: `RpgpProofs/Cleartext.lean`; model:
`RpgpModel/Cleartext.lean`, a transcription of `src/composed/cleartext.rs` and of the cleartext
branch of `src/armor/reader.rs`).  Every theorem quantifies over ALL texts (arbitrary byte
strings: any number of lines, any characters, with or without final newline) and all signature
blocks; signature primitives are parameters (`SigPrims`) whose laws are explicit hypotheses.

Two defects of earlier trees are repaired in this one (the theorems below are the unguarded
statements): D6b (`new`/`sign`/`new_many` signed the text with its trailing blanks) and D16b (a
text ending in CR lost that CR in `to_armored_string → from_string`; the writer puts CR LF
after such a text).
-/
namespace Rpgp.C16
open Rpgp

/-! ## constants: the literals of the model are the literals of the source, writer = reader -/

/-- every string literal used by the model equals the literal re-extracted from the source -/
theorem literals_match_source :
    fiveDashes = Gen.csfEmptyBodyPrefix ∧ bodyEndPat = Gen.csfBodyEndPat ∧
    csfHeaderLine = Gen.csfHeaderLineLit ∧ hashTag = Gen.csfWriterHashTag ∧
    [DASH] = Gen.csfEscapeStartsWith ∧ [DASH, SP] = Gen.csfEscapePrefix ∧
    [SP, TAB] = Gen.csfTrimChars ∧ [CR, LF] = Gen.csfUnescapeCrLf ∧ [LF] = Gen.csfUnescapeLf ∧
    [LF] = Gen.csfSplitChar ∧ [LF] = Gen.csfSplitCharUnescape ∧ [CR, LF] = Gen.csfBodyStripCrLf ∧
    [LF] = Gen.csfWriterLineEnd ∧ [COMMA] = Gen.csfReaderValueSep := by decide

/-- the writing side and the reading side use the same literals, and the boundary the body
reader looks for is the writer's separator followed by the armor header separator -/
theorem writer_reader_sites_agree :
    Gen.csfEscapePrefix = Gen.csfUnescapePrefix ∧
    Gen.csfEscapeStartsWith ++ [SP] = Gen.csfEscapePrefix ∧
    Gen.csfWriterHashTag = Gen.csfReaderHashTag ∧
    Gen.csfBodyEndPat = Gen.csfWriterLineEnd ++ Gen.csfEmptyBodyPrefix ∧
    Gen.csfEmptyBodyPrefix = Gen.armorHeaderSep ∧
    Gen.csfHeaderLineLit =
      Gen.armorHeaderSep ++ Gen.armorBeginTag ++ Gen.armorCleartextType ++ Gen.armorHeaderSep ∧
    Gen.csfSplitChar = Gen.csfSplitCharUnescape ∧
    Gen.csfBodyStripCrLf = Gen.csfUnescapeCrLf := by decide

/-- the byte counts removed by the readers are the lengths of the line endings they test for -/
theorem strip_lengths_are_line_ending_lengths :
    Gen.csfStripCrLf = Gen.csfBodyStripCrLf.length ∧ Gen.csfStripLf = Gen.csfWriterLineEnd.length ∧
    Gen.csfSplitAfter = Gen.csfWriterLineEnd.length ∧
    Gen.csfLineEndLenCrLf = Gen.csfUnescapeCrLf.length ∧
    Gen.csfLineEndLenLf = Gen.csfUnescapeLf.length := by decide

/-- RFC 9580 §7.1/§7.2 values: dash-space escape, five-dash boundary, blanks are SP and TAB,
hash algorithm ids of the `Hash:` names -/
theorem rfc_constants :
    Gen.csfEscapePrefix = [45, 32] ∧ Gen.armorHeaderSep = [45, 45, 45, 45, 45] ∧
    Gen.csfTrimChars = [32, 9] ∧
    Gen.hashIdMd5 = 1 ∧ Gen.hashIdSha1 = 2 ∧ Gen.hashIdRipemd160 = 3 ∧ Gen.hashIdSha256 = 8 ∧
    Gen.hashIdSha384 = 9 ∧ Gen.hashIdSha512 = 10 ∧ Gen.hashIdSha224 = 11 ∧
    Gen.hashIdSha3_256 = 12 ∧ Gen.hashIdSha3_512 = 14 := by decide

/-! ## dash escaping -/

/-- `dash_escape` is the line-by-line rule of RFC 9580 §7.1 read as a two-state machine (at
line start / inside a line): refinement of the `split_inclusive` loop, for every text. -/
theorem escape_is_state_machine (t : Bytes) : dashEscape t = escapeGo true t :=
  dashEscape_eq_go t

/-- the lines of the escaped text are exactly the escaped lines of the text (escaping never
merges, splits, adds or drops a line) -/
theorem escape_preserves_lines (t : Bytes) :
    splitInclusive (dashEscape t) = (splitInclusive t).map escLine :=
  lines_dashEscape t

/-- **unescape ∘ escape = id**, for every text -/
theorem unescape_escape (t : Bytes) : unescape (dashEscape t) = t :=
  unescape_dashEscape t

/-- the code's `dash_unescape_and_trim` factors, line by line, as "strip one `- `" followed by
"trim trailing blanks" -/
theorem unescape_trim_factor (c : Bytes) :
    unescapeTrim c = ((splitInclusive c).map fun l => trimLine (stripDashSp l)).flatten :=
  unescapeTrim_factor c

/-- `dash_unescape_and_trim (dash_escape t)` = `t` with the trailing blanks of every line
removed — escaping is undone exactly, whatever the text contains -/
theorem unescape_trim_escape (t : Bytes) : unescapeTrim (dashEscape t) = trimLines t :=
  unescapeTrim_dashEscape t

/-- every line of an escaped text that starts with `-` starts with `- ` -/
theorem escaped_lines_safe (t : Bytes) :
    ∀ l ∈ splitInclusive (dashEscape t), ∀ r, l = DASH :: r → ∃ r', r = SP :: r' := by
  intro l hl r hr
  rw [lines_dashEscape] at hl
  obtain ⟨l0, _, rfl⟩ := List.mem_map.mp hl
  cases l0 with
  | nil => simp [escLine] at hr
  | cons b r0 =>
    by_cases hb : b = DASH
    · subst hb
      simp only [escLine, if_true] at hr
      injection hr with _ hr
      exact ⟨_, hr.symm⟩
    · simp only [escLine, hb, if_false] at hr
      injection hr with h1 _
      exact absurd h1 hb

/-- **framing cannot be spoofed by content**: the escaped text never contains `"\n-----"` (so
the body reader cannot stop early inside it) and never starts with `"-----"` (so it is never
taken for an empty body / an armor header), for every text -/
theorem no_boundary_in_escaped (t : Bytes) :
    ¬ bodyEndPat <:+: dashEscape t ∧ ¬ fiveDashes <+: dashEscape t := by
  refine ⟨dashEscape_no_pat t, fun h => dashEscape_no_dashdash t ?_⟩
  obtain ⟨q, hq⟩ := h
  exact ⟨[DASH, DASH, DASH] ++ q, by rw [← hq]; rfl⟩

/-- … not even two dashes at the start of the text: the escaped text followed by the writer's LF and
ANY continuation `z` still does not start with `--`, and the escaped text with that LF holds no
boundary -/
theorem no_boundary_with_any_continuation (t z : Bytes) :
    ¬ [DASH, DASH] <+: dashEscape t ++ [LF] ++ z ∧ ¬ bodyEndPat <:+: dashEscape t ++ [LF] :=
  ⟨by rw [List.append_assoc, dashEscape_eq]
      exact SV.not_dd_prefix_dashEscape t _ (SV.not_dd_prefix_cons LF (by decide) z),
    no_pat_dashEscape t [LF] (by decide) (by decide)⟩

/-! ## body delimiting: write then read -/

/-- **read ∘ write on the body**: for every text `t` and every signature block whose first line
starts with `-----` (`armor::write` emits `-----BEGIN PGP SIGNATURE-----`), `read_cleartext_body`
applied to what `to_armored_writer` writes (text, then LF — or CR LF when the text ends with CR —
then the block) stops at that line and nowhere else, hands the block on untouched, and returns the
escaped text unchanged. -/
theorem read_write_body (t c more : Bytes) (hc : LF ∉ c) :
    readCleartextBody (dashEscape t ++ sepFixed (dashEscape t) ++ (fiveDashes ++ c ++ LF :: more)) =
      some (dashEscape t, fiveDashes ++ c ++ LF :: more) :=
  readCleartextBody_sepFixed t _ ⟨c ++ LF :: more, (List.append_assoc _ _ _).symm⟩

/-- why the writer must not put a bare LF after a final CR: the reader (which accepts CR LF line
breaks of foreign documents) would take the CR for part of the line break -/
theorem reader_strips_cr_before_lf (t c more : Bytes) (hc : LF ∉ c) :
    readCleartextBody (dashEscape t ++ LF :: (fiveDashes ++ c ++ LF :: more)) =
      some (if endsCR t then (dashEscape t).dropLast else dashEscape t,
            fiveDashes ++ c ++ LF :: more) :=
  readCleartextBody_LF t _ ⟨c ++ LF :: more, (List.append_assoc _ _ _).symm⟩

/-- **the body reader never invents content**, on ANY input (emitted or foreign): whatever it
returns is a split of the input into text, one line break (LF or CR LF) and the rest, and the
rest always starts with `-----`; the only other outcome is the empty-body case (input starts with
`-----`). -/
theorem body_reader_sound (inp txt rest : Bytes) (h : readCleartextBody inp = some (txt, rest)) :
    fiveDashes <+: rest ∧
    ((txt = [] ∧ inp = rest) ∨ ∃ sep, IsSep sep ∧ inp = txt ++ sep ++ rest) :=
  readCleartextBody_sound inp txt rest h

/-! ## whole document: `to_armored_string → from_string` up to the signature block -/

/-- **read ∘ write on the document**: for every list of hash algorithms the writer can name,
every text and every signature block starting with a `-----` line, the reader returns the same
hash list, the signature block untouched, and the escaped text; unescaping it gives back the text.
No text can be read back as other content, move the end of the text section or inject a header. -/
theorem read_write_doc (ids : List Nat) (names : List Bytes) (t c more : Bytes)
    (hn : ids.mapM hashName = some names) (hc : LF ∉ c) :
    readDoc (writeDoc names (dashEscape t) (fiveDashes ++ c ++ LF :: more)) =
      some (ids, dashEscape t, fiveDashes ++ c ++ LF :: more) ∧ unescape (dashEscape t) = t :=
  ⟨readDoc_writeDoc ids names t _ hn ⟨c ++ LF :: more, (List.append_assoc _ _ _).symm⟩, unescape_dashEscape t⟩

/-- every hash algorithm the writer can name is read back as itself from its own header line -/
theorem hash_header_roundtrip (id : Nat) (n : Bytes) (h : hashName id = some n) :
    hashHeaderLine (hashTag ++ n ++ [LF]) = some [n] ∧ hashOfName n = some id :=
  ⟨(hashName_spec id n h).1, (hashName_spec id n h).2.2⟩

/-- **no other headers**: a line of the header section that is neither a well-formed `Hash:`
line nor the blank line makes the whole document unreadable -/
theorem only_hash_headers (l : Bytes) (ls : List Bytes) (h1 : hashHeaderLine l = none)
    (h2 : isBlankLine l = false) : readHashHeaders (l :: ls) = none := by
  simp [readHashHeaders, h1, h2]

/-- … e.g. `Comment: x`, `Hash: a, b`, `Hash:SHA256` -/
theorem only_hash_headers_examples :
    readHashHeaders [[67, 111, 109, 109, 101, 110, 116, 58, 32, 120, LF], [LF]] = none ∧
    hashHeaderLine (hashTag ++ [97, COMMA, SP, 98, LF]) = none ∧
    hashHeaderLine [72, 97, 115, 104, 58, 83, 72, 65, 50, 53, 54, LF] = none := by decide

/-- an unknown algorithm name in a `Hash:` header is rejected by `validate_headers` -/
theorem unknown_hash_rejected (vs : List Bytes) (v : Bytes) (hv : v ∈ vs) (hu : hashOfName v = none) :
    validateHeaders vs = none := by
  induction vs with
  | nil => cases hv
  | cons a as ih =>
    simp only [validateHeaders] at ih ⊢
    rw [List.mapM_cons]
    rcases List.mem_cons.mp hv with rfl | h
    · simp [hu]
    · cases hashOfName a <;> simp [ih h]

/-! ## the signed form -/

/-- **signed form = RFC form**: what `signed_text()` returns for a message made from `t` is the
C14 canonical form (CRLF line endings) of `t` with the trailing blanks of each line removed and
the dash escaping undone -/
theorem signed_text_rfc (t : Bytes) : signedText (dashEscape t) = canon (trimLines t) := by
  rw [signedText_eq, unescapeTrim_dashEscape]

/-- `verify` hashes exactly `signed_text()` (the second normalisation on the verify path is
idempotent) -/
theorem verify_hashes_signed_text (csf : Bytes) : verifyInput csf = signedText csf :=
  verifyInput_eq csf

/-- `new`/`sign` hash the RFC signed form of the text — for every way `io::copy` chunks it -/
theorem sign_hashes_signed_form (chunk : Bytes → List Bytes) (hch : ∀ x, (chunk x).flatten = x)
    (t : Bytes) : signInputNew chunk t = canon (trimLines t) :=
  signInputNew_eq chunk hch t

/-- `new_many` hands the RFC signed form of the text to its signer -/
theorem sign_many_hands_signed_form (t : Bytes) : signInputMany t = canon (trimLines t) :=
  signInputMany_eq t

/-- **the bytes signed are the bytes verified**, for every text -/
theorem sign_input (chunk : Bytes → List Bytes) (hch : ∀ x, (chunk x).flatten = x) (t : Bytes) :
    signInputNew chunk t = verifyInput (dashEscape t) ∧
    hashedText (chunk (signInputMany t)) = verifyInput (dashEscape t) := by
  rw [signInputNew_eq chunk hch, verifyInput_eq, signed_text_rfc, hashedText_eq_canon, hch,
    signInputMany_eq, canon_idem]
  exact ⟨rfl, rfl⟩

/-- the hashed bytes ARE the signed form (the text-mode hasher is the identity on it, for every
chunking), so the map "signed form ↦ hashed bytes" is injective: any change to the signed form
changes what is hashed -/
theorem hashed_is_signed_form (chunks : List Bytes) (csf : Bytes)
    (h : chunks.flatten = signedText csf) : hashedText chunks = signedText csf := by
  rw [hashedText_eq_canon, h, signedText_eq, canon_idem]

theorem signed_form_to_hash_input_injective (c c' : Bytes) (h : verifyInput c = verifyInput c') :
    signedText c = signedText c' := by
  rwa [verifyInput_eq, verifyInput_eq] at h

/-- on texts that already are in signed form (`canon (trimLines t) = t`) escaping followed by
`signed_text` is the identity; hence two different such texts never have the same signed bytes -/
theorem signed_text_injective_on_canonical (t t' : Bytes)
    (ht : canon (trimLines t) = t) (ht' : canon (trimLines t') = t')
    (h : signedText (dashEscape t) = signedText (dashEscape t')) : t = t' := by
  rw [signed_text_rfc, signed_text_rfc, ht, ht'] at h
  exact h

/-- what the signed form identifies is only line-ending representation, trailing blanks and dash
escaping: equal signed forms imply equal unescaped-and-trimmed texts up to CR-before-LF -/
theorem signed_text_sensitive (c c' : Bytes) (h : signedText c = signedText c') :
    toLF (unescapeTrim c) = toLF (unescapeTrim c') := by
  rw [signedText_eq, signedText_eq] at h
  exact canon_sensitive _ _ h

/-- observation (not required by the property): the signed form is not a projection — on lines
of the shape `… SP CR SP LF` trimming exposes a CR that then merges with the LF, and the result
still has a trailing blank.  `"a SP CR SP LF"` ↦ `"a SP CR LF"` ↦ `"a CR LF"`. -/
theorem signed_form_not_projection_witness :
    canon (trimLines [97, SP, CR, SP, LF]) = [97, SP, CR, LF] ∧
    canon (trimLines [97, SP, CR, LF]) = [97, CR, LF] := by decide

/-! ## messages: sign, verify, tamper (signature primitives are parameters) -/

section prims
variable {Key Sig : Type} (P : SigPrims Key Sig)

/-- **a fresh message verifies**, for every text -/
theorem fresh_verifies (law : VerifySign P) (chunk : Bytes → List Bytes)
    (hch : ∀ x, (chunk x).flatten = x) (h : Nat) (k : Key) (t : Bytes) :
    (Csm.new P chunk h k t).verify P k = true := by
  simp only [Csm.verify, Csm.new, List.any_cons, List.any_nil, Bool.or_false]
  rw [← (sign_input chunk hch t).1]
  exact law _ _

/-- … and so does a `new_many` message under each signer's key -/
theorem fresh_many_verifies (law : VerifySign P) (chunk : Bytes → List Bytes)
    (hch : ∀ x, (chunk x).flatten = x) (ks : List (Nat × Key)) (t : Bytes)
    (k : Nat × Key) (hk : k ∈ ks) :
    (Csm.newMany P chunk ks t).verify P k.2 = true := by
  simp only [Csm.verify, Csm.newMany, List.any_map, List.any_eq_true]
  refine ⟨k, hk, ?_⟩
  simp only [Function.comp]
  rw [(sign_input chunk hch t).2]
  exact law _ _

/-- **after `to_armored_string → from_string` the message still verifies**, for every text -/
theorem roundtrip_verifies (law : VerifySign P) (chunk : Bytes → List Bytes)
    (hch : ∀ x, (chunk x).flatten = x) (h : Nat) (k : Key) (ids : List Nat) (names : List Bytes)
    (t c more : Bytes) (hn : ids.mapM hashName = some names) (hc : LF ∉ c) :
    ∃ csf rest,
      readDoc (writeDoc names (Csm.new P chunk h k t).csf (fiveDashes ++ c ++ LF :: more)) =
        some (ids, csf, rest) ∧ rest = fiveDashes ++ c ++ LF :: more ∧ csf = dashEscape t ∧
      ({ Csm.new P chunk h k t with csf := csf } : Csm Sig).verify P k = true := by
  refine ⟨dashEscape t, _, (read_write_doc ids names t c more hn hc).1, rfl, rfl, ?_⟩
  exact fresh_verifies P law chunk hch h k t

/-- **the signature binds the signed form**: replace the text of an honestly signed message by
any text whose signed form differs — verification fails (reduction to `Binds`) -/
theorem tamper_detected (hb : Binds P) (chunk : Bytes → List Bytes)
    (hch : ∀ x, (chunk x).flatten = x) (h : Nat) (k : Key) (t csf' : Bytes)
    (hne : signedText csf' ≠ signedText (dashEscape t)) :
    ({ Csm.new P chunk h k t with csf := csf' } : Csm Sig).verify P k = false := by
  simp only [Csm.verify, Csm.new, List.any_cons, List.any_nil, Bool.or_false]
  rw [signInputNew_eq chunk hch, verifyInput_eq]
  rw [signed_text_rfc] at hne
  exact hb _ _ _ (Ne.symm hne)

end prims

theorem toy_laws : VerifySign toy ∧ Binds toy :=
  ⟨fun _ d => beq_self_eq_true d, fun _ _ _ h => beq_false_of_ne h.symm⟩

/-- the D6b witness `"a \n"` verifies, and the D16b witness `"a\r"` survives write-then-read of the body -/
theorem former_witnesses_fixed :
    (Csm.new toy (fun x => [x]) 8 () [97, SP, LF]).verify toy () = true ∧
    readCleartextBody (dashEscape [97, CR] ++ sepFixed (dashEscape [97, CR]) ++
      (fiveDashes ++ [] ++ LF :: [])) = some ([97, CR], fiveDashes ++ [] ++ LF :: []) := by
  refine ⟨fresh_verifies toy toy_laws.1 (fun x => [x]) (by intro x; simp) 8 () _, by decide⟩

/-! ## non-vacuity / sanity: concrete evaluations of the executable model -/

example : dashEscape [DASH, 97, LF, DASH, DASH, DASH, DASH, DASH, LF, 120] =
    [DASH, SP, DASH, 97, LF, DASH, SP, DASH, DASH, DASH, DASH, DASH, LF, 120] := by decide
example : unescapeTrim [DASH, SP, DASH, 97, SP, TAB, CR, LF, 98, SP] = [DASH, 97, CR, LF, 98] := by decide
example : trimLines [97, SP, LF, 98, TAB, CR, LF, 99, SP] = [97, LF, 98, CR, LF, 99] := by decide
example : trimLines [97, LF, 98] = [97, LF, 98] := by decide
example : (LF : Byte) ∉ ([66, 69] : Bytes) := by decide
example : readCleartextBody ([97, LF, 98] ++ LF :: (fiveDashes ++ [66] ++ LF :: [120])) =
    some ([97, LF, 98], fiveDashes ++ [66] ++ LF :: [120]) := by decide
/-- the empty-body branch of the reader (never produced by the writer) -/
example : readCleartextBody (fiveDashes ++ [66, LF, 120]) = some ([], fiveDashes ++ [66, LF, 120]) := by decide
/-- an unescaped boundary in a foreign body does end the text there -/
example : readCleartextBody ([97, LF] ++ fiveDashes ++ [LF, 98, LF] ++ fiveDashes ++ [LF]) =
    some ([97], fiveDashes ++ [LF, 98, LF] ++ fiveDashes ++ [LF]) := by decide

/-! ## the body reader as repaired (D19c) is the body reader of the model

`read_cleartext_body` looks for the line that starts the signature block in the line just read (and
the line break in front of it) instead of the whole text read so far.  For every input this finds the
same position, so every statement above, made through `readBodyLines`, is a statement about the code as
it is. -/

theorem d19c_repaired : Gen.fixD19cCleartextSearchLastLineOnly = 1 := by decide

theorem body_reader_of_the_tree_is_the_modelled_one (inp : Bytes) :
    readBodyLinesCur (splitInclusive inp) = readCleartextBody inp :=
  readBodyLinesCur_eq inp

/-- the loop-level statement, from any state the loop can be in: nothing found so far and the text
read so far ends with a line break -/
theorem incremental_search_is_the_full_search (ls : List Bytes) (out : Bytes)
    (hout : out = [] ∨ endsLF out) (hno : findLast bodyEndPat out = none)
    (hl : ∀ l ∈ ls.dropLast, endsLF l) :
    readBodyLoopIncr out ls = readBodyLoop out ls :=
  readBodyLoopIncr_eq ls out hout hno hl

example : readBodyLoopIncr [] (splitInclusive [97, 10, 45, 10, 45, 45, 45, 45, 45, 66, 10, 120]) =
    some ([97, 10, 45], [45, 45, 45, 45, 45, 66, 10], [[120]]) := by decide

end Rpgp.C16
