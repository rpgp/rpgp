import RpgpProofs.Stream
import RpgpProofs.StreamComponents
import RpgpProofs.Canon
import RpgpProofs.CanonReader
import RpgpProofs.Framing
import RpgpProofs.Seipd1
import RpgpProofs.Utf8
import RpgpProofs.StreamFail
import RpgpProofs.PacketIter
import RpgpProofs.StreamIntr
/-!
# C09 — streaming is transparent: results independent of I/O fragmentation and faults

The property has three independent quantifiers; each is discharged by generic theorems about
the streaming idiom rpgp uses everywhere, plus one small obligation per component:

* **source schedules** — every component pulls its input through `fill_buffer` /
  `fill_buffer_bytes`; `fill_buffer_schedule_independent` shows that what they return depends only
  on the byte string, never on how the source fragments it.
* **consumer schedules** — every `Read` implementation is a *buffered producer* (refill when the
  internal buffer is empty, hand out `min(request, available)`); `consumer_schedule_independent`
  shows all consumers reading to the end obtain the same bytes when no refill block before the
  last is empty (`NoSpuriousEOF`), which is then proved per component; an empty block before the end
  is a spurious end of stream (`empty_block_is_spurious_eof`).
* **faults** — `fill_buffer_error_not_swallowed` and `failing_refill_surfaces`: an error is either
  returned or still pending; a clean end of stream implies no refill failed and nothing is missing.
  A consumer may also keep polling after an error (`std::io::copy` does on `Interrupted`): for the
  stream encryptors (`StreamFail.lean`) `encryptor_error_is_sticky` shows every later `read` fails too,
  and `encryptor_releases_only_transformed_data` that nothing but `enc` of source segments (then the
  trailer) is ever handed out — before the repair the refill buffer, which holds plaintext at that
  point, was handed out by the next `read` (`prefix_encryptor_leaks_refill_buffer_witness`).
-/
namespace Rpgp.C09
open Rpgp

/-! ## the generic theorems: source schedules, consumer schedules, faults -/

/-- `fill_buffer` returns exactly the first `n` bytes of the stream (or all of it), whatever the
read schedule of the source, and leaves the rest in the source -/
theorem fill_buffer_schedule_independent (src : List Bytes) (n : Nat) (h : AllNonEmpty src) :
    (fillBuffer (n + 1) src n).1 = src.flatten.take n ∧
    (fillBuffer (n + 1) src n).2.flatten = src.flatten.drop n :=
  ⟨(fillBuffer_spec _ src n h (by omega)).1, (fillBuffer_spec _ src n h (by omega)).2.1⟩

theorem fill_buffer_same_for_all_schedules (s s' : List Bytes) (n : Nat)
    (h : AllNonEmpty s) (h' : AllNonEmpty s') (heq : s.flatten = s'.flatten) :
    (fillBuffer (n + 1) s n).1 = (fillBuffer (n + 1) s' n).1 :=
  fillBuffer_chunk_indep s s' n h h' heq

/-- two consumers with arbitrary positive request sizes that both read to the end obtain the same
bytes from a buffered producer without spurious EOF -/
theorem consumer_schedule_independent (reqs reqs' : List Nat) (buf : Bytes) (bs : List Bytes)
    (h : ∀ r ∈ reqs, 0 < r) (h' : ∀ r ∈ reqs', 0 < r) (hb : NoSpuriousEOF bs)
    (he : (bpDrain buf bs reqs).2 = true) (he' : (bpDrain buf bs reqs').2 = true) :
    (bpDrain buf bs reqs).1 = (bpDrain buf bs reqs').1 :=
  bpDrain_request_indep reqs reqs' buf bs h h' hb he he'

/-- … and conversely an empty block before the end IS a spurious end of stream (the shape of the
defect repaired in `crypto/sym/encryptor.rs`) -/
theorem empty_block_is_spurious_eof (post : List Bytes) (reqs : List Nat) (n : Nat) :
    bpDrain [] ([] :: post) (n :: reqs) = ([], true) :=
  bpDrain_spurious post reqs n

/-- an error raised by the source is never swallowed by `fill_buffer`: on `Ok` the returned bytes
are exactly those preceding, and a pending error is still pending afterwards -/
theorem fill_buffer_error_not_swallowed (fuel : Nat) (src : List Ev) (n : Nat) (bs : Bytes) (src' : List Ev)
    (h : fillBufferEv fuel src n = some (bs, src')) :
    evHasErr src = evHasErr src' ∧ evPrefix src = bs ++ evPrefix src' ∧ bs.length ≤ n :=
  fillBufferEv_conserves fuel src n bs src' h

/-- a consumer that sees a clean end of stream from a producer whose refills may fail has seen
every block and no failure: an error is never converted into a clean, shorter result -/
theorem failing_refill_surfaces (reqs : List Nat) (buf : Bytes) (bs : List (Option Bytes)) (out : Bytes)
    (hr : ∀ r ∈ reqs, 0 < r) (hne : ∀ x, some x ∈ bs.dropLast → x ≠ [])
    (h : bpDrainF buf bs reqs = (out, some true)) :
    none ∉ bs ∧ out = buf ++ (bs.filterMap id).flatten :=
  bpDrainF_clean reqs buf bs out hr hne h

/-! ## per-component obligations -/

/-- signature hasher (`NormalizingHasher`): independent of how `write` calls split the data -/
theorem hasher_chunk_independent (c c' : List Bytes) (h : c.flatten = c'.flatten) :
    hashedText c = hashedText c' := by
  rw [hashedText_eq_canon, hashedText_eq_canon, h]

/-- `NormalizedReader`: no spurious EOF for the extracted window (independence of the source schedule:
`C14.reader_source_schedule_indep`) -/
theorem normalized_reader_no_spurious_eof (d : Bytes) :
    NoSpuriousEOF (nrBlocks CRLF Gen.normalizedReaderWindow (nrInit Gen.normalizedReaderWindow) d) :=
  nrBlocks_noSpurious _ (by decide) _ d List.length_replicate

/-- CFB `StreamEncryptor` (Prefix → Data → Mdc): every block it hands out is non-empty and they
concatenate to the RFC layout, for every plaintext length including 0 and multiples of the buffer -/
theorem cfb_encryptor_blocks (B : Nat) (hB : 0 < B) (pre pt mdc : Bytes) (hp : pre ≠ []) (hm : mdc ≠ []) :
    AllNonEmpty (cfbEncBlocks B pre pt mdc) ∧ (cfbEncBlocks B pre pt mdc).flatten = pre ++ pt ++ mdc :=
  ⟨cfbEncBlocks_nonempty B hB pre pt mdc hp hm, cfbEncBlocks_flatten B hB pre pt mdc⟩

/-- SEIPDv2 decryptor: blocks released before the last refill are full plaintext chunks -/
theorem aead_decryptor_no_spurious_eof (A : Aead) (T : Nat) (L : AeadLaws A T) (info : Bytes) (cs : Nat)
    (hcs : 0 < cs) (ct : Bytes) (fuel : Nat) :
    NoSpuriousEOF (seipd2Dec A info cs T 2 fuel [] 0 0 ct).1 :=
  seipd2Dec_noSpurious A T L info cs 2 hcs (by decide) fuel [] 0 0 ct (by simp)

/-- partial-body emitters: the stream they write is read back whatever the payload length (from
C17); they read their source through `fill_buffer` (`fill_buffer_schedule_independent`) -/
theorem emitter_roundtrip (tag k : Nat) (hdr body rest : Bytes)
    (hallow : partialAllowed tag = true) (hk9 : 9 ≤ k) (hk30 : k ≤ 30) (hh : hdr.length ≤ 2 ^ k)
    (hb : hdr.length + body.length < 4294967296) :
    ∃ h, deframe (emitPartial tag k hdr body ++ rest) = .ok (h, hdr ++ body, rest) ∧ h.tag = tag :=
  deframe_emitPartial tag k hdr body rest hallow hk9 hk30 hh hb

/-- `Utf8CheckReader` (UTF-8 overhang carried across reads): for any "valid up to" function with
the prefix laws of a left-to-right scanner over sequences of at most four octets, the reader
accepts a stream, however it is fragmented, iff the whole stream is valid -/
theorem utf8_check_chunk_independent (vut : Bytes → Nat) (L : VutLaws vut) (hnil : vut [] = 0)
    (cs : List Bytes) :
    utf8CheckChunks vut [] cs = true ↔ vut cs.flatten = cs.flatten.length :=
  utf8Check_chunk_independent vut L hnil cs

/-! ## polling a stream encryptor after a failure -/

/-- once a `read` of a stream encryptor has failed (its source failed during a refill), every later
`read` fails: for every source event list, every request schedule, every refill size -/
theorem encryptor_error_is_sticky (B fuel : Nat) (enc : Bytes → Bytes) (trailer : Bytes)
    (reqs : List Nat) (st : EncSt) (src : List Ev) (pre post : List RdRes)
    (h : encPoll B fuel enc trailer st src reqs = pre ++ RdRes.fail :: post) :
    ∀ r ∈ post, r = RdRes.fail :=
  encPoll_after_fail B fuel enc trailer reqs st src pre post h

/-- whatever the consumer does — any request sizes, polling on after errors — a stream encryptor
started with `queued` already-encrypted octets (the CFB prefix; nothing for AEAD) hands out only a
prefix of: `queued`, then `enc` of consecutive non-empty segments (≤ `B` octets each) of what the
source delivered before its first failure, then possibly the trailer. In particular never octets of
the source that did not go through `enc`. -/
theorem encryptor_releases_only_transformed_data (B fuel : Nat) (enc : Bytes → Bytes) (trailer queued : Bytes)
    (reqs : List Nat) (src : List Ev) :
    ∃ segs : List Bytes, segs.flatten <+: evPrefix src ∧ (∀ s ∈ segs, s ≠ [] ∧ s.length ≤ B) ∧
      (released (encPoll B fuel enc trailer ⟨queued, false, false⟩ src reqs) <+: queued ++ (segs.map enc).flatten ∨
       released (encPoll B fuel enc trailer ⟨queued, false, false⟩ src reqs) <+: queued ++ (segs.map enc).flatten ++ trailer) := by
  obtain ⟨segs, h1, h2, h3⟩ := encStream_sound B fuel enc trailer reqs.length src
  have hr := encPoll_released B fuel enc trailer reqs ⟨queued, false, false⟩ src rfl
  simp only [Bool.false_eq_true, if_false] at hr
  refine ⟨segs, h1, h2, ?_⟩
  rcases h3 with h | h
  · left; rw [← h]; exact hr
  · right; rw [List.append_assoc, ← h]; exact hr

/-- a failed encryptor: all further reads fail and release nothing -/
theorem encryptor_failed_releases_nothing (B fuel : Nat) (enc : Bytes → Bytes) (trailer : Bytes)
    (reqs : List Nat) (st : EncSt) (src : List Ev) (h : st.failed = true) :
    released (encPoll B fuel enc trailer st src reqs) = [] := by
  rw [encPoll_failed B fuel enc trailer reqs st src h, released_fails]

/-- regression witness about the state machine as it was before the repair (`encReadPreFix`): the
source delivers `[1, 2]`, then fails; the read fails, and the NEXT read hands out the refill buffer
`[1, 2, 0, 0]` — plaintext that never went through `enc` -/
theorem prefix_encryptor_leaks_refill_buffer_witness :
    let enc : Bytes → Bytes := fun b => b.map (· + 100)
    let r1 := encReadPreFix 4 8 enc [7] (fun _ => [1, 2, 0, 0]) ⟨[], false, false⟩ [.data [1, 2], .err, .data [3]] 4
    let r2 := encReadPreFix 4 8 enc [7] (fun _ => [1, 2, 0, 0]) r1.2.1 r1.2.2 4
    r1.1 = .fail ∧ r2.1 = .bytes [1, 2, 0, 0] := by decide

/-- the same two reads on the repaired state machine: both fail -/
theorem encryptor_second_read_fails_witness :
    let enc : Bytes → Bytes := fun b => b.map (· + 100)
    encPoll 4 8 enc [7] ⟨[], false, false⟩ [.data [1, 2], .err, .data [3]] [4, 4, 4] = [.fail, .fail, .fail] := by decide

/-! ## interrupted reads (`util::fill_buffer`) -/

/-- a source whose reads are *interrupted* (`ErrorKind::Interrupted`: retry, says the `Read`
contract) is just another way of delivering the same data: `fill_buffer` returns the same octets,
leaves the same source behind and fails in the same cases as over the source without the
interruptions (D14c: before the repair the interruption was returned and what had been read so far
was forgotten — consumers that retried continued with a hole) -/
theorem fill_buffer_interruptions_transparent (src : List EvI) (n fuelI fuel : Nat)
    (h1 : src.length + n ≤ fuelI) (h2 : src.length + n ≤ fuel) :
    RestAgrees (fillBufferIntr fuelI src n) (fillBufferEv fuel (dropIntr src) n) := by
  simp only [fillBufferIntr, fixD14c_on, decide_true]
  exact fillBufferI_transparent fuelI fuel src n h1 h2

theorem fill_buffer_interrupted_witness :
    fillBufferI false 8 [.data [1, 2], .intr, .data [3, 4]] 4 = none ∧
    fillBufferI true 8 [.data [1, 2], .intr, .data [3, 4]] 4 = some ([1, 2, 3, 4], []) :=
  fillBuffer_interrupted_witness

/-! ## the packet iterator over a reader that fails (`packet/many.rs`) -/

/-- "an error raised by the underlying source surfaces as an error and is never converted into a
clean, shorter result", at the place where a stream of packets is cut into packets: when the reader
below fails — with whatever kind, `UnexpectedEof` included — while the next header is being read,
`PacketParser::next_ref` (message reader, trailing-data check) reports an error -/
theorem next_ref_source_error_surfaces (pre : Bytes) (eofKind : Bool)
    (h : ∀ hd rest, parseHeader pre ≠ .ok (hd, rest)) :
    PacketIter.nextRef pre (.failed eofKind) = .err := by
  rw [PacketIter.nextRef_eq]; exact PacketIter.nextWith_failed_is_err pre eofKind h

/-- … and so does the iterator the composed parsers (keys, signatures) are built on -/
theorem iterator_source_error_surfaces (pre : Bytes) (eofKind : Bool)
    (h : ∀ hd rest, parseHeader pre ≠ .ok (hd, rest)) :
    PacketIter.nextIter pre (.failed eofKind) = .err := by
  rw [PacketIter.nextIter_eq]; exact PacketIter.nextWith_failed_is_err pre eofKind h

/-- the packets end only where the input ends -/
theorem packets_end_only_where_the_input_ends (pre : Bytes) (t : PacketIter.Tail) :
    (PacketIter.nextRef pre t = .done → t = .ended) ∧ (PacketIter.nextIter pre t = .done → t = .ended) := by
  rw [PacketIter.nextRef_eq, PacketIter.nextIter_eq]
  exact ⟨PacketIter.nextWith_done_only_at_end pre t, PacketIter.nextWith_done_only_at_end pre t⟩

/-- regression witness (D4n / D4p before the repairs) -/
theorem packet_iterator_swallowed_unexpected_eof_witness :
    PacketIter.nextWith false [0xC2] (.failed true) = .done ∧
    PacketIter.nextWith true [0xC2] (.failed true) = .err ∧
    PacketIter.nextWith false [0xC2] (.failed false) = .err :=
  PacketIter.prefix_swallows_unexpected_eof_witness

/-- the sizes the code uses: the buffer of the CFB stream decryptor (`sym/decryptor.rs` `BUFFER_SIZE`)
exceeds the 22-octet MDC, the `NormalizedReader` window is at least two -/
theorem constants : 22 < Gen.symDecBufferSize ∧ 2 ≤ Gen.normalizedReaderWindow := by decide

/-! ## non-vacuity -/

example : AllNonEmpty [[1, 2], [3]] := by intro c hc; simp at hc; rcases hc with rfl | rfl <;> simp
example : fillBuffer 4 [[1, 2], [3]] 3 = ([1, 2, 3], []) := by decide
example : fillBufferEv 4 [.data [1], .err, .data [2]] 3 = none := by decide
example : bpDrainF [] [some [1, 2], none, some [3]] [1, 1, 1, 1] = ([1, 2], some false) := by decide
example : cfbEncBlocks 4 [9, 9] [] [7] = [[9, 9], [7]] := by decide
example : PacketIter.nextRef [0xCB, 3, 1, 2] .ended = .hdr { newFormat := true, tag := 11, len := .fixed 3 } [1, 2] ∧
    PacketIter.nextRef [] .ended = .done ∧ PacketIter.nextRef [0xCB] .ended = .done ∧
    PacketIter.nextRef [0x00] .ended = .err := by decide
example : encPoll 2 8 (fun b => b.map (· + 100)) [7] ⟨[9], false, false⟩ [.data [1, 2, 3]] [8, 8, 8, 8, 8] =
    [.bytes [9], .bytes [101, 102], .bytes [103], .bytes [7], .bytes []] := by decide

end Rpgp.C09
