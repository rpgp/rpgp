import RpgpProofs.Seipd1
import RpgpProofs.Seipd2
/-!
# C03 — ciphertext integrity: a modified encrypted message never decrypts cleanly

Model: `RpgpModel/Seipd.lean` (the decryptor state machines of `crypto/aead/decryptor.rs` and
`crypto/sym/decryptor.rs` over abstract primitives).

Cryptographic strength enters only as explicit hypotheses:
* `IntCtxt A info finAd cks` — ciphertext integrity of the AEAD: every (index, AD, segment) that
  opens was sealed by the honest encryptor.  (As a statement about *all* bit strings this is the
  usual symbolic idealisation of INT-CTXT: "the modified ciphertext contains no AEAD forgery".)
* for SEIPDv1 no assumption is made: the theorems say exactly what acceptance implies (the SHA-1
  relation of RFC 9580 §5.13.1); that nobody without the key can satisfy it for a modified
  ciphertext is the assumption the RFC itself makes about the MDC.
-/
namespace Rpgp.C03
open Rpgp

/-! ## the constants -/

theorem constants_rfc :
    Gen.aeadTagSize = 16 ∧ Gen.mdcLen = 22 ∧ Gen.encMdcLen = Gen.mdcLen ∧
    Gen.mdcTagOctet = 0xD3 ∧ Gen.mdcLenOctet = 0x14 ∧ Gen.chunkSizeShiftBase = 6 := by decide

/-- the look-ahead window keeps a whole chunk in reserve, so the final tag is never mistaken for
chunk data (used by the round-trip proof, which is stated for window factor 2) -/
theorem window_factor : Gen.aeadWindowFactor = 2 ∧ Gen.aeadWindowFactorCap = Gen.aeadWindowFactor := by decide

/-- the streaming SEIPDv1 buffer is larger than the MDC hold-back, so every refill makes progress -/
theorem sym_buffer_gt_mdc : Gen.mdcLen < Gen.symDecBufferSize := by decide

/-! ## SEIPDv2 -/

/-- **Integrity (SEIPDv2).** Let `ct'` be *any* byte string presented as the ciphertext of a
message whose honest plaintext is `pt` (bit flips, truncation, extension, dropped / duplicated /
reordered chunks are all just some `ct'`). If the AEAD admits no forgery (`IntCtxt`) and the
decryptor reaches a clean end of stream, then `ct'` IS the honest ciphertext and the released bytes
are exactly `pt`.  Contrapositive: every modification ends in an error. -/
theorem seipd2_integrity (A : Aead) (info : Bytes) (cs T k : Nat) (pt ct' : Bytes) (fuel : Nat)
    (H : IntCtxt A info (info ++ be64 pt.length) (chunksOf cs pt)) (hcs : 0 < cs)
    (bl : List Bytes) (h : seipd2Dec A info cs T k fuel [] 0 0 ct' = (bl, true)) :
    ct' = seipd2Encrypt A info cs pt ∧ bl.flatten = pt := by
  obtain ⟨j, _, _, hj3, hj4⟩ := seipd2Dec_int H cs T k fuel [] 0 0 ct' (Nat.zero_le _)
  rw [h] at hj3 hj4
  obtain ⟨hjn, hct⟩ := hj4 rfl
  constructor
  · rw [seipd2Encrypt_eq]; exact hct
  · rw [hjn, List.take_length, chunksOf_flatten cs hcs pt] at hj3
    exact hj3

/-- **Released prefix (SEIPDv2).** Whatever `ct'` is and however the run ends, the bytes released
to the consumer before the end (clean or error) are a prefix of the true plaintext. -/
theorem seipd2_released_prefix (A : Aead) (info : Bytes) (cs T k : Nat) (pt ct' : Bytes) (fuel : Nat)
    (H : IntCtxt A info (info ++ be64 pt.length) (chunksOf cs pt)) (hcs : 0 < cs) :
    (seipd2Dec A info cs T k fuel [] 0 0 ct').1.flatten <+: pt := by
  obtain ⟨j, _, _, hj3, _⟩ := seipd2Dec_int H cs T k fuel [] 0 0 ct' (Nat.zero_le _)
  have hfl := chunksOf_flatten cs hcs pt
  simp only [List.take_zero, List.flatten_nil, List.nil_append] at hj3
  rw [hj3]
  conv => rhs; rw [← hfl, ← List.take_append_drop j (chunksOf cs pt), List.flatten_append]
  exact List.prefix_append _ _

/-- **Round trip (SEIPDv2)**, for every plaintext length (0, exact multiples of the chunk size,
anything in between), every chunk size, every AEAD satisfying the correctness laws. -/
theorem seipd2_roundtrip (A : Aead) (T : Nat) (L : AeadLaws A T) (hT : 0 < T) (info : Bytes)
    (cs : Nat) (hcs : 0 < cs) (pt : Bytes) :
    ∃ bl, seipd2Dec A info cs T 2 ((seipd2Encrypt A info cs pt).length + 2) [] 0 0 (seipd2Encrypt A info cs pt)
      = (bl, true) ∧ bl.flatten = pt :=
  Rpgp.seipd2_roundtrip A T L hT info cs hcs pt

/-- the encryptor never hands out an empty block before its end (each sealed chunk and the final
tag carry at least the tag), so no consumer read pattern sees a spurious end of stream -/
theorem seipd2_encrypt_blocks_nonempty (A : Aead) (T : Nat) (L : AeadLaws A T) (hT : 0 < T)
    (info : Bytes) (cs : Nat) (pt : Bytes) : ∀ b ∈ seipd2Blocks A info cs pt, b ≠ [] := by
  intro b hb
  rw [seipd2Blocks, List.mem_append, List.mem_singleton] at hb
  rcases hb with hb | rfl
  · obtain ⟨j, c, rfl⟩ := mem_sealChunks hb
    exact L.enc_ne_nil j info c (Nat.add_pos_right _ hT)
  · exact L.enc_ne_nil _ _ [] (Nat.add_pos_right _ hT)

/-! ## SEIPDv1 -/

/-- **Default mode releases nothing unless the MDC relation holds.** `seipd1CheckFirst` returns
`none` (an error, no byte released) or `some body`; the latter only if the decrypted stream is
`prefix ‖ body ‖ D3 14 ‖ SHA1(prefix ‖ body ‖ D3 14)` and within the configured size limit. -/
theorem seipd1_checkfirst_no_release (sha1 : Bytes → Bytes) (hs : ∀ x, (sha1 x).length = 20)
    (bs max : Nat) (dec body : Bytes) (h : seipd1CheckFirst sha1 bs max dec = some body) :
    ∃ pre, pre.length = bs + 2 ∧
      dec = pre ++ body ++ [211, 20] ++ sha1 (pre ++ body ++ [211, 20]) ∧ body.length + 22 ≤ max :=
  seipd1CheckFirst_accept sha1 bs max dec body h

/-- truncation below prefix + MDC is an error in the default mode, whatever the bytes are -/
theorem seipd1_checkfirst_truncated (sha1 : Bytes → Bytes) (bs max : Nat) (dec : Bytes)
    (h : dec.length < bs + 2 + 22) : seipd1CheckFirst sha1 bs max dec = none :=
  seipd1CheckFirst_short sha1 bs max dec h

theorem seipd1_checkfirst_roundtrip (sha1 : Bytes → Bytes) (hs : ∀ x, (sha1 x).length = 20)
    (bs max : Nat) (pre pt : Bytes) (hp : pre.length = bs + 2) (hmax : pt.length + 22 ≤ max) :
    seipd1CheckFirst sha1 bs max (seipd1Plain sha1 pre pt) = some pt :=
  seipd1CheckFirst_roundtrip sha1 hs bs max pre pt hp hmax

/-- **Streaming mode.** For every input and buffer size: what has been released is always a prefix
of the decrypted data with the last 22 octets still withheld, and a clean end of stream implies
the stream is `released ‖ mdc` with the MDC relation over exactly the released bytes. -/
theorem seipd1_streaming_sound (sha1 : Bytes → Bytes) (bs B : Nat) (dec : Bytes)
    (bl : List Bytes) (ok : Bool) (h : seipd1Streaming sha1 bs B dec = (bl, ok)) :
    (∃ tail, dec.drop (bs + 2) = bl.flatten ++ tail ∧ (bl ≠ [] → 22 ≤ tail.length)) ∧
    (ok = true → ∃ mdc, dec = dec.take (bs + 2) ++ bl.flatten ++ mdc ∧ mdc.length = 22 ∧
        mdcOk sha1 (dec.take (bs + 2)) bl.flatten mdc = true) := by
  rw [seipd1Streaming] at h
  by_cases h1 : dec.length < bs + 2
  · rw [if_pos h1] at h
    obtain ⟨rfl, rfl⟩ := Prod.mk.inj h
    exact ⟨(Withheld.error sha1 [] [] _).1, nofun⟩
  · rw [if_neg h1] at h
    have := seipd1Rounds_sound sha1 (dec.take (bs + 2)) B (dec.length + 2) [] [] (dec.drop (bs + 2))
    rw [h] at this
    obtain ⟨ha, hb⟩ := this
    refine ⟨ha, fun hok => ?_⟩
    obtain ⟨mdc, hm1, hm2, hm3⟩ := hb hok
    exact ⟨mdc, by rw [List.append_assoc, ← hm1, List.nil_append, List.take_append_drop], hm2, hm3⟩

theorem seipd1_streaming_roundtrip (sha1 : Bytes → Bytes) (hs : ∀ x, (sha1 x).length = 20)
    (bs B : Nat) (hB : 22 < B) (pre pt : Bytes) (hp : pre.length = bs + 2) :
    ∃ bl, seipd1Streaming sha1 bs B (seipd1Plain sha1 pre pt) = (bl, true) ∧ bl.flatten = pt :=
  seipd1Streaming_roundtrip sha1 hs bs B hB pre pt hp

/-! ## non-vacuity -/

/-- a toy AEAD satisfying the correctness laws (tag = 16 zero octets) -/
def toyAead : Aead where
  aeadEnc := fun _ _ p => p ++ List.replicate 16 0
  aeadDec := fun _ _ c => if 16 ≤ c.length then some (c.take (c.length - 16)) else none

example : AeadLaws toyAead 16 where
  enc_len := by intro i ad p; simp [toyAead]
  dec_enc := by intro i ad p; simp [toyAead]
  dec_len := by
    intro i ad c p h
    simp only [toyAead] at h
    split at h
    · simp only [Option.some.injEq] at h; subst h; simp; omega
    · simp at h

/-- an AEAD that opens exactly the honest ciphertexts of the one-chunk message `[1,2,3]` under
`info = [7]`: a candidate model of `IntCtxt`; the instance itself is not stated -/
def honestOnly : Aead where
  aeadEnc := fun i ad p => (i.toUInt8 :: ad) ++ p
  aeadDec := fun i ad c =>
    if i = 0 ∧ ad = [7] ∧ c = (0 :: [7]) ++ [1, 2, 3] then some [1, 2, 3]
    else if i = 1 ∧ ad = [7] ++ be64 3 ∧ c = (1 :: ([7] ++ be64 3)) then some []
    else none

example : chunksOf 4 [1, 2, 3] = [[1, 2, 3]] := by
  rw [chunksOf]; simp [chunksOf]

end Rpgp.C03
