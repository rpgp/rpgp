import RpgpProofs.ArmorDearmor
/-!
# C10 — ASCII armor round trip, checksum correctness and tolerant reading

Model: `RpgpModel/Armor.lean` (writer: base64 → 64-column line writer, CRC-24 tee, header and
footer text; reader: streaming header parser under `read_from_buf`, CR/LF-skipping token filter,
1024-token decoder buffer with back-off, footer parser, CRC status).  Constants come from
`RpgpModel/Gen/Constants.lean`, re-extracted from the source on every run.

Two places where the code as it stands falls short of the property are modelled as they are,
carry a guarded (`…_partial`) theorem and a concrete witness of the negation:

* **D10**  `Dearmor::read_body` updates a copy of the CRC hasher (`crc_check_exact`).
* **D10b** the header-line parsers are wrapped in `complete(..)`: a source view that ends inside the
  `Key: Value` lines makes `Dearmor` fail (`schedule_independent`).

A third one, **D10c** (`key_value_pair` searched the whole remaining input for `":\n"` before `": "`, so
a header value ending in `:` came back as part of the key), was repaired in the code (commit 737e504:
the parser is line based); the model follows the repaired code, `armor_roundtrip` is stated for the
exact class of header maps the format can carry, and `header_value_colon_regression` keeps the old
parser's behaviour on record.
-/
namespace Rpgp.C10
open Rpgp Rpgp.Armor

/-! ## constants: RFC values, and writer / reader sites agree -/

theorem constants_rfc :
    Gen.armorLineWidth = 64 ∧ Gen.footerCrcChars = 4 ∧ Gen.wrCrcShiftHi = 16 ∧ Gen.wrCrcShiftMid = 8 ∧
    Gen.readChecksumBufLen = 4 ∧
    Gen.tokUpperLo = 65 ∧ Gen.tokUpperHi = 90 ∧ Gen.tokLowerLo = 97 ∧ Gen.tokLowerHi = 122 ∧
    Gen.tokDigitLo = 48 ∧ Gen.tokDigitHi = 57 := by decide

/-- header lines: the writer's `": "` and LF are what the reader splits at, the empty-value marker is
`:`; `key_value_pair` is the line-based parser (repair of D10c present, no whole-input search left)
and is still run under `many0(complete(..))` (D10b) -/
theorem header_line_sites_agree :
    [Gen.wrKvSep0.toUInt8, Gen.wrKvSep1.toUInt8] = [COLON, SP] ∧
    [Gen.rdKvSep0.toUInt8, Gen.rdKvSep1.toUInt8] = [COLON, SP] ∧
    Gen.rdKvEmptySuffix.toUInt8 = COLON ∧ Gen.wrKvLineEnd.toUInt8 = LF ∧
    Gen.kvLineBased = 1 ∧ Gen.kvWholeInputSearch = 0 ∧ Gen.kvPairsComplete = 1 := by decide

/-- the decoder's token buffer is a whole number (≥ 2) of base64 quanta, its output buffer holds what
one full token buffer decodes to, and the quanta are 4 → 3 — all that `decoder_any_capacity` needs -/
theorem decoder_buffer_shape :
    Gen.b64DecBufSize = 4 * (Gen.b64DecBufSize / 4) ∧ 2 ≤ Gen.b64DecBufSize / 4 ∧
    Gen.b64DecQuantumIn = 4 ∧ Gen.b64DecQuantumOut = 3 ∧ Gen.b64DecRefillBelow = 4 ∧ Gen.b64DecBackoff = 4 ∧
    Gen.b64DecBufSize / Gen.b64DecCapDiv * Gen.b64DecCapMul = Gen.b64DecBufSize / 4 * 3 := by decide

/-- the reader's token filter (`is_base64_token` minus CR/LF) is exactly the writer's alphabet plus `=` -/
theorem token_filter_is_alphabet : ∀ c : Byte, isB64Token c = isBodySym c := isB64Token_eq_isBodySym

/-- the value the repository's `test_dearmor_bad_crc24` expects as "calculated" CRC is the CRC-24
of the empty string, i.e. the hasher's initial state (D10) -/
theorem pinned_crc_is_initial_state : crc24 [] = Gen.pinnedUnupdatedCrc ∧ crc24Init = Gen.pinnedUnupdatedCrc := by
  decide

/-! ## base64 -/

/-- **round trip for every length** (all three residues mod 3) -/
theorem b64_roundtrip (d : Bytes) : b64dec (b64enc d) = some d := b64dec_b64enc d

theorem b64_length (d : Bytes) : (b64enc d).length = 4 * ((d.length + 2) / 3) := b64enc_length d

/-- only alphabet symbols and `=` are emitted … -/
theorem b64_alphabet (d : Bytes) : ∀ c ∈ b64enc d, isB64Sym c = true ∨ c = EQS := b64enc_chars d

/-- … and `=` can only stand in the last quantum -/
theorem b64_padding_only_at_end (d : Bytes) :
    ∀ c ∈ (b64enc d).take ((b64enc d).length - 4), isB64Sym c = true := b64enc_body_syms d

/-- streaming: encoding a stream cut at a multiple of three octets is the concatenation -/
theorem b64_append (a b : Bytes) (h : a.length % 3 = 0) : b64enc (a ++ b) = b64enc a ++ b64enc b :=
  b64enc_append a b h

/-- **canonical only**: the reader's decoder accepts a string only if it is *the* encoding of what
it returns (no alternative padding, no non-zero spare bits, no foreign symbols) -/
theorem b64_canonical_only (t d : Bytes) (h : b64dec t = some d) : b64enc d = t :=
  b64dec_canonical t d h

/-- a quantum beginning with `=` is never accepted, wherever it stands (why a checksum line is not
swallowed by the body decoder) -/
theorem b64_rejects_eqs_quantum (p : Bytes) (x y z : Byte) (s : Bytes) (hp : p.length % 4 = 0) :
    b64dec (p ++ EQS :: x :: y :: z :: s) = none :=
  b64dec_eqs_quantum x y z s p hp

/-! ## CRC-24 -/

/-- streaming law: the tee may feed the hasher in any pieces -/
theorem crc_streaming (a b : Bytes) : crc24 (a ++ b) = crcFrom (crc24 a) b := crcFrom_append _ a b

theorem crc_is_24_bit (d : Bytes) : crc24 d < 2 ^ 24 := crc24_lt d

/-- check value of the CRC-24/OPENPGP catalogue entry -/
theorem crc_check_value : crc24 (asc "123456789") = 0x21CF02 := by
  rw [asc_ofList]
  decide +kernel

/-- the three octets + four characters written after `=` are read back as the same number -/
theorem checksum_text_roundtrip (c : Nat) (h : c < 2 ^ 24) : readChecksum (b64enc (crcOctets c)) = some c :=
  readChecksum_crcOctets c h

/-- `read_checksum` index arithmetic: the four characters after `=` decode to 1..3 octets, so the
writes `buf[i]`, `i = len, len-1, …, 1` stay inside the 4-octet buffer and `i -= 1` never underflows
(no panic for any input) -/
theorem read_checksum_index_safe (a b c e : Byte) (bs : Bytes) (h : b64dec [a, b, c, e] = some bs) :
    1 ≤ bs.length ∧ bs.length < Gen.readChecksumBufLen := by
  have e4 : Gen.readChecksumBufLen = 4 := rfl
  have := decLast_length a b c e bs (by simpa [b64dec] using h)
  omega

/-! ## the 64-column line writer under arbitrary write schedules -/

/-- whatever sequence of (possibly short, possibly empty) writes delivers the data, once all of it
has been consumed the output after `finish` is the wrapped text -/
theorem lw_schedule_indep (w : Nat) (hw : 0 < w) (data : Bytes) (offers : List Nat)
    (hall : (lwFeed w [] data offers).2.2 = []) :
    (lwFeed w [] data offers).1 ++ lwFinish (lwFeed w [] data offers).2.1 = wrap w data := by
  obtain ⟨c, h1, h2, h3⟩ := lwFeed_spec w hw offers [] data hw
  rw [hall, List.append_nil] at h1
  simpa [wrap_short w _ h2, ← h1] using h3 []

/-- any prefix of writes leaves the writer in a state from which the invariant continues: emitted
text + pending line = wrapped text of what was consumed -/
theorem lw_invariant (w : Nat) (hw : 0 < w) (data : Bytes) (offers : List Nat) :
    ∃ consumed, data = consumed ++ (lwFeed w [] data offers).2.2 ∧
      (lwFeed w [] data offers).1 ++ lwFinish (lwFeed w [] data offers).2.1 = wrap w consumed := by
  obtain ⟨c, h1, h2, h3⟩ := lwFeed_spec w hw offers [] data hw
  exact ⟨c, h1, by simpa [wrap_short w _ h2] using h3 []⟩

/-- `write_all` terminates with everything consumed (no write of a non-empty buffer returns 0) -/
theorem lw_write_all_completes (w : Nat) (hw : 0 < w) (data : Bytes) (offers : List Nat) :
    (lwFeed w [] data (List.replicate data.length data.length)).2.2 = [] :=
  lwFeed_write_all w hw data.length data.length [] data hw (Nat.le_refl _) (Nat.le_refl _)

/-- … instantiated at the width `armor::write` uses -/
theorem armor_body_schedule_indep (d : Bytes) (offers : List Nat)
    (hall : (lwFeed Gen.armorLineWidth [] (b64enc d) offers).2.2 = []) :
    (lwFeed Gen.armorLineWidth [] (b64enc d) offers).1 ++ lwFinish (lwFeed Gen.armorLineWidth [] (b64enc d) offers).2.1
      = armorBody d :=
  lw_schedule_indep Gen.armorLineWidth (by decide) (b64enc d) offers hall

/-! ## emitted body lines -/

/-- the emitted body is a sequence of lines, each followed by LF; the lines concatenate to the
canonical base64 of the data; every line has 1..64 characters and every line but the last exactly 64 -/
theorem b64_canonical_lines (d : Bytes) :
    armorBody d = (linesOf 64 (b64enc d).length (b64enc d)).flatMap (· ++ [LF]) ∧
    (linesOf 64 (b64enc d).length (b64enc d)).flatten = b64enc d ∧
    (∀ l ∈ linesOf 64 (b64enc d).length (b64enc d), 0 < l.length ∧ l.length ≤ 64) ∧
    (∀ l ∈ (linesOf 64 (b64enc d).length (b64enc d)).dropLast, l.length = 64) := by
  have e : Gen.armorLineWidth = 64 := rfl
  obtain ⟨h1, h2, h3⟩ := linesOf_spec 64 (by omega) (b64enc d).length (b64enc d) (Nat.le_refl _)
  exact ⟨by rw [armorBody, e]; exact wrap_eq_lines 64 (by omega) _ _ (Nat.le_refl _), h1, h2, h3⟩

/-! ## the reader on well-formed armor text -/

/-- **tolerant reading, general form.**  For every payload `d` (every length), every admissible block
type and header map, the reader returns type, headers, data and checksum when given: leading text
(without `-`), LF or CRLF line endings, a separator line of blanks/tabs, CR/LF anywhere in the base64
part (`BodyText`: any line lengths, blank lines), an optional checksum line followed by any number of
line breaks, a footer with or without final line break, any trailing text — and every source
schedule whose first view contains the header section. -/
theorem armor_tolerant (lead nl ws : Bytes) (t : BlockType) (h : Headers) (d B : Bytes)
    (ck : Option Nat) (les : List Bytes) (tail : Bytes) (X1 : Bytes) (cs : List Bytes)
    (hlead : ∀ b ∈ lead, b ≠ 45) (hnl : IsNl nl) (hws : ∀ b ∈ ws, b = SP ∨ b = TAB)
    (ht : typeOk t = true) (hh : WFHeaders h = true) (hB : BodyText B (b64enc d))
    (hck : ∀ c, ck = some c → c < 2 ^ 24) (hles : ∀ le ∈ les, IsNl le)
    (hsplit : X1 ++ cs.flatten = restText B ck les t tail) :
    dearmor false ((headText lead nl ws t h ++ X1) :: cs) = readBack t h d ck := by
  rw [← dearmorResult_unchecked]
  exact dearmor_armorText false lead nl ws t h d B ck les tail X1 cs hlead hnl hws ht hh hB hck hles hsplit

/-! ### header lines: the exact class, every value -/

/-- **one header line, every value**: a key of the class (`keyOk`: non-empty, one line, no `": "`
inside, UTF-8) and *any* one-line UTF-8 value — ending in `:`, containing `": "`, with trailing blanks,
empty — written as `Key: Value` with LF or CRLF is read back as exactly that pair, whatever follows -/
theorem header_line_roundtrip (k v nl T : Bytes) (hk : keyOk k = true) (hv : valOk v = true) (hnl : IsNl nl) :
    kvPair (k ++ COLON :: SP :: (v ++ nl ++ T)) = .ok (k, v) T :=
  kvPair_line k v nl T hk hv hnl

/-- **every header map the writer can emit unambiguously** (`WFHeaders`: strictly increasing keys of
the class, any number of values per key — at least one —, every value one line of UTF-8) comes back
from the header stage exactly, with the block type, for every text that follows -/
theorem header_map_roundtrip (t : BlockType) (h : Headers) (X : Bytes)
    (ht : typeOk t = true) (hh : WFHeaders h = true) :
    headerParser (armorHead t h ++ X) = .ok (t, h, false) X := by
  rw [armorHead_eq]
  exact headerParser_headText [] [LF] [] t h X (by simp) (Or.inl rfl) (by simp) ht hh

/-- **the class is exact**: whatever `key_value_pair` returns has a non-empty key without line break
and without `": "` and a value without line break; keys outside the class therefore cannot survive
(a key containing `": "` is split earlier, see `header_class_boundary`) -/
theorem header_class_exact (i k v r : Bytes) (h : kvPair i = .ok (k, v) r) :
    k ≠ [] ∧ noCrLf k = true ∧ noColonSp k = true ∧ noCrLf v = true :=
  kvPair_returns_class i k v r h

/-- **armor round trip**: `armor::write` then `Dearmor`, for every data length, block type and
header map of the class above, with and without checksum. -/
theorem armor_roundtrip (t : BlockType) (h : Headers) (d : Bytes) (checksum : Bool)
    (ht : typeOk t = true) (hh : WFHeaders h = true) :
    dearmor false [armorWrite t h d checksum] = readBack t h d (writtenCrc d checksum) := by
  rw [← dearmorResult_unchecked]
  exact dearmor_armorWrite false t h d checksum ht hh

/-- **trailing text** after the footer line is not looked at (before 737e504 it was searched for
`": "`, D10c) -/
theorem armor_trailing_text (t : BlockType) (h : Headers) (d : Bytes) (checksum : Bool) (trail : Bytes)
    (ht : typeOk t = true) (hh : WFHeaders h = true) :
    dearmor false [armorWrite t h d checksum ++ trail] = dearmor false [armorWrite t h d checksum] := by
  have := dearmor_armorWrite_within false [] trail t h d checksum (fun _ h => nomatch h) ht hh
  rwa [List.nil_append, dearmorResult_unchecked, ← armor_roundtrip t h d checksum ht hh] at this

/-- the checksum that is emitted, and read back, is the RFC CRC-24 of the data -/
theorem emitted_checksum_is_crc24 (t : BlockType) (h : Headers) (d : Bytes)
    (ht : typeOk t = true) (hh : WFHeaders h = true) :
    (dearmor false [armorWrite t h d true]).toOption.map (·.checksum) = some (some (crc24 d)) := by
  rw [armor_roundtrip t h d true ht hh]; rfl

/-- **source schedules** (guarded form): the armor may be cut into views anywhere after the header
section — inside base64 lines, inside the checksum, inside the footer line.
Full statement (cuts anywhere) fails on the unchanged tree (D10b, `header_cut_witness`). -/
theorem schedule_independent_partial (t : BlockType) (h : Headers) (d : Bytes) (checksum : Bool)
    (ht : typeOk t = true) (hh : WFHeaders h = true) (X1 : Bytes) (cs : List Bytes)
    (hsplit : X1 ++ cs.flatten = restText (armorBody d) (writtenCrc d checksum) [[LF]] t [LF]) :
    dearmor false ((armorHead t h ++ X1) :: cs) = dearmor false [armorWrite t h d checksum] := by
  rw [armor_roundtrip t h d checksum ht hh, armorHead_eq]
  exact armor_tolerant [] [LF] [] t h d (armorBody d) (writtenCrc d checksum) [[LF]] [LF] X1 cs
    (by simp) (Or.inl rfl) (by simp) ht hh (armorBody_bodyText d) (writtenCrc_lt d checksum)
    (by simp [IsNl]) hsplit

/-- **all source schedules, armor without header lines**: for the fifteen fixed block types, every
payload, checksum on or off, CRC checking on or off, *every* way of cutting the writer's output into
`fill_buf` views (single bytes, cuts inside the BEGIN line, the base64, the checksum, the footer)
gives the result of the one-view read -/
theorem schedule_independent_no_headers (crcCheck : Bool) (t : BlockType) (ht : t ∈ simpleTypes) (d : Bytes)
    (checksum : Bool) (chunks : List Bytes) (hflat : chunks.flatten = armorWrite t [] d checksum) :
    dearmor crcCheck chunks = dearmor crcCheck [armorWrite t [] d checksum] := by
  rw [dearmor_any_chunking_bare crcCheck t (simpleTypes_ok t ht) d checksum chunks hflat,
    dearmor_any_chunking_bare crcCheck t (simpleTypes_ok t ht) d checksum [armorWrite t [] d checksum] (by simp)]

/-- **CRLF**: the same armor with network line endings reads back the same -/
theorem armor_crlf_invariant (t : BlockType) (h : Headers) (d : Bytes) (checksum : Bool)
    (ht : typeOk t = true) (hh : WFHeaders h = true) :
    dearmor false [toCrlf (armorWrite t h d checksum)] = dearmor false [armorWrite t h d checksum] := by
  rw [armor_roundtrip t h d checksum ht hh, toCrlf_armorWrite t h d checksum hh]
  exact armor_tolerant [] [CR, LF] [] t h d (toCrlf (armorBody d)) (writtenCrc d checksum) [[CR, LF]] [CR, LF] _ []
    (by simp) (Or.inr rfl) (by simp) ht hh (armorBody_bodyText d).toCrlf (writtenCrc_lt d checksum)
    (by simp [IsNl]) (by simp)

/-- **blank and whitespace lines**: any blanks/tabs on the separator line, blank lines anywhere in the
base64 part (any re-wrapping of it, in fact), blank lines before the footer line, missing final
newline, anything after the footer line -/
theorem armor_blank_invariant (t : BlockType) (h : Headers) (d : Bytes) (checksum : Bool)
    (ws B : Bytes) (les : List Bytes) (tail : Bytes)
    (ht : typeOk t = true) (hh : WFHeaders h = true)
    (hws : ∀ b ∈ ws, b = SP ∨ b = TAB) (hB : BodyText B (b64enc d)) (hles : ∀ le ∈ les, IsNl le) :
    dearmor false [armorText [] [LF] ws t h B (writtenCrc d checksum) les tail] =
      dearmor false [armorWrite t h d checksum] := by
  rw [armor_roundtrip t h d checksum ht hh]
  exact armor_tolerant [] [LF] ws t h d B (writtenCrc d checksum) les tail _ []
    (by simp) (Or.inl rfl) hws ht hh hB (writtenCrc_lt d checksum) hles (by simp)

/-- **leading text** before the BEGIN line -/
theorem armor_leading_text (t : BlockType) (h : Headers) (d : Bytes) (checksum : Bool) (lead : Bytes)
    (ht : typeOk t = true) (hh : WFHeaders h = true) (hlead : ∀ b ∈ lead, b ≠ 45) :
    dearmor false [lead ++ armorWrite t h d checksum] = dearmor false [armorWrite t h d checksum] := by
  have := dearmor_armorWrite_within false lead [] t h d checksum hlead ht hh
  rwa [List.append_nil, dearmorResult_unchecked, ← armor_roundtrip t h d checksum ht hh] at this

/-- the decoder loop is correct for **every** token-buffer capacity `4q ≥ 8`, not only the 1024 of
the source (`decoder_buffer_shape` instantiates it) -/
theorem decoder_any_capacity (q : Nat) (hq : 2 ≤ q) (d B S' : Bytes) (hB : BodyText B (b64enc d)) :
    decodeBody (4 * q) ((B ++ 45 :: S').length + 1) [] 0 (B ++ 45 :: S') = (d, [], 45 :: S') :=
  (decodeBody_body (e := []) (nls := []) S' Epilogue.nil (fun _ h => nomatch h) q hq _ d B hB
    (by have := hB.data_length_le; simp only [List.length_append, List.length_cons]; omega)).resolve_right
    fun h => absurd h.1 (by decide)

/-! ## CRC checking -/

/-
Full statement (property text: "when CRC checking is enabled it accepts exactly those inputs whose
checksum matches"):

  theorem crc_check_exact … :
      (∃ r, dearmor true [armorText … B ck …] = .ok r) ↔ (ck = none ∨ ck = some (crc24 d))

It is FALSE on the unchanged tree (D10): `read_body` updates a copy of the hasher, so the comparison
is always against the initial state.  What holds:
-/

/-- guarded form: checking disabled — everything well-formed is read, the checksum is only reported -/
theorem crc_check_exact_partial (t : BlockType) (h : Headers) (d : Bytes) (checksum : Bool)
    (ht : typeOk t = true) (hh : WFHeaders h = true) :
    ∃ r, dearmor false [armorWrite t h d checksum] = .ok r ∧ r.data = d ∧ r.checksum = writtenCrc d checksum :=
  ⟨_, armor_roundtrip t h d checksum ht hh, rfl, rfl⟩

/-- checking enabled, no checksum line: accepted (as the property demands) -/
theorem crc_check_no_checksum (t : BlockType) (h : Headers) (d : Bytes)
    (ht : typeOk t = true) (hh : WFHeaders h = true) :
    dearmor true [armorWrite t h d false] = readBack t h d none := by
  exact dearmor_armorWrite true t h d false ht hh

/-- checking enabled, checksum line present: what the code as it is decides — acceptance iff the
checksum equals the CRC of the *empty* string, whatever the data -/
theorem crc_check_as_implemented (t : BlockType) (h : Headers) (d : Bytes)
    (ht : typeOk t = true) (hh : WFHeaders h = true) :
    (∃ r, dearmor true [armorWrite t h d true] = .ok r) ↔ crc24 d = crc24 [] := by
  rw [dearmor_armorWrite true t h d true ht hh]
  have hinit : crc24 [] = crc24Init := rfl
  by_cases hc : crc24 d = crc24Init
  · simp [dearmorResult, writtenCrc, crcStatus, dearmorCalculatedCrc, hc, hinit]
  · simp [dearmorResult, writtenCrc, crcStatus, dearmorCalculatedCrc, hc, hinit]

/-- witness of the negation of `crc_check_exact`: the writer's own output for the one-octet payload
`00`, carrying its correct checksum, is rejected when checking is enabled … -/
theorem crc_check_rejects_correct_checksum :
    dearmor true [armorWrite .message [] [0] true] = .error .crcMismatch ∧
    (dearmor false [armorWrite .message [] [0] true]).toOption.map (·.checksum) = some (some (crc24 [0])) := by
  refine ⟨?_, emitted_checksum_is_crc24 .message [] [0] rfl rfl⟩
  rw [dearmor_armorWrite true .message [] [0] true rfl rfl]
  decide +kernel

/-- … and a wrong checksum (that of the empty string) on the same payload is accepted -/
theorem crc_check_accepts_wrong_checksum :
    (dearmor true [armorText [] [LF] [] .message [] (armorBody [0]) (some (crc24 [])) [[LF]] [LF]]).toOption.map (·.status)
      = some (.checkedOk (crc24 [])) ∧ crc24 [] ≠ crc24 [0] := by
  rw [armorText, dearmor_armorText true [] [LF] [] .message [] [0] (armorBody [0]) (some (crc24 [])) [[LF]] [LF] _ []
      (fun _ h => nomatch h) (Or.inl rfl) (fun _ h => nomatch h) rfl rfl (armorBody_bodyText [0])
      (fun c h => by cases h; exact crc24_lt []) (by simp [IsNl]) (List.append_nil _)]
  decide +kernel

/-! ## witnesses for the two reader findings -/

/-- D10b: the armor of `hi` with one header line, handed over in two views cut inside that line,
is rejected; in one view it is read -/
theorem header_cut_witness :
    let a := armorWrite .message [(asc "Version", [asc "1"])] (asc "hi") true
    dearmor false [a.take 31, a.drop 31] = .error .headerBad ∧
    dearmor false [a] = readBack .message [(asc "Version", [asc "1"])] (asc "hi") (some (crc24 (asc "hi"))) :=
  ⟨by decide +kernel, armor_roundtrip .message _ _ true rfl (by decide +kernel)⟩

/-- header values that used to break (D10c) and the corners of the class, through the whole
writer → reader path: values ending in `:`, containing `": "`, empty, with blanks around, several
values under one key, a key with `:` inside and at its end, a value that is a lone `:` -/
theorem header_values_witness :
    let h : Headers := [(asc "Comment", [asc "see below:", asc "a: b: c", [], asc " x  ", asc ":"]),
                        (asc "a:b", [asc "v"]), (asc "k:", [asc ": "])]
    WFHeaders h = true ∧
    dearmor false [armorWrite .message h (asc "hi") true] = readBack .message h (asc "hi") (some (crc24 (asc "hi"))) ∧
    dearmor false [toCrlf (armorWrite .message h (asc "hi") true)] = readBack .message h (asc "hi") (some (crc24 (asc "hi"))) := by
  intro h
  have hw : WFHeaders h = true := by
    simp only [h]
    repeat rw [asc_ofList]
    decide +kernel
  have hr := armor_roundtrip .message h (asc "hi") true rfl hw
  exact ⟨hw, hr, (armor_crlf_invariant .message h (asc "hi") true rfl hw).trans hr⟩

/-- the boundary of the class: a key containing `": "` is split at the first one, an empty key and a
line without any colon are not header lines, `Key:` + LF / CR LF is an empty value, a line that is
not UTF-8 or has no line ending yet is not accepted (`complete` turns the latter into an error) -/
theorem header_class_boundary :
    kvPair (asc "a: b: c\n") = .ok (asc "a", asc "b: c") [] ∧
    kvPair (asc ": v\n") = .err ∧ kvPair (asc ":\n") = .err ∧ kvPair (asc "no colon\n") = .err ∧
    kvPair (asc "Key:\nrest") = .ok (asc "Key", []) (asc "rest") ∧
    kvPair (asc "Key:\r\nrest") = .ok (asc "Key", []) (asc "rest") ∧
    kvPair (asc "Key: \n") = .ok (asc "Key", []) [] ∧
    kvPair (asc "Key :\n") = .ok (asc "Key ", []) [] ∧
    kvPair (asc "some:colon: with:me\n") = .ok (asc "some:colon", asc "with:me") [] := by
  repeat rw [asc_ofList]
  decide +kernel

theorem header_class_boundary_rejects :
    kvPair ([75, 58, 32, 255, 10]) = .err ∧
    kvPair (asc "Key: a\rb\n") = .err ∧
    kvPair (asc "Key: value") = .inc ∧ (kvPair (asc "Key: value")).complete = .err ∧
    WFHeaders [(asc "a: b", [asc "c"])] = false ∧ WFHeaders [([], [asc "c"])] = false := by
  repeat rw [asc_ofList]
  decide +kernel

/-- regression record for D10c: on the text `Comment: see below:` + blank line, the header-line parser
as it was before commit 737e504 (`Pre737.kvPair`, whole-input search) returned the key
`Comment: see below` with an empty value; the line-based parser returns the pair that was written -/
theorem header_value_colon_regression :
    Pre737.kvPair (asc "Comment: see below:\n\n") = .ok (asc "Comment: see below", []) (asc "\n") ∧
    kvPair (asc "Comment: see below:\n\n") = .ok (asc "Comment", asc "see below:") (asc "\n") ∧
    -- … and a later `Key: ` used to swallow what came before it
    Pre737.kvPair (asc "\nAAAA\n-----END X-----\nNote: text\n") = .ok (asc "\nAAAA\n-----END X-----\nNote", asc "text") [] ∧
    kvPair (asc "\nAAAA\n-----END X-----\nNote: text\n") = .err := by
  repeat rw [asc_ofList]
  decide +kernel

/-! ## non-vacuity -/

example : b64enc (asc "hello world") = asc "aGVsbG8gd29ybGQ=" := by
  repeat rw [asc_ofList]
  decide +kernel
example : typeOk (.multiPart 3 14) = true ∧ typeOk .publicKey = true ∧ typeOk .cleartext = false := by decide
example : WFHeaders [(asc "Comment", [asc "first", asc "second", []]), (asc "Version", [asc "1"])] = true := by
  repeat rw [asc_ofList]
  decide +kernel
example : armorWrite .message [(asc "Version", [asc "1"])] (asc "hello world") true =
    asc "-----BEGIN PGP MESSAGE-----\nVersion: 1\n\naGVsbG8gd29ybGQ=\n=sDy3\n-----END PGP MESSAGE-----\n" := by
  simp only [armorWrite, armorHead, armorFoot, typeName]
  repeat rw [asc_ofList]
  decide +kernel
example : BodyText (asc "aGVs\r\n\nbG8=\n") (b64enc (asc "hello")) := by
  have e : b64enc (asc "hello") = asc "aGVs" ++ asc "bG8=" := by repeat rw [asc_ofList]; decide +kernel
  have e' : asc "aGVs\r\n\nbG8=\n" = asc "aGVs" ++ (asc "\r\n\n" ++ (asc "bG8=" ++ asc "\n")) := by
    repeat rw [asc_ofList]; rfl
  rw [e, e']
  repeat rw [asc_ofList]
  exact (BodyText.of_tokens _ (by decide +kernel)).append ((BodyText.of_newlines _ (by decide +kernel)).append
    ((BodyText.of_tokens _ (by decide +kernel)).append (BodyText.of_newlines _ (by decide +kernel))))

end Rpgp.C10
