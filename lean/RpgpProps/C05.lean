import RpgpProofs.Wire
/-!
# C05 — wire fidelity: parse and serialize are mutually inverse and lengths are truthful

Model: `RpgpModel/Wire.lean` (packet bodies) on top of `RpgpModel/Framing.lean` (headers, C17).
Per type there are three kinds of theorem, each for *all* values / byte strings:

* `…_len`        `|ser x| = writeLen x`                      (the length query is truthful)
* `…_parse_ser`  `WF x → parse (ser x) = x`                  (what can be written parses back equal)
* `…_parse_wf`   `parse b = x → WF x`, hence `…_reparse`     (what is accepted is written and read
                                                              back as the same value)
and, from the second one, `…_canonical`: a canonical encoding (= the encoder's image of a
well-formed value) re-serialises to the identical bytes.

Since the D2a repair (found by C02, `ensure_hashed_area_canonical` in `signature/de.rs`) the signature
parser refuses a v4 / v6 packet whose *hashed* area would be written back differently from the octets
read (`Wire.areaParseCanon`), at every nesting level of embedded signatures: `sig_parse_hashed_canonical`,
`embedded_hashed_canonical`; `parse ∘ ser = id` is unaffected because the serialiser's output is
canonical (`sig_parse_ser`).  The unhashed area is still normalised on write.

The defects this check confirmed or found (D5b, D5c, N1, N2, N4, N5, N6, N7) are fixed in the
tree; the model has the fixed forms and the theorems are the full statements.  One deviation is
left on purpose (N3, trust packets drop their body): the witness `trust_body_dropped` stays.
Not covered by theorems (correspondence runs only): `parse_wf` for public-key material and PKESK
(their `parse_ser` and `len` are proved; `parse_wf` / `reparse` is proved for MPI, S2K, secret
section, subpackets, areas, signatures, SKESK, one-pass signatures, literal and SEIPD headers),
opaque algorithm-specific key material
(`PubParams.blob`, unprotected RSA / ECC secret material), user attributes, GnuPG AEAD packets.
-/
namespace Rpgp.C05
open Rpgp Rpgp.Wire

/-! ## constants: RFC values, and reader / writer sites agree -/

theorem mpi_limit : Gen.mpiMaxBits = 16384 := by decide

theorem s2k_sizes_rfc :
    Gen.s2kSaltLen = 8 ∧ Gen.s2kIterSaltLen = Gen.s2kSaltLen ∧ Gen.s2kArgonSaltLen = 16 ∧
    Gen.s2kLenSimple = 2 ∧ Gen.s2kLenSalted = 2 + Gen.s2kSaltLen ∧ Gen.s2kLenIterated = 3 + Gen.s2kSaltLen ∧
    Gen.s2kLenArgon2 = 4 + Gen.s2kArgonSaltLen := by decide

/-- the usage octets the reader recognises are the ones the writer emits (and the RFC's) -/
theorem usage_octets_agree :
    Gen.usageAead = 253 ∧ Gen.usageCfb = 254 ∧ Gen.usageMalleableCfb = 255 ∧
    Gen.wrUsageAead = Gen.usageAead ∧ Gen.wrUsageCfb = Gen.usageCfb ∧ Gen.wrUsageMalleableCfb = Gen.usageMalleableCfb := by
  decide

theorem aead_sizes_rfc :
    Gen.aeadNonceEax = 16 ∧ Gen.aeadNonceOcb = 15 ∧ Gen.aeadNonceGcm = 12 ∧
    Gen.aeadIvEax = Gen.aeadNonceEax ∧ Gen.aeadIvOcb = Gen.aeadNonceOcb ∧ Gen.aeadIvGcm = Gen.aeadNonceGcm ∧
    Gen.chunkSizeMax = 16 := by decide

theorem subpacket_length_ranges :
    Gen.subLenOneMax = 191 ∧ Gen.subLenTwoMin = 192 ∧ Gen.subLenTwoMax = 254 ∧
    Gen.subEncOneMax = Gen.subLenOneMax ∧ Gen.subEncTwoMax = (Gen.subLenTwoMax - 192) * 256 + 192 + 255 := by decide

theorem misc_sizes :
    Gen.sigV3HashedLen = 5 ∧ Gen.wrSigV3HashedLen = Gen.sigV3HashedLen ∧ Gen.revKeyFpLenA = 20 ∧ Gen.revKeyFpLenB = 32 ∧ Gen.fixD5eRevKeyLenTruthful = 1 ∧ Gen.issuerLen = 8 ∧
    Gen.mdcHashLen = 20 ∧ Gen.seipdSaltLen = 32 ∧ Gen.opsFpLen = 32 ∧ Gen.opsOverhead = 5 ∧
    Gen.wireSkesk6FieldsMax = 255 := by decide

/-! ## MPI -/

theorem mpi_len (m : Bytes) : (mpiSer m).length = mpiWriteLen m := mpiSer_length m

/-- every value an `Mpi` can hold after parsing is written and read back as itself, whatever follows -/
theorem mpi_parse_ser (m rest : Bytes) (h : MpiWF m) : mpiParse (mpiSer m ++ rest) = some (m, rest) :=
  Wire.mpi_parse_ser m rest h

/-- the parser only returns such values … -/
theorem mpi_parse_wf (b m r : Bytes) (h : mpiParse b = some (m, r)) : MpiWF m := Wire.mpi_parse_wf h

/-- … so every accepted MPI is written to bytes that parse back to the equal value -/
theorem mpi_reparse (b m r rest : Bytes) (h : mpiParse b = some (m, r)) :
    mpiParse (mpiSer m ++ rest) = some (m, rest) := Wire.mpi_parse_ser m rest (Wire.mpi_parse_wf h)

/-- re-serialising gives the input back *iff* the input was canonical: exact bit count and no
leading zero octet (leading-zero and over-long encodings are accepted and normalised) -/
theorem mpi_ser_parse_iff (b m r : Bytes) (h : mpiParse b = some (m, r)) :
    ∃ hd raw, b = hd ++ raw ++ r ∧ hd.length = 2 ∧
      (mpiSer m ++ r = b ↔ (stripZeros raw = raw ∧ beNat hd = bitLen raw)) := by
  obtain ⟨hd, raw, e, l, _, hiff⟩ := Wire.mpi_ser_parse h
  exact ⟨hd, raw, e, l, hiff⟩

example : mpiParse [0, 9, 1, 255, 7] = some ([1, 255], [7]) := by decide +kernel
example : mpiParse [0, 16, 0, 127] = some ([127], []) ∧ mpiSer [127] = [0, 7, 127] := by decide +kernel

/-! ## S2K specifier -/

theorem s2k_len (s : S2k) : (s2kSer s).length = s2kWriteLen s := s2kSer_length s

/-- all five kinds (simple, salted, iterated, argon2, unknown type with opaque rest) round trip;
an unknown type swallows whatever follows, so nothing may follow it -/
theorem s2k_parse_ser (s : S2k) (rest : Bytes) (h : S2kWF s) (hr : s.isOther = true → rest = []) :
    s2kParse (s2kSer s ++ rest) = some (s, rest) := Wire.s2k_parse_ser s rest h hr

theorem s2k_parse_wf (b : Bytes) (s : S2k) (r : Bytes) (h : s2kParse b = some (s, r)) : S2kWF s :=
  Wire.s2k_parse_wf h

theorem s2k_reparse (b : Bytes) (s : S2k) (r : Bytes) (h : s2kParse b = some (s, r)) :
    s2kParse (s2kSer s ++ r) = some (s, r) :=
  Wire.s2k_parse_ser s r (Wire.s2k_parse_wf h) (Wire.s2k_parse_other h)

/-! ## secret-key S2K section, every usage octet, v4 and v6 layout -/

theorem secret_len (v6 : Bool) (s : Secret) (b : Bytes) (h : secretSer v6 s = some b) :
    b.length = secretWriteLen v6 s := Wire.secret_len v6 s b h

theorem secret_parse_ser (v6 : Bool) (s : Secret) (b : Bytes) (hw : SecretWF v6 s) (h : secretSer v6 s = some b) :
    secretParseChecked v6 b = some s := Wire.secret_parse_ser v6 s b hw h

/-- every usage octet: 0, legacy cipher ids 1..252, 253 (AEAD), 254 (CFB), 255 (malleable CFB, v4
layout only) — the parser only returns well-formed values -/
theorem secret_parse_wf (v6 : Bool) (b : Bytes) (s : Secret) (h : secretParseChecked v6 b = some s) :
    SecretWF v6 s := Wire.secret_parse_wf h

theorem secret_reparse (v6 : Bool) (b : Bytes) (s : Secret) (h : secretParseChecked v6 b = some s)
    (w : Bytes) (hs : secretSer v6 s = some w) : secretParseChecked v6 w = some s :=
  Wire.secret_parse_ser v6 s w (Wire.secret_parse_wf h) hs

/-- the usage octet is preserved by parse → write (D5b regression: 255 stays 255) -/
theorem usage_255_kept :
    let b : Bytes := [255, 7, 0, 8] ++ List.replicate 16 1 ++ [9, 9]
    (secretParseChecked false b).bind (secretSer false) = some b ∧ secretParseChecked true (255 :: 3 :: b.drop 1) = none := by
  decide +kernel

/-! ## signature subpackets: length form kept as parsed (1 / 2 / 5 octets) -/

theorem sublen_parse_ser (form len : Nat) (rest : Bytes) (h : SubLenWF form len) :
    subLenParse (subLenSer form len ++ rest) = some (form, len, rest) := Wire.subLen_parse_ser form len rest h

theorem sublen_parse_wf (b : Bytes) (form len : Nat) (r : Bytes) (h : subLenParse b = some (form, len, r)) :
    SubLenWF form len := Wire.subLen_parse_wf h

/-- non-minimal length forms are preserved: a 5-octet length of a short subpacket comes back as it was -/
theorem sublen_form_kept (b : Bytes) (form len : Nat) (r : Bytes) (h : subLenParse b = some (form, len, r)) :
    subLenParse (subLenSer form len ++ r) = some (form, len, r) :=
  Wire.subLen_parse_ser form len r (Wire.subLen_parse_wf h)

theorem sub_parse_ser (emb : Bytes → Option Bytes) (s : Subpacket) (b rest : Bytes) (hw : SubWF emb s)
    (hs : subSer s = some b) : subParse emb (b ++ rest) = some (s, rest) := Wire.sub_parse_ser emb s b rest hw hs

theorem sub_len (emb : Bytes → Option Bytes) (s : Subpacket) (b : Bytes) (hw : SubWF emb s) (hs : subSer s = some b) :
    b.length = subWriteLen s := Wire.sub_len emb s b hw hs

/-- N4 / N6 regression: a non-ASCII key-server URL and key flags with reserved bits are written
back as read, with the announced length -/
theorem pref_key_server_and_key_flags_kept :
    (subParse (fun _ => none) [3, 24, 0xC3, 0xBC]).map (fun r => (subSer r.1, subWriteLen r.1)) = some (some [3, 24, 0xC3, 0xBC], 4) ∧
    (subParse (fun _ => none) [3, 27, 0xFF, 0xFF]).map (fun r => subSer r.1) = some (some [3, 27, 0xFF, 0xFF]) := by
  decide +kernel

theorem area_parse_ser (emb : Bytes → Option Bytes) (ss : List Subpacket) (b : Bytes)
    (hw : ∀ s ∈ ss, SubWF emb s) (hs : areaSer ss = some b) : areaParse emb (b.length + 1) b = some ss :=
  Wire.area_parse_ser_self emb ss b hw hs

theorem area_len (emb : Bytes → Option Bytes) (ss : List Subpacket) (b : Bytes)
    (hw : ∀ s ∈ ss, SubWF emb s) (hs : areaSer ss = some b) : b.length = areaWriteLen ss :=
  Wire.area_len emb ss b hw hs

/-- the parser only returns well-formed subpackets (for every embedded-signature normaliser that is
idempotent — `embedded_normaliser_idempotent` shows the one in use is) -/
theorem sub_parse_wf (emb : Bytes → Option Bytes) (hemb : ∀ x y, emb x = some y → emb y = some y)
    (b : Bytes) (s : Subpacket) (r : Bytes) (h : subParse emb b = some (s, r)) : SubWF emb s :=
  Wire.sub_parse_wf emb hemb h

/-- an accepted subpacket is written (in its original length form) and read back as the same value,
and what it consumed is exactly what its `write_len` announces -/
theorem sub_reparse (emb : Bytes → Option Bytes) (hemb : ∀ x y, emb x = some y → emb y = some y)
    (b : Bytes) (s : Subpacket) (r : Bytes) (h : subParse emb b = some (s, r)) :
    b.length = subWriteLen s + r.length ∧ ∃ w, subSer s = some w ∧ subParse emb (w ++ r) = some (s, r) := by
  have hw := Wire.sub_parse_wf emb hemb h
  obtain ⟨w, hs⟩ := Wire.sub_ser_some emb s hw
  exact ⟨Wire.sub_parse_consumed h, w, hs, Wire.sub_parse_ser emb s w r hw hs⟩

theorem area_parse_wf (emb : Bytes → Option Bytes) (hemb : ∀ x y, emb x = some y → emb y = some y)
    (fuel : Nat) (b : Bytes) (ss : List Subpacket) (h : areaParse emb fuel b = some ss) :
    (∀ s ∈ ss, SubWF emb s) ∧ areaWriteLen ss = b.length :=
  ⟨Wire.area_parse_wf emb hemb fuel b ss h, Wire.area_parse_len emb fuel b ss h⟩

/-! ## signature packets v2/v3, v4, v6 and unknown versions -/

theorem sig_len (emb : Bytes → Option Bytes) (s : Sig) (b : Bytes) (hw : SigWF emb s) (hs : sigSer s = some b) :
    b.length = sigWriteLen s := Wire.sig_len emb s b hw hs

/-- every signature type / algorithm id / hash id, any number of subpackets in either area (areas
up to 2¹⁶-1 octets in v4, 2³²-1 in v6), any admissible length form per subpacket -/
theorem sig_parse_ser (emb : Bytes → Option Bytes) (s : Sig) (b : Bytes) (hw : SigWF emb s)
    (hs : sigSer s = some b) : sigParse emb b = some s := Wire.sig_parse_ser emb s b hw hs

theorem sig_parse_wf (emb : Bytes → Option Bytes) (hemb : ∀ x y, emb x = some y → emb y = some y)
    (b : Bytes) (s : Sig) (h : sigParse emb b = some s) : SigWF emb s := Wire.sig_parse_wf emb hemb h

/-- every accepted signature body is written to bytes that parse back to the equal value -/
theorem sig_reparse (emb : Bytes → Option Bytes) (hemb : ∀ x y, emb x = some y → emb y = some y)
    (b : Bytes) (s : Sig) (h : sigParse emb b = some s) :
    ∃ w, sigSer s = some w ∧ w.length = sigWriteLen s ∧ sigParse emb w = some s := by
  obtain ⟨w, hs, hp⟩ := Wire.sig_reparse emb hemb h
  exact ⟨w, hs, Wire.sig_len emb s w (Wire.sig_parse_wf emb hemb h) hs, hp⟩

/-- the normaliser used for embedded signatures (parse, then write back, nesting bounded by `fuel`)
is idempotent at every bound — by induction on the nesting depth -/
theorem embedded_normaliser_idempotent (fuel : Nat) (x y : Bytes) (h : sigNorm fuel x = some y) :
    sigNorm fuel y = some y := Wire.sigNorm_idem fuel x y h

/-- the call `ensure_hashed_area_canonical(&hsub, &hsub_raw)?` is present in the v4 and v6 parsers
(re-extracted on every run): `Wire.areaParseCanon` describes the code -/
theorem hashed_area_check_present : Gen.sndHashedAreaCanonical = 1 := by decide

/-- **the hashed area is kept as received** (D2a repair, `ensure_hashed_area_canonical`): a v4 / v6
signature packet parses only if its hashed subpackets write back to exactly the hashed-area octets
of the packet — no octet of that area is normalised away (boolean octets other than 0/1, notation
flag octets, MPI bit counts of an embedded signature are refused instead) -/
theorem sig_parse_hashed_canonical (emb : Bytes → Option Bytes) (b : Bytes) (v6 : Bool) (typ pk hash : Byte)
    (hashed unhashed : List Subpacket) (left salt : Bytes) (sb : SigBytes)
    (h : sigParse emb b = some (.v4 v6 typ pk hash hashed unhashed left salt sb)) :
    areaSer hashed = some (rawHashedArea b) :=
  Wire.sig_parse_hashed_canonical emb b v6 typ pk hash hashed unhashed left salt sb h

/-- … at every nesting level: an embedded signature is accepted by the normaliser only through the
same parser, one level down -/
theorem embedded_hashed_canonical (fuel : Nat) (x y : Bytes) (h : sigNorm (fuel + 1) x = some y) :
    ∃ s, sigParse (sigNorm fuel) x = some s ∧ sigSer s = some y ∧
      ∀ v6 typ pk hash hashed unhashed left salt sb, s = .v4 v6 typ pk hash hashed unhashed left salt sb →
        areaSer hashed = some (rawHashedArea x) := by
  simp only [sigNorm] at h
  split at h
  · cases h
  · rename_i s hp
    refine ⟨s, hp, h, ?_⟩
    rintro v6 typ pk hash hashed unhashed left salt sb rfl
    exact Wire.sig_parse_hashed_canonical _ x v6 typ pk hash hashed unhashed left salt sb hp

/-- `sig_reparse` for the parser as it runs (`emb = sigNorm n`, idempotent by
`embedded_normaliser_idempotent`) -/
theorem sig_reparse_nested (n : Nat) (b : Bytes) (s : Sig) (h : sigParse (sigNorm n) b = some s) :
    ∃ w, sigSer s = some w ∧ w.length = sigWriteLen s ∧ sigParse (sigNorm n) w = some s :=
  sig_reparse (sigNorm n) (Wire.sigNorm_idem n) b s h

/-! ## keys: v2/v3, v4, v6 public part; secret part -/

theorem pubkey_len (secret : Bool) (k : PubKey) (h : PubKeyWF secret k) :
    (pubKeySer k).length = pubKeyWriteLen k := Wire.pubKeySer_length secret k h

theorem pubkey_parse_ser (trust secret : Bool) (k : PubKey) (rest : Bytes) (h : PubKeyWF secret k)
    (hu : k.version.toNat ≠ 6 → ∀ d, k.params = .unknown d → rest = []) :
    pubKeyParse trust secret (pubKeySer k ++ rest) = some (k, rest) :=
  Wire.pubKey_parse_ser trust secret k rest h hu

/-! ## session-key packets, one-pass signatures, data packets -/

theorem pkesk_len (p : Pkesk) (b : Bytes) (h : pkeskSer p = some b) : b.length = pkeskWriteLen p :=
  Wire.pkesk_len p b h

theorem pkesk_parse_ser (p : Pkesk) (b : Bytes) (hw : PkeskWF p) (h : pkeskSer p = some b) :
    pkeskParse b = some p := Wire.pkesk_parse_ser p b hw h

/-- N2 regression: a PKESK of an unknown version is opaque and round trips -/
theorem pkesk_unknown_version_roundtrip (ver : Byte) (data : Bytes) (h3 : ver.toNat ≠ 3) (h6 : ver.toNat ≠ 6) :
    pkeskParse (ver :: data) = some (.other ver data) ∧ pkeskSer (.other ver data) = some (ver :: data) := by
  refine ⟨?_, rfl⟩
  exact Wire.pkesk_parse_ser (.other ver data) (ver :: data) ⟨h3, h6⟩ rfl

theorem skesk_len (s : Skesk) (b : Bytes) (h : skeskSer s = some b) : b.length = skeskWriteLen s :=
  Wire.skesk_len s b h

theorem skesk_parse_ser (s : Skesk) (b : Bytes) (hw : SkeskWF s) (h : skeskSer s = some b) :
    skeskParse b = some s := Wire.skesk_parse_ser s b hw h

theorem skesk_parse_wf (b : Bytes) (s : Skesk) (h : skeskParse b = some s) : SkeskWF s := Wire.skesk_parse_wf h

theorem skesk_reparse (b : Bytes) (s : Skesk) (h : skeskParse b = some s) :
    ∃ w, skeskSer s = some w ∧ w.length = skeskWriteLen s ∧ skeskParse w = some s := by
  have hw := Wire.skesk_parse_wf h
  obtain ⟨w, hs⟩ := Wire.skesk_ser_some s hw
  exact ⟨w, hs, Wire.skesk_len s w hs, Wire.skesk_parse_ser s w hw hs⟩

/-- N7 regression: parameter fields that do not fit the count octet are rejected -/
theorem skesk6_oversized_rejected :
    skeskParse ([6, 255, 9, 1, 240, 2] ++ List.replicate 239 7 ++ List.replicate 16 1 ++ List.replicate 16 2) = none := by
  decide +kernel

theorem ops_len (o : Ops) (b : Bytes) (h : opsSer o = some b) : b.length = opsWriteLen o := Wire.ops_len o b h

theorem ops_parse_ser (o : Ops) (b : Bytes) (hw : OpsWF o) (h : opsSer o = some b) : opsParse b = some o :=
  Wire.ops_parse_ser o b hw h

theorem ops_reparse (b : Bytes) (o : Ops) (h : opsParse b = some o) :
    ∃ w, opsSer o = some w ∧ w.length = opsWriteLen o ∧ opsParse w = some o := by
  have hw := Wire.ops_parse_wf h
  obtain ⟨w, hs⟩ := Wire.ops_ser_some o hw
  exact ⟨w, hs, Wire.ops_len o w hs, Wire.ops_parse_ser o w hw hs⟩

theorem literal_len (l : Literal) (b : Bytes) (h : literalSer l = some b) : b.length = literalWriteLen l :=
  Wire.literal_len l b h

theorem literal_parse_ser (l : Literal) (b : Bytes) (hw : LiteralWF l) (h : literalSer l = some b) :
    literalParse b = some l := Wire.literal_parse_ser l b hw h

theorem literal_reparse (b : Bytes) (l : Literal) (h : literalParse b = some l) :
    ∃ w, literalSer l = some w ∧ w.length = literalWriteLen l ∧ literalParse w = some l := by
  have hw := Wire.literal_parse_wf h
  obtain ⟨w, hs⟩ := Wire.literal_ser_some l hw
  exact ⟨w, hs, Wire.literal_len l w hs, Wire.literal_parse_ser l w hw hs⟩

theorem seipd_len (s : Seipd) : (seipdSer s).length = seipdWriteLen s := Wire.seipd_len s

theorem seipd_parse_ser (s : Seipd) (hw : SeipdWF s) : seipdParse (seipdSer s) = some s :=
  Wire.seipd_parse_ser s hw

theorem seipd_reparse (b : Bytes) (s : Seipd) (h : seipdParse b = some s) : seipdParse (seipdSer s) = some s :=
  Wire.seipd_parse_ser s (Wire.seipd_parse_wf h)

/-! ## whole packets: every body type behind either header format -/

theorem body_len (trust : Bool) (emb : Bytes → Option Bytes) (body : Body) (b : Bytes)
    (hw : BodyWF trust emb body) (hs : bodySer body = some b) : b.length = bodyWriteLen body :=
  Wire.body_len trust emb body b hw hs

theorem body_parse_ser (trust : Bool) (body : Body) (b : Bytes) (hw : BodyWF trust (embFor b) body)
    (hs : bodySer body = some b) : bodyParse trust (bodyClass body) b = .ok body :=
  Wire.body_parse_ser trust body b hw hs

/-- **header_truthful**: whatever length field the object carries (fixed or partial),
`to_writer_with_header` writes a header whose length is exactly the number of body octets that
follow, in the object's header format -/
theorem header_truthful (trust : Bool) (emb : Bytes → Option Bytes) (p : Packet) (out rest : Bytes)
    (h : packetSer p = some out) (hi : p.hdr.len ≠ .indet) (hw : BodyWF trust emb p.body)
    (ht : if p.hdr.newFormat then p.hdr.tag < 64 else p.hdr.tag < 16) :
    ∃ b, bodySer p.body = some b ∧
      deframe (out ++ rest) = .ok ({ newFormat := p.hdr.newFormat, tag := p.hdr.tag, len := .fixed b.length }, b, rest) :=
  Wire.header_truthful trust emb p out rest h hi hw ht

/-- **parse_ser** for packets -/
theorem packet_parse_ser (trust : Bool) (p : Packet) (out rest : Bytes)
    (h : packetSer p = some out) (hfresh : p.hdr.len = .fixed (bodyWriteLen p.body))
    (ht : if p.hdr.newFormat then p.hdr.tag < 64 else p.hdr.tag < 16)
    (hcl : tagClass p.hdr.tag = bodyClass p.body)
    (hw : ∀ b, bodySer p.body = some b → BodyWF trust (embFor b) p.body) :
    packetParse trust (out ++ rest) = .ok (p, rest) := Wire.packet_parse_ser trust p out rest h hfresh ht hcl hw

/-- **ser_parse_canonical**: a canonically encoded packet (the encoder's image of a well-formed
value with a fresh header) re-serialises to the identical bytes -/
theorem packet_ser_parse_canonical (trust : Bool) (p q : Packet) (out r : Bytes)
    (h : packetSer p = some out) (hfresh : p.hdr.len = .fixed (bodyWriteLen p.body))
    (ht : if p.hdr.newFormat then p.hdr.tag < 64 else p.hdr.tag < 16)
    (hcl : tagClass p.hdr.tag = bodyClass p.body)
    (hw : ∀ b, bodySer p.body = some b → BodyWF trust (embFor b) p.body)
    (hq : packetParse trust out = .ok (q, r)) : packetSer q = some out ∧ r = [] := by
  have := Wire.packet_parse_ser trust p out [] h hfresh ht hcl hw
  rw [List.append_nil, hq] at this
  cases this
  exact ⟨h, rfl⟩

/-- **len_truthful** for packets: `write_len_with_header` is the number of octets
`to_writer_with_header` writes — for every stored header (fresh, stale after a mutation, partial,
non-minimal, indeterminate) -/
theorem packet_len (trust : Bool) (emb : Bytes → Option Bytes) (p : Packet) (out : Bytes)
    (h : packetSer p = some out) (hw : BodyWF trust emb p.body) :
    out.length = packetWriteLen p := Wire.packet_len trust emb p out h hw

/-- N1 regression: a literal data packet read from a partial-length framing announces what it writes -/
theorem partial_length_packet_len_truthful :
    let body : Bytes := [98, 0, 0, 0, 0, 0] ++ List.replicate 506 7 ++ [1, 2, 3]
    let inp : Bytes := [0xCB, 233] ++ body.take 512 ++ [3] ++ body.drop 512
    (match packetParse false inp with
     | .ok (p, _) => (packetSer p).map (fun o => (o.length, packetWriteLen p))
     | .error _ => none) = some (518, 518) := by decide +kernel

/-- witness (trust packets): the body is dropped, a canonical trust packet is not written back as read -/
theorem trust_body_dropped :
    (match packetParse false [0xCC, 2, 9, 9] with
     | .ok (p, _) => packetSer p
     | .error _ => none) = some [0xCC, 0] := by decide +kernel

/-! ## the length stays truthful under the modelled API mutations -/

/-- `unhashed_subpacket_insert` updates the stored length by the subpacket's `write_len` -/
theorem sig_insert_keeps_header (p q : Packet) (idx : Nat) (sp : Subpacket)
    (hf : p.hdr.len = .fixed (bodyWriteLen p.body)) (h : sigInsertUnhashed p idx sp = some q) :
    q.hdr.len = .fixed (bodyWriteLen q.body) := Wire.sigInsert_fresh p q idx sp hf h

theorem sig_remove_keeps_header (p q : Packet) (idx : Nat)
    (hf : p.hdr.len = .fixed (bodyWriteLen p.body)) (h : sigRemoveUnhashed p idx = some q) :
    q.hdr.len = .fixed (bodyWriteLen q.body) := Wire.sigRemove_fresh p q idx hf h

/-- **len_after_mutation** (one unhashed subpacket insert / remove; the hypothesis on `p` comes back
for `q`, so steps chain): the announced length of the mutated signature is the number of octets
written -/
theorem len_after_sig_insert (trust : Bool) (emb : Bytes → Option Bytes) (p q : Packet) (idx : Nat) (sp : Subpacket)
    (out : Bytes) (hf : p.hdr.len = .fixed (bodyWriteLen p.body)) (h : sigInsertUnhashed p idx sp = some q)
    (hs : packetSer q = some out) (hw : BodyWF trust emb q.body) :
    out.length = packetWriteLen q ∧ q.hdr.len = .fixed (bodyWriteLen q.body) :=
  ⟨Wire.packet_len trust emb q out hs hw, Wire.sigInsert_fresh p q idx sp hf h⟩

theorem len_after_sig_remove (trust : Bool) (emb : Bytes → Option Bytes) (p q : Packet) (idx : Nat)
    (out : Bytes) (hf : p.hdr.len = .fixed (bodyWriteLen p.body)) (h : sigRemoveUnhashed p idx = some q)
    (hs : packetSer q = some out) (hw : BodyWF trust emb q.body) :
    out.length = packetWriteLen q ∧ q.hdr.len = .fixed (bodyWriteLen q.body) :=
  ⟨Wire.packet_len trust emb q out hs hw, Wire.sigRemove_fresh p q idx hf h⟩

/-- **len_after_mutation** (`set_password*` / `remove_password`, any number of times): the stored
header stays as it was, and the announced length is still the number of octets written -/
theorem len_after_lock_unlock (trust : Bool) (emb : Bytes → Option Bytes) (p q : Packet) (s : Secret)
    (out : Bytes) (h : keyReplaceSecret p s = some q)
    (hs : packetSer q = some out) (hw : BodyWF trust emb q.body) :
    out.length = packetWriteLen q ∧ q.hdr = p.hdr := by
  refine ⟨Wire.packet_len trust emb q out hs hw, ?_⟩
  revert h
  fun_cases keyReplaceSecret p s <;> rintro ⟨⟩
  rfl

/-- D5c regression: locking a 180-octet secret key packet to 203 octets (across the 192 boundary),
with the stored header still saying 180: announced 203, written 203 -/
theorem d5c_regression :
    let k : PubKey := ⟨4, [0, 0, 0, 1], [], 25, .x25519 (List.replicate 32 1)⟩
    let plain : Secret := ⟨.unprotected, List.replicate 141 5⟩
    let locked : Secret := ⟨.cfb 9 (.iterated 8 (List.replicate 8 2) 96) (List.replicate 16 3), List.replicate 133 4⟩
    let p : Packet := ⟨⟨true, 5, .fixed 180⟩, .secKey k plain⟩
    ((keyReplaceSecret p locked).bind fun q => (packetSer q).map fun o => (o.length, packetWriteLen q)) = some (203, 203) := by
  decide +kernel

/-! ## composite objects: a certificate is its packets one after another -/

/-- D5a / N5 regression: `header_len(write_len) + write_len` per packet (key, subkey, binding, direct
and revocation signature) is what is written -/
theorem cert_len (trust : Bool) (emb : Bytes → Option Bytes) (ps : List Packet) (b : Bytes)
    (h : certSer ps = some b) (hw : ∀ p ∈ ps, p.hdr.len ≠ .indet ∧ BodyWF trust emb p.body) :
    b.length = certWriteLenFixed ps := Wire.cert_len trust emb ps b h hw

/-! ## non-vacuity: the hypotheses are satisfiable, on a packet of every kind -/

example : MpiWF [1, 255] ∧ ¬ MpiWF [0, 1] := by decide +kernel
example : S2kWF (.iterated 8 (List.replicate 8 7) 96) ∧ S2kWF (.other 2 [1]) ∧ ¬ S2kWF (.other 3 [1]) := by decide +kernel
example : SecretWF true ⟨.aead 9 2 (.argon2 (List.replicate 16 1) 3 4 16) (List.replicate 15 2), [1, 2, 3]⟩ :=
  ⟨by decide, by decide, fun _ => rfl, nofun⟩
example :
    let inp : Bytes := [0xC2, 29, 4, 0x13, 1, 8, 0, 15, 3, 27, 3, 0, 4, 27, 1, 4, 1, 2, 30, 1, 2, 7, 1, 0, 0, 0xAB, 0xCD, 0, 9, 1, 0xFF]
    (match packetParse false inp with
     | .ok (p, r) => (packetSer p, bodyWriteLen p.body, packetWriteLen p, r)
     | .error _ => (none, 0, 0, [])) = (some inp, 29, 31, []) := by decide +kernel

end Rpgp.C05
