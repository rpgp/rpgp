import RpgpProofs.S2k
import RpgpProofs.SymEnc
import RpgpProofs.Kdf
/-!
# C12 — symmetric and KDF constructions are the RFC's (interoperable ciphertext)

Models: `RpgpModel/S2k.lean`, `RpgpModel/SymEnc.lean`, `RpgpModel/Kdf.lean`, plans in
`RpgpModel/Plan.lean`.  The primitives (hash, HKDF, CFB, AEAD, AES key wrap, Argon2) are the
parameter `P : Prims`; where a statement needs a law of a primitive (output length, online-ness of
CFB, HKDF prefix consistency) the law is an explicit hypothesis.

Three kinds of statements:

* `…_rfc` — the literals of the source (re-extracted on every run into
  `RpgpModel/Gen/Constants.lean`) are the values RFC 9580 fixes, and the several copies agree;
* structure theorems over **all** inputs: what exactly is hashed / sealed / wrapped, with which
  nonce and associated data, in which order, and that readers accept exactly what writers lay out;
* `…_plan_sound` — the plan the driver prints (and the harness evaluates with RustCrypto against
  rpgp's bytes) denotes the modelled function under *every* interpretation of the primitives.
-/
namespace Rpgp.C12
open Rpgp Rpgp.Sym

/-! ## the constants are the RFC's and all use sites agree -/

/-- RFC 9580 §3.7.1: S2K type octets (writer = reader), specifier lengths, salt sizes, count
decoding parameters, usage octets 253 / 254 -/
theorem s2k_constants_rfc :
    Gen.s2kExpbias = 6 ∧ Gen.s2kCountBase = 16 ∧ Gen.s2kCountMask = 15 ∧ Gen.s2kCountShift = 4 ∧
    Gen.s2kIdSimple = 0 ∧ Gen.s2kIdSalted = 1 ∧ Gen.s2kIdIterated = 3 ∧ Gen.s2kIdArgon2 = 4 ∧
    Gen.s2kRdSimple = Gen.s2kIdSimple ∧ Gen.s2kRdIterated = Gen.s2kIdIterated ∧ Gen.s2kRdArgon2 = Gen.s2kIdArgon2 ∧
    Gen.s2kSaltLen = 8 ∧ Gen.s2kArgonSaltLen = 16 ∧
    Gen.s2kLenSimple = 2 ∧ Gen.s2kLenSalted = 10 ∧ Gen.s2kLenIterated = 11 ∧ Gen.s2kLenArgon2 = 20 ∧
    Gen.s2kUsageAead = 253 ∧ Gen.s2kUsageCfb = 254 ∧ Gen.argon2MaxMEnc = 31 := by decide

/-- RFC 9580 §9.6 / §5.13.2: AEAD ids, nonce and tag sizes, chunk-size exponent, HKDF info
version, eight index octets in the nonce; every copy in the source agrees -/
theorem aead_constants_rfc :
    Gen.aeadIdEax = 1 ∧ Gen.aeadIdOcb = 2 ∧ Gen.aeadIdGcm = 3 ∧
    Gen.aeadNonceEax = 16 ∧ Gen.aeadNonceOcb = 15 ∧ Gen.aeadNonceGcm = 12 ∧
    Gen.aeadIvEax = Gen.aeadNonceEax ∧ Gen.aeadIvOcb = Gen.aeadNonceOcb ∧ Gen.aeadIvGcm = Gen.aeadNonceGcm ∧
    Gen.aeadTagEax = 16 ∧ Gen.aeadTagOcb = 16 ∧ Gen.aeadTagGcm = 16 ∧ Gen.aeadDecTagSize = 16 ∧
    Gen.chunkSizeShiftBias = 6 ∧ Gen.chunkSizeMin = 0 ∧ Gen.chunkSizeMax = 16 ∧
    Gen.seipd2InfoVersion = 2 ∧ Gen.tagSeipd = 18 ∧ Gen.tagEncodeBits = 192 ∧
    Gen.seipd2NonceCounterLen = 8 ∧ Gen.aeadEncCounterLen = 8 ∧ Gen.aeadDecCounterLen = 8 := by decide

/-- the 42 octets of HKDF output requested by the code cover key and nonce prefix of every
supported cipher / mode (largest: 32 + 16 − 8 = 40) -/
theorem okm_lengths_suffice :
    Gen.symKeyAES256 + Gen.aeadNonceEax - Gen.seipd2NonceCounterLen ≤ Gen.seipd2OkmLen ∧
    Gen.symKeyAES256 ≤ Gen.skesk6EncOkmLen ∧ Gen.skesk6DecOkmLen = Gen.skesk6EncOkmLen ∧
    Gen.symKeyAES256 ≤ Gen.secAeadOkmLen := by decide

/-- RFC 9580 §9.3: cipher ids, block and key sizes as used by `block_size` / `key_size` -/
theorem cipher_table_rfc :
    (Gen.symBlockSize 1, Gen.c12SymKeySize 1) = (8, 16) ∧ (Gen.symBlockSize 2, Gen.c12SymKeySize 2) = (8, 24) ∧
    (Gen.symBlockSize 3, Gen.c12SymKeySize 3) = (8, 16) ∧ (Gen.symBlockSize 4, Gen.c12SymKeySize 4) = (8, 16) ∧
    (Gen.symBlockSize 7, Gen.c12SymKeySize 7) = (16, 16) ∧ (Gen.symBlockSize 8, Gen.c12SymKeySize 8) = (16, 24) ∧
    (Gen.symBlockSize 9, Gen.c12SymKeySize 9) = (16, 32) ∧ (Gen.symBlockSize 10, Gen.c12SymKeySize 10) = (16, 32) ∧
    (Gen.symBlockSize 11, Gen.c12SymKeySize 11) = (16, 16) ∧ (Gen.symBlockSize 12, Gen.c12SymKeySize 12) = (16, 24) ∧
    (Gen.symBlockSize 13, Gen.c12SymKeySize 13) = (16, 32) ∧
    (Gen.symBlockSize 0, Gen.c12SymKeySize 0) = (0, 0) ∧ (Gen.symBlockSize 5, Gen.c12SymKeySize 6) = (0, 0) := by decide

/-- RFC 9580 §5.13.1 / §5.14: MDC header `D3 14`, 22 octets in all, prefix of block size + 2 with
the last two octets repeated; one-shot writer, streaming writer and reader agree -/
theorem mdc_constants_rfc :
    Gen.epMdcTag = 0xD3 ∧ Gen.epMdcLenOctet = 0x14 ∧ Gen.epMdcLen = 22 ∧ Gen.epPrefixExtra = 2 ∧
    Gen.epRepeatBack = 2 ∧ Gen.epOverheadQuick = 2 ∧ Gen.epOverheadMdc = 22 ∧
    Gen.seMdcTag = Gen.epMdcTag ∧ Gen.seMdcLenOctet = Gen.epMdcLenOctet ∧ Gen.seMdcLen = Gen.epMdcLen ∧
    Gen.sePrefixExtra = Gen.epPrefixExtra ∧
    Gen.sdMdcTag = Gen.epMdcTag ∧ Gen.sdMdcLenOctet = Gen.epMdcLenOctet ∧ Gen.sdMdcLen = Gen.epMdcLen ∧
    Gen.sdPrefixExtra = Gen.epPrefixExtra := by decide

/-- RFC 9580 §5.3: SKESK version octets, HKDF info `C3 06 …`, count octet = 3 + |S2K| + |IV| -/
theorem skesk_constants_rfc :
    Gen.skesk4WrVersion = 4 ∧ Gen.skesk6WrVersionOctet = 6 ∧ Gen.skesk6EncInfoVersion = 6 ∧
    Gen.skesk6DecInfoVersion = Gen.skesk6EncInfoVersion ∧ Gen.skesk6CountFixed = 3 ∧ Gen.tagSkesk = 3 ∧
    tagEncode Gen.tagSkesk = 0xC3 ∧ tagEncode Gen.tagSeipd = 0xD2 := by decide

/-- RFC 9580 §3.7.2.1: secret-key AEAD info / AD start with `C0 | tag` (tags 5, 7) -/
theorem seckey_constants_rfc :
    Gen.secAeadTypeBits = 0xC0 ∧ Gen.secAeadTypeBits = Gen.tagEncodeBits ∧ Gen.tagSecretKey = 5 ∧
    Gen.tagSecretSubkey = 7 ∧ Gen.secAeadOkmLen = 32 := by decide

/-- RFC 9580 §11.5: ECDH KDF parameters `03 01 hash sym`, public-key algorithm 18, counter
`00 00 00 01`, "Anonymous Sender    ", padding block 8 at all three sites, key-wrap IV 8 -/
theorem ecdh_constants_rfc :
    Gen.ecdhKdfParamsLen = 3 ∧ Gen.ecdhKdfParamsReserved = 1 ∧ Gen.ecdhPkAlgo = 18 ∧
    Gen.ecdhKdfCounter = [0, 0, 0, 1] ∧
    Gen.anonSender.map Nat.toUInt8 =
      [65, 110, 111, 110, 121, 109, 111, 117, 115, 32, 83, 101, 110, 100, 101, 114, 32, 32, 32, 32] ∧
    Gen.ecdhPadBlock = 8 ∧ Gen.ecdhPadAdd = Gen.ecdhPadBlock ∧ Gen.ecdhUnpadBlock = Gen.ecdhPadBlock ∧
    Gen.aesKwIvLen = 8 ∧ Gen.ecdhMaxPlain + 8 + Gen.aesKwIvLen ≤ 255 := by decide

/-- RFC 9580 §5.1.6 / §5.1.7: HKDF-SHA256 → 16 octets with info "OpenPGP X25519";
HKDF-SHA512 → 32 octets with info "OpenPGP X448" -/
theorem x25519_x448_constants_rfc :
    Gen.x25519OkmLen = 16 ∧ Gen.x25519UsesSha256 = 256 ∧ Gen.x25519KeyLen = 32 ∧
    X25519.info = [79, 112, 101, 110, 80, 71, 80, 32, 88, 50, 53, 53, 49, 57] ∧
    Gen.x448OkmLen = 32 ∧ Gen.x448UsesSha512 = 512 ∧
    X448.info = [79, 112, 101, 110, 80, 71, 80, 32, 88, 52, 52, 56] :=
  ⟨by decide, by decide, by decide, x25519_info_bytes, by decide, by decide, x448_info_bytes⟩

/-! ## S2K -/

/-- `decode_count` is RFC 9580 §3.7.1.3 `(16 + (c & 15)) << ((c >> 4) + 6)`, for every `c` -/
theorem decode_count_rfc (c : Nat) : S2k.decodeCount c = (16 + c % 16) * 2 ^ (c / 16 + 6) :=
  decodeCount_eq c

/-- … and over the 256 codes it ranges from 1024 to 65 011 712 (no `u32` overflow) -/
theorem decode_count_range (c : Nat) (hc : c < 256) :
    1024 ≤ S2k.decodeCount c ∧ S2k.decodeCount c ≤ 65011712 ∧ S2k.decodeCount c < 4294967296 := by
  rw [decodeCount_eq]
  have h31 : 16 + c % 16 ≤ 31 := Nat.add_le_add_left (Nat.le_of_lt_succ (Nat.mod_lt c (by decide))) 16
  have hpow : 2 ^ (c / 16 + 6) ≤ 2 ^ 21 :=
    Nat.pow_le_pow_right (by decide) (Nat.add_le_add_right (Nat.le_of_lt_succ (Nat.div_lt_of_lt_mul (k := 16) hc)) 6)
  have hi : (16 + c % 16) * 2 ^ (c / 16 + 6) ≤ 65011712 :=
    Nat.le_trans (Nat.mul_le_mul h31 hpow) (by decide)
  exact ⟨Nat.le_trans (by decide : 1024 ≤ 16 * 2 ^ 6)
      (Nat.mul_le_mul (Nat.le_add_right 16 _) (Nat.pow_le_pow_right (by decide) (Nat.le_add_left 6 _))),
    hi, Nat.lt_of_le_of_lt hi (by decide)⟩

/-- **iterated stream law**: for every salt, password and coded count the loop feeds the hasher
exactly `n = max (decoded count) |salt ‖ pw|` octets, octet `i` being `(salt ‖ pw)[i mod |salt ‖ pw|]` —
i.e. `take n (cycle (salt ‖ pw))`, at least one full copy -/
theorem iterated_stream (salt pw : Bytes) (c : Nat) (hne : salt ++ pw ≠ []) :
    (S2k.iterStream salt pw c).length = max (S2k.decodeCount c) (salt ++ pw).length ∧
    ∀ i, i < max (S2k.decodeCount c) (salt ++ pw).length →
      (S2k.iterStream salt pw c)[i]? = (salt ++ pw)[i % (salt ++ pw).length]? := by
  have hpos : 0 < (salt ++ pw).length := List.length_pos_iff.mpr hne
  rw [S2k.iterStream, ← List.length_append]
  exact ⟨iterLoop_length salt pw hpos _, fun i hi => iterLoop_getElem? salt pw hpos _ i hi⟩

/-- the compressed form the driver prints (`q` whole copies + a prefix of one more) expands to
the loop's byte stream -/
theorem iterated_plan_expands (P : Prims) (salt pw : Bytes) (c : Nat) :
    (S2k.iterPlan salt pw c).eval P = S2k.iterStream salt pw c :=
  iterPlan_eval P salt pw c

/-- `rounds = ⌈key_size / digest_size⌉`: enough digests, and none too many -/
theorem rounds_cover (ks d : Nat) (hd : 0 < d) :
    ks ≤ S2k.rounds ks d * d ∧ (0 < ks → (S2k.rounds ks d - 1) * d < ks) :=
  Rpgp.Sym.rounds_cover ks d hd

/-- the derived key is the first `key_size` octets of `H(body) ‖ H(00 ‖ body) ‖ H(00 00 ‖ body) ‖ …`
(round `r` is preloaded with `r` zero octets), for every key size, incl. multi-round derivation -/
theorem derive_is_prefix_of_preloaded_digests (P : Prims) (alg d : Nat) (body : Bytes) (ks : Nat) (hd : 0 < d)
    (hlen : ∀ x, (P.hash alg x).length = d) :
    S2k.deriveHashed P alg d body ks =
      ((List.range (S2k.rounds ks d)).flatMap fun r => P.hash alg (List.replicate r 0 ++ body)).take ks ∧
    (S2k.deriveHashed P alg d body ks).length = ks := by
  have h := deriveHashed_eq_take P alg d body ks hd hlen
  refine ⟨h, ?_⟩
  rw [h, List.length_take, flatMap_length_const _ d _ (fun r => hlen _)]
  exact Nat.min_eq_left (Rpgp.Sym.rounds_cover ks d hd).1

/-- whatever Argon2 parameters `derive_key` lets through (its own checks + the `argon2` crate's)
are in RFC 9580 §3.7.1.4's range: `3 + ⌈log₂ p⌉ ≤ encoded_m ≤ 31`, `t, p ≥ 1`; memory is `2^encoded_m` KiB -/
theorem argon2_admission_rfc (P : Prims) (salt pw : Bytes) (t p m ks : Nat) (k : Bytes)
    (h : S2k.derive P (.argon2 salt t p m) pw ks = some k) :
    3 + S2k.ceilLog2 p ≤ m ∧ m ≤ 31 ∧ 1 ≤ t ∧ 1 ≤ p ∧ k = P.argon2 pw salt t p (2 ^ m) ks := by
  rw [S2k.derive] at h
  obtain ⟨hc, h⟩ := Option.ite_none_right_eq_some.mp h
  simp only [S2k.argon2Admitted, S2k.argon2CrateAccepts, Bool.and_eq_true, decide_eq_true_eq] at hc
  obtain ⟨⟨⟨⟨⟨_, _⟩, _⟩, hm⟩, _⟩, ⟨⟨⟨⟨_, h8p⟩, ht⟩, hp1⟩, _⟩⟩ := hc
  exact ⟨ceilLog2_add_three_le p m hp1 h8p, hm, ht, hp1, (Option.some.inj h).symm⟩

/-- S2K specifier octets have the RFC's lengths (2 / 10 / 11 / 20) for 8- and 16-octet salts -/
theorem spec_lengths (h c t p m : Nat) (salt8 salt16 : Bytes) (h8 : salt8.length = 8) (h16 : salt16.length = 16) :
    (S2k.specBytes (.simple h)).length = Gen.s2kLenSimple ∧
    (S2k.specBytes (.salted h salt8)).length = Gen.s2kLenSalted ∧
    (S2k.specBytes (.iterated h salt8 c)).length = Gen.s2kLenIterated ∧
    (S2k.specBytes (.argon2 salt16 t p m)).length = Gen.s2kLenArgon2 := by
  simp [S2k.specBytes, h8, h16, Gen.s2kLenSimple, Gen.s2kLenSalted, Gen.s2kLenIterated, Gen.s2kLenArgon2]

theorem s2k_plan_sound (P : Prims) (s : S2k.Spec) (pw : Bytes) (ks : Nat) :
    (S2k.plan s pw ks).map (PExpr.eval P) = S2k.derive P s pw ks :=
  plan_eval P s pw ks

/-! ## SEIPDv2 -/

/-- `ChunkSize::as_byte_size` is `2^(c+6)` -/
theorem chunk_bytes (cs : Nat) : Seipd2.chunkBytes cs = 2 ^ (cs + 6) := by
  have : Gen.chunkSizeShiftBias = 6 := rfl
  simp [Seipd2.chunkBytes, this, Nat.shiftLeft_eq]

/-- **nonce_distinct**: within a message two different chunk indices below 2⁶⁴ never give the same
nonce (the final tag uses index = number of chunks, so it is covered too) -/
theorem nonce_distinct (nonce0 : Bytes) (i j : Nat) (hi : i < 18446744073709551616)
    (hj : j < 18446744073709551616) (hne : i ≠ j) : Seipd2.nonceAt nonce0 i ≠ Seipd2.nonceAt nonce0 j :=
  fun h => hne (nonceAt_injective nonce0 i j hi hj h)

/-- the nonce of chunk `i` is `iv-prefix ‖ be64 i`, eight octets longer than the prefix -/
theorem nonce_layout (iv : Bytes) (i : Nat) :
    Seipd2.nonceAt (iv ++ List.replicate Gen.seipd2NonceCounterLen 0) i = iv ++ be64 i ∧
    (iv ++ be64 i).length = iv.length + 8 := by
  refine ⟨nonceAt_split iv i, ?_⟩
  simp [be64, beBytes_length]

/-- **chunk_plan_partition**: the chunk ranges of a plaintext of `n` octets are exactly
`[i·c, i·c + min c (n − i·c))` for `i < ⌈n/c⌉` — contiguous, disjoint, covering `[0, n)`, all of
size `c` but possibly the last, none empty — and concatenating the slices gives the plaintext back -/
theorem chunk_plan_partition (c : Nat) (hc : 0 < c) (pt : Bytes) :
    (Seipd2.ranges c 0 pt.length).length = (pt.length + c - 1) / c ∧
    (∀ i r, (Seipd2.ranges c 0 pt.length)[i]? = some r →
      r = (i * c, min c (pt.length - i * c)) ∧ i * c < pt.length) ∧
    ((Seipd2.ranges c 0 pt.length).flatMap fun r => (pt.drop r.1).take r.2) = pt := by
  refine ⟨ranges_length c hc 0 pt.length, ?_, ranges_flatten c hc pt 0 pt.length (Nat.zero_add _)⟩
  intro i r h
  have := ranges_getElem? c 0 pt.length i r h
  rwa [Nat.zero_add] at this

/-- the encryptor seals exactly those ranges, chunk `i` under nonce `i` with `ad = info`, followed
by the final tag: the seal of the empty string under nonce `#chunks` with `ad = info ‖ be64 |pt|` -/
theorem encrypt_seals_the_partition (P : Prims) (sym aead : Nat) (key nonce0 inf pt : Bytes) (c : Nat) :
    Seipd2.chunks P sym aead key nonce0 inf c pt.length 0 pt =
      ((Seipd2.ranges c 0 pt.length).zipIdx 0).flatMap
          (fun rj => P.aead sym aead key (Seipd2.nonceAt nonce0 rj.2) inf ((pt.drop rj.1.1).take rj.1.2)) ++
        P.aead sym aead key (Seipd2.nonceAt nonce0 (Seipd2.ranges c 0 pt.length).length) (inf ++ be64 pt.length) [] := by
  have := chunks_eq_ranges P sym aead key nonce0 inf c pt.length pt 0 pt 0 rfl
  rw [Nat.zero_add] at this
  exact this

/-- **final_ad_len**: the associated data of the final tag is the 5 info octets + 8 length octets -/
theorem final_ad_len (sym aead cs total : Nat) : (Seipd2.info sym aead cs ++ be64 total).length = 13 := by
  rw [List.length_append, be64_length]; rfl

/-- **hkdf_split**: for every supported cipher / mode the 42-octet HKDF output is cut into a key of
the cipher's key size and a nonce of the mode's size; key and nonce without its last 8 octets (the
place of the index) together are the first `key size + nonce size − 8` octets of the output -/
theorem hkdf_split (sym aead : Nat) (okm : Bytes) (h42 : okm.length = 42)
    (hs : sym = 7 ∨ sym = 8 ∨ sym = 9) (ha : aead = 1 ∨ aead = 2 ∨ aead = 3) :
    (Seipd2.split sym aead okm).1.length = Gen.c12SymKeySize sym ∧
    (Seipd2.split sym aead okm).2.length = Gen.aeadNonceSize aead ∧
    (Seipd2.split sym aead okm).1 ++ (Seipd2.split sym aead okm).2.take (Gen.aeadNonceSize aead - 8) =
      okm.take (Gen.c12SymKeySize sym + Gen.aeadNonceSize aead - 8) :=
  split_of_sizes sym aead okm (split_sizes_supported sym aead hs ha).1
    (h42 ▸ (split_sizes_supported sym aead hs ha).2)

/-- hence, HKDF being prefix-consistent in its output length (RFC 5869: `OKM = first L octets of T`),
key ‖ nonce prefix is the HKDF output of length `key size + nonce size − 8` RFC 9580 §5.13.2 asks for -/
theorem hkdf_split_rfc (P : Prims) (sym aead cs : Nat) (salt ikm : Bytes)
    (hs : sym = 7 ∨ sym = 8 ∨ sym = 9) (ha : aead = 1 ∨ aead = 2 ∨ aead = 3)
    (hlen : ∀ h s i f l, (P.hkdf h s i f l).length = l)
    (hpre : ∀ h s i f l l', l' ≤ l → (P.hkdf h s i f l).take l' = P.hkdf h s i f l') :
    let o := Seipd2.okm P sym aead cs salt ikm
    (Seipd2.split sym aead o).1 ++ (Seipd2.split sym aead o).2.take (Gen.aeadNonceSize aead - 8) =
      P.hkdf sha256Id salt ikm (Seipd2.info sym aead cs) (Gen.c12SymKeySize sym + Gen.aeadNonceSize aead - 8) := by
  intro o
  have h42 : o.length = 42 := hlen _ _ _ _ _
  rw [(hkdf_split sym aead o h42 hs ha).2.2]
  exact hpre _ _ _ _ _ _ (split_sizes_supported sym aead hs ha).2

/-- ciphertext length = plaintext + 16 per chunk + 16 for the final tag (AEAD tags being 16 octets) -/
theorem seipd2_ciphertext_length (P : Prims) (sym aead cs : Nat) (salt key pt : Bytes)
    (hseal : ∀ k n ad d, (P.aead sym aead k n ad d).length = d.length + 16) :
    (Seipd2.encrypt P sym aead cs salt key pt).length =
      pt.length + 16 * ((pt.length + 2 ^ (cs + 6) - 1) / 2 ^ (cs + 6) + 1) := by
  unfold Seipd2.encrypt
  rw [← chunk_bytes cs]
  exact chunks_length P sym aead _ _ _ _ _ (by rw [chunk_bytes]; exact Nat.pow_pos (by decide)) hseal 0 pt

theorem seipd2_plan_sound (P : Prims) (sym aead cs : Nat) (salt key : Bytes) (pt : PtRef) :
    (Seipd2.plan sym aead cs salt key pt).eval P = Seipd2.encrypt P sym aead cs salt key pt.val :=
  Seipd2.plan_eval P sym aead cs salt key pt

/-! ## SEIPDv1 -/

/-- the CFB plaintext is `prefix ‖ prefix[bs−2..] ‖ pt ‖ D3 14 ‖ SHA1(all preceding)[..20]`, encrypted
under an all-zero IV -/
theorem seipd1_layout (P : Prims) (alg : Nat) (key pre pt : Bytes) (hpre : 2 ≤ pre.length) :
    Seipd1.encrypt P alg key pre pt =
      P.cfbEnc alg key (List.replicate (Gen.symBlockSize alg) 0)
        (pre ++ [pre.getD (pre.length - 2) 0, pre.getD (pre.length - 1) 0] ++ pt ++ [0xD3, 0x14] ++
          (P.hash sha1Id (pre ++ [pre.getD (pre.length - 2) 0, pre.getD (pre.length - 1) 0] ++ pt ++ [0xD3, 0x14])).take 20) := by
  have h1 : pre.length - Gen.epRepeatBack + 1 = pre.length - 1 :=
    (Nat.sub_add_comm hpre).symm.trans (Nat.add_sub_add_right _ 1 1)
  rw [Seipd1.encrypt, Seipd1.layout, Seipd1.hashed, Seipd1.prefixed, h1]
  rfl

/-- length = plaintext + block size + 2 + 22 (`encrypted_protected_len`) -/
theorem seipd1_length (P : Prims) (pre pt : Bytes) (hh : ∀ x, 20 ≤ (P.hash sha1Id x).length) :
    (Seipd1.layout P pre pt).length = pre.length + Gen.epOverheadQuick + Gen.epOverheadMdc + pt.length :=
  (Seipd1.layout_length P pre pt hh).trans (Nat.add_right_comm _ _ _)

/-- the streaming writer (any buffer size) and the one-shot writer emit the same bytes, CFB being
an online cipher -/
theorem seipd1_stream_eq_oneshot (P : Prims) (alg : Nat) (key pre pt : Bytes) (bufSize : Nat) (hb : 0 < bufSize)
    (hE : Online (P.cfbEnc alg key (List.replicate (Gen.symBlockSize alg) 0))) :
    Seipd1.stream P alg key pre pt bufSize = Seipd1.encrypt P alg key pre pt :=
  Seipd1.stream_eq_encrypt P alg key pre pt bufSize hb hE

/-- the reader accepts what the writers lay out and returns the plaintext … -/
theorem seipd1_reader_accepts_writer (P : Prims) (pre pt : Bytes) (hh : ∀ x, 20 ≤ (P.hash sha1Id x).length) :
    Seipd1.open P pre.length (Seipd1.layout P pre pt) = .ok pt :=
  Seipd1.open_layout P pre pt hh

/-- … and nothing else: an accepted stream is `A ‖ pt ‖ D3 14 ‖ SHA1(A ‖ pt ‖ D3 14)[..20]` with
`|A| = bs + 2` (the two repeat octets are deliberately not compared — no quick check) -/
theorem seipd1_reader_accepts_only_layout (P : Prims) (bs : Nat) (d pt : Bytes)
    (hh : ∀ x, 20 ≤ (P.hash sha1Id x).length) (hok : Seipd1.open P bs d = .ok pt) :
    ∃ A, A.length = bs + 2 ∧
      d = A ++ pt ++ [0xD3, 0x14] ++ (P.hash sha1Id (A ++ pt ++ [0xD3, 0x14])).take 20 := by
  have e2 : Gen.sdMdcTag.toUInt8 = 0xD3 := by decide
  have e3 : Gen.sdMdcLenOctet.toUInt8 = 0x14 := by decide
  have := Seipd1.open_sound P bs d pt hh hok
  rw [e2, e3] at this
  exact this

theorem seipd1_plan_sound (P : Prims) (alg : Nat) (key pre : Bytes) (pt : PtRef) :
    (Seipd1.plan alg key pre pt).eval P = Seipd1.encrypt P alg key pre pt.val :=
  Seipd1.plan_eval P alg key pre pt

/-! ## SKESK v4 / v6, secret-key protection -/

/-- SKESK v6 body: `06 count sym aead |s2k| s2k iv esk`, the count octet being the number of octets
of the five fields that follow it, the AEAD being run with `ad = info = C3 06 sym aead` -/
theorem skesk6_layout (P : Prims) (sym aead : Nat) (s : S2k.Spec) (pw sk iv body : Bytes)
    (h : Skesk.body6 P sym aead s pw sk iv = some body) :
    ∃ ikm, S2k.derive P s pw (Gen.c12SymKeySize sym) = some ikm ∧
      body = [6, ([sym.toUInt8, aead.toUInt8, (S2k.specBytes s).length.toUInt8] ++ S2k.specBytes s ++ iv).length.toUInt8,
                sym.toUInt8, aead.toUInt8, (S2k.specBytes s).length.toUInt8] ++ S2k.specBytes s ++ iv ++
        P.aead sym aead (Skesk.kek6 P sym aead ikm) iv [0xC3, 6, sym.toUInt8, aead.toUInt8] sk := by
  unfold Skesk.body6 at h
  cases hE : Skesk.encryptAllowed s <;> rw [hE] at h
  · cases h
  · cases hd : S2k.derive P s pw (Gen.c12SymKeySize sym) <;> rw [hd] at h
    · cases h
    · obtain rfl := Option.some.inj h
      refine ⟨_, rfl, ?_⟩
      rw [List.length_append, List.length_append]
      rfl

/-- under the HKDF prefix law the AEAD key of SKESK v6 is HKDF output of exactly the cipher's key
size (RFC 9580 §5.3.2), although the code expands 42 octets -/
theorem skesk6_kek_rfc (P : Prims) (sym aead : Nat) (ikm : Bytes)
    (hpre : ∀ h s i f l l', l' ≤ l → (P.hkdf h s i f l).take l' = P.hkdf h s i f l')
    (hs : Gen.c12SymKeySize sym ≤ 42) :
    Skesk.kek6 P sym aead ikm = P.hkdf sha256Id [] ikm (Skesk.info6 sym aead) (Gen.c12SymKeySize sym) := by
  unfold Skesk.kek6
  exact hpre _ _ _ _ _ _ hs

/-- the SKESK v4 reader accepts the decrypted `cipher ‖ key` exactly when the cipher is known and
the key has its size — in particular everything `encrypt_v4` wraps for a session key of the right size -/
theorem skesk4_reader_accepts (a : Byte) (key : Bytes) :
    (Skesk.open4 (a :: key) = some (a.toNat, key) ↔
      (Gen.c12SymKeySize a.toNat ≠ 0 ∧ Gen.c12SymKeySize a.toNat = key.length)) ∧
    (∀ r, Skesk.open4 (a :: key) = some r → r = (a.toNat, key)) := by
  unfold Skesk.open4
  by_cases h0 : Gen.c12SymKeySize a.toNat = 0
  · simp [h0]
  · by_cases h1 : Gen.c12SymKeySize a.toNat = key.length
    · simp [h1]
    · simp [h0, h1]

theorem skesk4_plan_sound (P : Prims) (sym : Nat) (s : S2k.Spec) (pw sk : Bytes) :
    (Skesk.plan4 true sym s pw sk).map (PExpr.eval P) = Skesk.body4 P sym s pw sk :=
  Skesk.plan4_eval P sym s pw sk

theorem skesk6_plan_sound (P : Prims) (sym aead : Nat) (s : S2k.Spec) (pw sk iv : Bytes) :
    (Skesk.plan6 true sym aead s pw sk iv).map (PExpr.eval P) = Skesk.body6 P sym aead s pw sk iv :=
  Skesk.plan6_eval P sym aead s pw sk iv

theorem seckey_cfb_plan_sound (P : Prims) (ver sym : Nat) (s : S2k.Spec) (pw iv raw : Bytes) :
    (SecKey.cfbPlan true ver sym s pw iv raw).map (PExpr.eval P) = SecKey.cfbData P ver sym s pw iv raw :=
  SecKey.cfbPlan_eval P ver sym s pw iv raw

/-- what the lock side writes is what the unlock side is willing to open: AEAD only with Argon2 or
iterated+salted S2K, CFB never with Argon2 and, for version 6 keys, only with iterated+salted or
salted S2K; never MD5 / SHA-1 / RIPEMD-160 -/
theorem seckey_lock_admission (P : Prims) (ver sym aead tag : Nat) (s : S2k.Spec) (pw iv pubBody raw out : Bytes) :
    (SecKey.cfbData P ver sym s pw iv raw = some out →
      s.weakHash = false ∧ s.isArgon2 = false ∧
        (ver = 6 → (∃ h salt c, s = .iterated h salt c) ∨ (∃ h salt, s = .salted h salt))) ∧
    (SecKey.aeadData P sym aead s pw iv tag ver pubBody raw = some out →
      s.weakHash = false ∧ ((∃ salt t p m, s = .argon2 salt t p m) ∨ (∃ h salt c, s = .iterated h salt c))) :=
  ⟨fun h => SecKey.cfbLockAllowed_spec ver s (SecKey.cfbData_allowed P ver sym s pw iv raw out h),
    fun h => SecKey.aeadLockAllowed_spec s (SecKey.aeadData_allowed P sym aead s pw iv tag ver pubBody raw out h)⟩

theorem seckey_aead_plan_sound (P : Prims) (sym aead : Nat) (s : S2k.Spec) (pw nonce : Bytes) (tag ver : Nat)
    (pubBody raw : Bytes) :
    (SecKey.aeadPlan true sym aead s pw nonce tag ver pubBody raw).map (PExpr.eval P) =
      SecKey.aeadData P sym aead s pw nonce tag ver pubBody raw :=
  SecKey.aeadPlan_eval P sym aead s pw nonce tag ver pubBody raw

/-! ## ECDH, X25519, X448, checksum -/

/-- `Param = |oid| oid 12 03 01 hash sym "Anonymous Sender    " fingerprint`; the KDF hashes
`00 00 00 01 ‖ Z ‖ Param` -/
theorem ecdh_param_layout (oid : Bytes) (sym hash : Nat) (fp z : Bytes) :
    Ecdh.param oid sym hash fp =
      [oid.length.toUInt8] ++ oid ++ [18, 3, 1, hash.toUInt8, sym.toUInt8] ++
        [65, 110, 111, 110, 121, 109, 111, 117, 115, 32, 83, 101, 110, 100, 101, 114, 32, 32, 32, 32] ++ fp ∧
    (Ecdh.param oid sym hash fp).length = 1 + oid.length + 1 + 4 + 20 + fp.length ∧
    Ecdh.kdfInput z (Ecdh.param oid sym hash fp) = [0, 0, 0, 1] ++ z ++ Ecdh.param oid sym hash fp := by
  refine ⟨?_, param_length oid sym hash fp, rfl⟩
  rw [Ecdh.param, List.append_assoc _ [_] [_, _, _, _]]
  rfl

/-- **pad_multiple_of_8**: the padded key is a multiple of 8 octets, 1 to 8 octets longer -/
theorem pad_multiple_of_8 (x : Bytes) :
    (Ecdh.pad x).length % 8 = 0 ∧ x.length < (Ecdh.pad x).length ∧ (Ecdh.pad x).length ≤ x.length + 8 :=
  pad_length x

/-- **pad_unpad**: for every non-empty key of *every* length (in particular 1..239) -/
theorem pad_unpad (x : Bytes) (hx : x ≠ []) : Ecdh.unpad (Ecdh.pad x) = some x := unpad_pad x hx

/-- the reader accepts only a non-empty key followed by `k` octets of value `k`, `1 ≤ k ≤ 255`
(`k` the last octet), the whole being a multiple of 8 octets (RFC 9580 §11.5 / RFC 8018 padding;
more than 8 padding octets are allowed).  The bound `1 ≤ k` is the guard of the `fix:` commit for
D12a. -/
theorem unpad_accepts_only_padded (d x : Bytes) (h : Ecdh.unpad d = some x) :
    ∃ k, 1 ≤ k ∧ k ≤ 255 ∧ d = x ++ List.replicate k k.toUInt8 ∧ x ≠ [] ∧ d.length % 8 = 0 := by
  obtain ⟨h8, hx, hk, hd⟩ := unpad_sound d x h
  refine ⟨(d.getLastD 0).toNat, hk, Nat.le_of_lt_succ (UInt8.toNat_lt _), ?_, hx, h8⟩
  rw [toNat_toUInt8]; exact hd

/-- in particular a padding octet of value 0 is refused (D12a: without the fix `derive_session_key`
accepts it and strips nothing) -/
theorem unpad_rejects_zero_pad (d : Bytes) (h0 : d.getLastD 0 = 0) : Ecdh.unpad d = none :=
  unpad_zero_pad_refused d h0

/-- and so is a stream that is nothing but padding (no key left) -/
theorem unpad_rejects_all_padding : Ecdh.unpad [8, 8, 8, 8, 8, 8, 8, 8] = none ∧
    Ecdh.unpad [1, 2, 3, 4, 5, 6, 7, 0] = none ∧ Ecdh.unpad [1, 2, 3, 4, 5, 6, 7, 1] = some [1, 2, 3, 4, 5, 6, 7] := by
  decide

theorem ecdh_wrap_plan_sound (P : Prims) (oid : Bytes) (hash sym : Nat) (fp z plain : Bytes)
    (hk : ∀ k, Ecdh.kdf P hash z (Gen.c12SymKeySize sym) (Ecdh.param oid sym hash fp) = some k → Ecdh.kekOk k = true) :
    (Ecdh.wrapPlan true oid hash sym fp z plain).map (PExpr.eval P) = Ecdh.wrap P oid hash sym fp z plain :=
  Ecdh.wrapPlan_eval P oid hash sym fp z plain hk

/-- X25519 / X448: the HKDF input is ephemeral ‖ recipient ‖ shared secret (96 / 168 octets), the
wrapped value is the bare session key; the plans denote the modelled functions -/
theorem x25519_x448_plans_sound (P : Prims) (eph rcpt z plain : Bytes) :
    (X25519.wrapPlan eph rcpt z plain).eval P = X25519.wrap P eph rcpt z plain ∧
    (X448.wrapPlan eph rcpt z plain).eval P = X448.wrap P eph rcpt z plain ∧
    (X25519.ikm eph rcpt z).length = eph.length + rcpt.length + z.length ∧
    X25519.wrap P eph rcpt z plain = P.kwrap (P.hkdf sha256Id [] (eph ++ rcpt ++ z) X25519.info 16) plain ∧
    X448.wrap P eph rcpt z plain = P.kwrap (P.hkdf sha512Id [] (eph ++ rcpt ++ z) X448.info 32) plain := by
  refine ⟨rfl, rfl, ?_, rfl, rfl⟩
  rw [X25519.ikm, List.length_append, List.length_append]

/-- the two-octet checksum is the sum of the octets mod 65536, however the octets are fed -/
theorem sum16_rfc (bs : Bytes) (chunks : List Bytes) :
    sum16 bs = (bs.map UInt8.toNat).sum % 65536 ∧ sum16Chunks chunks = sum16 chunks.flatten :=
  ⟨sum16_eq bs, sum16Chunks_eq chunks⟩

/-- session-key encoding inside PKESK values: `[cipher] ‖ key ‖ [be16 (sum16 key)]` -/
theorem session_key_plain_layout (alg : Nat) (sk : Bytes) :
    sessionKeyPlain (some alg) sk true = [alg.toUInt8] ++ sk ++ be16 (sum16 sk) ∧
    sessionKeyPlain none sk true = sk ++ be16 (sum16 sk) ∧
    sessionKeyPlain none sk false = sk := by
  simp [sessionKeyPlain]

/-! ## non-vacuity: the hypotheses about primitives are satisfiable -/

/-- toy primitives: constant-length digests, identity CFB (online), prefix-consistent HKDF -/
def toy : Prims where
  hash := fun _ _ => List.replicate 20 7
  hkdf := fun _ _ _ _ l => List.replicate l 9
  cfbEnc := fun _ _ _ d => d
  aead := fun _ _ _ _ _ d => d ++ List.replicate 16 1
  kwrap := fun _ d => List.replicate 8 2 ++ d
  argon2 := fun _ _ _ _ _ l => List.replicate l 3

example : ∀ x, (toy.hash sha1Id x).length = 20 := fun _ => rfl
example : Online (toy.cfbEnc 7 [] (List.replicate 16 0)) := ⟨fun _ => rfl, fun a b => by simp [toy]⟩
example : ∀ h s i f l l', l' ≤ l → (toy.hkdf h s i f l).take l' = toy.hkdf h s i f l' := by
  intro h s i f l l' hl; simp [toy, List.take_replicate, Nat.min_eq_left hl]
example : Seipd1.open toy 2 (Seipd1.layout toy [5, 6] [1, 2, 3]) = .ok [1, 2, 3] := by rfl
example : S2k.decodeCount 96 = 65536 ∧ S2k.decodeCount 255 = 65011712 ∧ S2k.decodeCount 0 = 1024 := by decide
example : Seipd2.ranges 64 0 130 = [(0, 64), (64, 64), (128, 2)] := by
  rw [ranges_cons _ _ _ (by decide), ranges_cons _ _ _ (by decide), ranges_cons _ _ _ (by decide),
    ranges_nil _ _ _ (by decide)]
  decide
example : Ecdh.pad [1, 2, 3] = [1, 2, 3, 5, 5, 5, 5, 5] := by decide

end Rpgp.C12
