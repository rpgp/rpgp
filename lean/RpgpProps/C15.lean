import RpgpProofs.Policy
import RpgpProofs.Wire
/-!
# C15 — version-alignment and criticality rules are enforced on every path

Model: `RpgpModel/Policy.lean` (decision tables exactly as coded).  The literals — version
discriminants, the arguments of the four `esk_filter` call sites, the reader and writer tables of
the signature-subpacket registry, and five structural facts ("this entry point calls that guard")
— are re-extracted from the source on every run (`RpgpModel/Gen/Constants.lean`,
`tools/constants/policy.py`).

Every statement below is over *all* inputs: every version octet (not only the assigned ones),
every list of ESK packets, every list of hashed/unhashed subpackets, every ring, every
certificate shape.  Primitive answers (`cryptoOk`, `prefixOk`, "this ESK opens") are fields of the
input and are universally quantified: the rules hold whatever the primitives say.
-/
namespace Rpgp.C15
open Rpgp Rpgp.Policy

/-! ## 0. the constants are the RFC's and the use sites agree -/

theorem version_enums_rfc :
    Gen.pkeskV3 = 3 ∧ Gen.pkeskV6 = 6 ∧ Gen.skeskV4 = 4 ∧ Gen.skeskV5 = 5 ∧ Gen.skeskV6 = 6 ∧
    Gen.keyV2 = 2 ∧ Gen.keyV3 = 3 ∧ Gen.keyV4 = 4 ∧ Gen.keyV5 = 5 ∧ Gen.keyV6 = 6 ∧
    Gen.sigV2 = 2 ∧ Gen.sigV3 = 3 ∧ Gen.sigV4 = 4 ∧ Gen.sigV5 = 5 ∧ Gen.sigV6 = 6 := by decide

/-- the four `esk_filter` call sites of `visit_esk` pass the RFC 9580 §10.3.2.1 pairings -/
theorem filter_call_sites_rfc :
    Gen.filtSedPk = 3 ∧ Gen.filtSedSk = 4 ∧ Gen.filtSeipd1Pk = 3 ∧ Gen.filtSeipd1Sk = 4 ∧
    Gen.filtSeipd2Pk = 6 ∧ Gen.filtSeipd2Sk = 6 ∧
    Gen.filtGnupgPk = 3 ∧ Gen.filtGnupgSkA = 4 ∧ Gen.filtGnupgSkB = 5 := by decide

/-- reader table (`from_u8`) = writer table (`as_u8`) = the registry; private range 100..110;
critical bit = bit 7 -/
theorem subpacket_registry_sites_agree :
    Gen.knownSubpacketIdsRd = Gen.knownSubpacketIdsWr ∧ Gen.knownSubpacketIdsRd = registryIds ∧
    Gen.spExperimentalMin = 100 ∧ Gen.spExperimentalMax = 110 ∧
    Gen.spCriticalShift = 7 ∧ Gen.spTypeMask = 127 := by decide

/-- the guards are where the model says they are: `hash_signature_data` has the criticality
check, `verify_nested_explicit` calls the key-related guards, `SignedPublicSubKey` checks the
back signature, all five `verify*` bodies call the alignment check and all five signing entry
points carry the version `ensure!` -/
theorem guards_present :
    Gen.hashSigDataChecksCritical = 1 ∧ Gen.inlineChecksPreconditions = 1 ∧
    Gen.publicSubkeyChecksBacksig = 1 ∧ Gen.alignCallSites = 5 ∧ Gen.signEnsureSites = 5 := by decide

/-! ## 1. session-key packets that do not match the container are ignored -/

/-- `esk_filter_table`: for every container and **every** ESK (kind × version octet 0..∞) the
coded predicate is the specification table: PKESK v3 / SKESK v4 ↔ SED, SEIPDv1, GnuPG AEAD;
SKESK v5 ↔ GnuPG AEAD only; PKESK v6 / SKESK v6 ↔ SEIPDv2 only; everything else never. -/
theorem esk_filter_table (c : Container) (e : Esk) :
    keepEsk (filterArgs c).1 (filterArgs c).2 e = alignedSpec c e := by
  obtain ⟨pk, v⟩ := e
  cases c <;> cases pk <;>
    simp [keepEsk, filterArgs, alignedSpec, pkesk_ofNat_inj, skesk_ofNat_inj,
      Gen.filtSedPk, Gen.filtSedSk, Gen.filtSeipd1Pk, Gen.filtSeipd1Sk, Gen.filtSeipd2Pk, Gen.filtSeipd2Sk,
      Gen.filtGnupgPk, Gen.filtGnupgSkA, Gen.filtGnupgSkB]

/-- … hence for every ESK sequence the parsed message holds exactly the aligned ones -/
theorem esk_filter_exact (c : Container) (esks : List Esk) :
    parsedEsks c esks = esks.filter (alignedSpec c) :=
  congrArg (esks.filter ·) (funext (esk_filter_table c))

theorem esk_filter_mem (c : Container) (esks : List Esk) (e : Esk) :
    e ∈ parsedEsks c esks ↔ e ∈ esks ∧ alignedSpec c e = true := by
  rw [esk_filter_exact]; exact List.mem_filter

/-- nothing is invented or reordered -/
theorem esk_filter_sublist (c : Container) (esks : List Esk) : (parsedEsks c esks).Sublist esks := by
  rw [esk_filter_exact]; exact List.filter_sublist

theorem esk_filter_idempotent (c : Container) (esks : List Esk) :
    parsedEsks c (parsedEsks c esks) = parsedEsks c esks := by
  simp [esk_filter_exact]

/-- a misaligned ESK, wherever it is inserted, leaves the parsed message unchanged -/
theorem misaligned_insertion_ignored (c : Container) (pre post : List Esk) (e : Esk)
    (h : alignedSpec c e = false) : parsedEsks c (pre ++ e :: post) = parsedEsks c (pre ++ post) := by
  simp [esk_filter_exact, h]

/-- an aligned one is kept in place -/
theorem aligned_kept_in_place (c : Container) (pre post : List Esk) (e : Esk)
    (h : alignedSpec c e = true) :
    parsedEsks c (pre ++ e :: post) = parsedEsks c pre ++ e :: parsedEsks c post := by
  simp [esk_filter_exact, h]

/-- decryption behaves as if the misaligned ESKs were absent — for every ring (keys, passwords,
explicit session keys), every option set, both `abort_early` modes -/
theorem misaligned_esks_ignored (c : ContainerCfg) (esks : List Esk) (r : Ring) (k : RawKey) (ab : Bool) :
    decryptMessage c esks r k ab = decryptMessage c (esks.filter (alignedSpec c.kind)) r k ab := by
  unfold decryptMessage
  simp only [esk_filter_exact, List.filter_filter, Bool.and_self]

/-- a message whose ESKs are all misaligned is, for a caller without an explicit session key,
a message without a usable key (`Error::MissingKey`) even if the caller could open every ESK -/
theorem only_misaligned_is_missing_key (c : ContainerCfg) (esks : List Esk) (r : Ring) (k : RawKey)
    (ab : Bool) (hm : ∀ e ∈ esks, alignedSpec c.kind e = false) (hs : r.sessionKeys = []) :
    decryptMessage c esks r k ab = .missing := by
  have : parsedEsks c.kind esks = [] := by
    rw [esk_filter_exact, List.filter_eq_nil_iff]
    exact fun e he => by simp [hm e he]
  unfold decryptMessage decryptParsed findSessionKey searchSessionKey
  rw [this, hs]
  cases ab <;> rfl

/-! ## 2. the session-key kind must match the container (second line of defence) -/

/-- `session_key_kind_table`: the readers' `decrypt` accepts exactly the variant the container
takes, plus the algorithm / length equalities it checks -/
theorem session_key_kind_table (c : ContainerCfg) (sk : SessKey) :
    sessionKeyFits c sk = (kindSpec c.kind sk.kind &&
      (match c.kind, sk.kind with
       | .gnupg, .v3_4 => decide (c.alg = sk.alg) && decide (sk.len = c.keySize)
       | .gnupg, .v5 => decide (sk.len = c.keySize)
       | .seipd2, .v6 => decide (sk.len = c.keySize)
       | _, _ => true)) :=
  Rpgp.Policy.session_key_kind_table c sk

/-- the filter table and the container's own check are the same table: the session key an ESK
yields fits the container iff the ESK is aligned with it -/
theorem filter_agrees_with_kind_check (c : Container) (r : Ring) (k : RawKey) (e : Esk) (sk : SessKey)
    (h : pkeskYield r k e = some sk ∨ skeskYield r k e = some sk) :
    alignedSpec c e = kindSpec c sk.kind := by
  obtain ⟨pk, v⟩ := e
  rcases h with h | h
  · obtain ⟨rfl, ⟨rfl, hk⟩ | ⟨rfl, hk⟩⟩ := pkeskYield_kind r k _ sk h <;> rw [hk] <;> cases c <;> rfl
  · obtain ⟨rfl, ⟨rfl, hk⟩ | ⟨rfl, hk, _⟩ | ⟨rfl, hk⟩⟩ := skeskYield_kind r k _ sk h <;> rw [hk] <;> cases c <;> rfl

/-- even with the filter bypassed (`Message::Encrypted { esk, .. }` has public fields), the key
out of a misaligned ESK is refused by the container, under every option set -/
theorem kind_check_second_line (o : DecOpts) (c : ContainerCfg) (r : Ring) (k : RawKey) (e : Esk)
    (sk : SessKey) (h : pkeskYield r k e = some sk ∨ skeskYield r k e = some sk)
    (hm : alignedSpec c.kind e = false) : decryptEdata o c sk = false := by
  cases hd : decryptEdata o c sk
  · rfl
  · have hk := fits_implies_kind c sk ((decryptEdata_iff o c sk).1 hd).1
    rw [← filter_agrees_with_kind_check c.kind r k e sk h, hm] at hk
    cases hk

/-- conversely every key found through the parser path has the variant the container takes -/
theorem found_key_fits_kind (c : ContainerCfg) (esks : List Esk) (r : Ring) (k : RawKey) (ab : Bool)
    (sk : SessKey) (hs : r.sessionKeys = [])
    (h : findSessionKey r k (parsedEsks c.kind esks) ab = some (some sk)) :
    kindSpec c.kind sk.kind = true := by
  obtain ⟨e, he, hy⟩ := findSessionKey_from_esk r k _ ab sk hs h
  rw [← filter_agrees_with_kind_check c.kind r k e sk hy]
  exact ((esk_filter_mem ..).1 he).2

/-! ## 3. legacy and non-standard containers need the opt-in -/

/-- `optin_required`: SED without `enable_legacy`, GnuPG AEAD without `enable_gnupg_aead` never
decrypt — for every ESK list (filtered or not), ring, explicit session key and `abort_early` -/
theorem optin_required (c : ContainerCfg) (esks : List Esk) (r : Ring) (k : RawKey) (ab : Bool)
    (h : (c.kind = .sed ∧ r.opts.legacy = false) ∨ (c.kind = .gnupg ∧ r.opts.gnupgAead = false)) :
    decryptParsed c esks r k ab ≠ .ok ∧ decryptMessage c esks r k ab ≠ .ok := by
  have key : ∀ l, decryptParsed c l r k ab ≠ .ok := by
    intro l hok
    obtain ⟨sk, _, hd⟩ := (decryptParsed_ok_iff ..).1 hok
    obtain ⟨_, hsed, hgnupg⟩ := (decryptEdata_iff ..).1 hd
    rcases h with ⟨hc, ho⟩ | ⟨hc, ho⟩
    · rw [hsed hc] at ho; cases ho
    · rw [hgnupg hc] at ho; cases ho
  exact ⟨key _, key _⟩

/-- what a successful decryption implies, whatever the caller supplied -/
theorem ok_implies_optin_and_kind (c : ContainerCfg) (esks : List Esk) (r : Ring) (k : RawKey) (ab : Bool)
    (h : decryptMessage c esks r k ab = .ok) :
    (c.kind = .sed → r.opts.legacy = true) ∧ (c.kind = .gnupg → r.opts.gnupgAead = true) ∧
    ∃ sk, findSessionKey r k (parsedEsks c.kind esks) ab = some (some sk) ∧ kindSpec c.kind sk.kind = true := by
  obtain ⟨sk, hf, hd⟩ := (decryptParsed_ok_iff ..).1 h
  obtain ⟨hfits, hsed, hgnupg⟩ := (decryptEdata_iff ..).1 hd
  exact ⟨hsed, hgnupg, sk, hf, fits_implies_kind c sk hfits⟩

/-- SKESK v5 is not even tried without `enable_gnupg_aead` -/
theorem skesk_v5_needs_optin (r : Ring) (k : RawKey) (h : r.opts.gnupgAead = false) :
    skeskYield r k ⟨false, 5⟩ = none := by
  have : SkeskVersion.ofNat 5 = .v5 := rfl
  simp [skeskYield, this, h]

/-- ESK packets of unassigned versions never yield a session key -/
theorem unknown_esk_versions_yield_nothing (r : Ring) (k : RawKey) (e : Esk)
    (h : if e.isPk then e.ver ≠ 3 ∧ e.ver ≠ 6 else e.ver ≠ 4 ∧ e.ver ≠ 5 ∧ e.ver ≠ 6) :
    pkeskYield r k e = none ∧ skeskYield r k e = none := by
  constructor
  · refine Option.eq_none_iff_forall_ne_some.2 fun sk hy => ?_
    obtain ⟨hp, hv⟩ := pkeskYield_kind r k e sk hy
    rw [if_pos hp] at h
    rcases hv with ⟨hv, _⟩ | ⟨hv, _⟩
    · exact h.1 hv
    · exact h.2 hv
  · refine Option.eq_none_iff_forall_ne_some.2 fun sk hy => ?_
    obtain ⟨hp, hv⟩ := skeskYield_kind r k e sk hy
    rw [hp] at h
    rcases hv with ⟨hv, _⟩ | ⟨hv, _⟩ | ⟨hv, _⟩
    · exact h.1 hv
    · exact h.2.1 hv
    · exact h.2.2 hv

/-! ## 4. v6 keys only make and verify v6 signatures -/

/-- `check_signature_key_version_alignment` as a table over all version octets -/
theorem align_table (kv sv : Nat) : alignSigKey kv sv = decide ((kv = 6) ↔ (sv = 6)) := by
  by_cases h1 : kv = 6 <;> by_cases h2 : sv = 6 <;> simp [alignSigKey, Gen.keyV6, Gen.sigV6, h1, h2]

/-- `v6_key_only_v6_sig`, verify side: on **every** entry point (`verify`,
`verify_certification`/`_third_party`, `verify_subkey_binding`, `verify_primary_key_binding`,
`verify_key`/`_third_party`, inline `Message::verify*`) acceptance implies
`key is v6 ↔ signature is v6`, whatever the subpackets, the digest and the primitive say -/
theorem v6_key_only_v6_sig (p : VPath) (kv : Nat) (s : SigDesc) (h : verifyPath p kv s = true) :
    (kv = 6 ↔ s.ver = 6) := by
  have ha := keyGuards_align p kv s ((verifyPath_iff p kv s).1 h).2.2.1
  rwa [align_table, decide_eq_true_eq] at ha

/-- … including the one-pass form -/
theorem v6_key_only_v6_sig_inline (o : Option OpsDesc) (kv : Nat) (s : SigDesc)
    (h : verifyInline o kv s = true) : (kv = 6 ↔ s.ver = 6) := by
  exact v6_key_only_v6_sig .inline kv s (Bool.and_eq_true _ _ ▸ h).2

/-- sign side: the `ensure!` admits exactly (v4 key, v4 sig) and (v6 key, v6 sig) -/
theorem sign_table (kv sv : Nat) :
    signAllowed kv sv = decide ((kv = 4 ∧ sv = 4) ∨ (kv = 6 ∧ sv = 6)) := by
  have k4 : Gen.keyV4 = 4 := rfl
  have k6 : Gen.keyV6 = 6 := rfl
  have s4 : Gen.sigV4 = 4 := rfl
  have s6 : Gen.sigV6 = 6 := rfl
  simp [signAllowed, k4, k6, s4, s6, Bool.and_comm]

/-- whatever can be made passes the verify-side alignment (the sign side is the stricter one) -/
theorem sign_side_stricter (kv sv : Nat) (h : signAllowed kv sv = true) : alignSigKey kv sv = true := by
  rw [sign_table, decide_eq_true_eq] at h
  rw [align_table, decide_eq_true_eq]
  omega

/-- `SignatureConfig::from_key` picks a version the `ensure!` admits -/
theorem from_key_aligned (kv sv : Nat) (h : fromKeySigVersion kv = some sv) : signAllowed kv sv = true := by
  rw [sign_table, decide_eq_true_eq]
  unfold fromKeySigVersion at h
  split at h
  · rename_i h4; cases h; exact .inl ⟨h4, rfl⟩
  · split at h
    · rename_i h6; cases h; exact .inr ⟨h6, rfl⟩
    · cases h

/-- unparsed (`InnerSignature::Unknown`) signatures and versions other than 2,3,4,6 are rejected
on every entry point -/
theorem unknown_signature_version_rejected (p : VPath) (kv : Nat) (s : SigDesc)
    (h : s.known = false ∨ (s.ver ≠ 2 ∧ s.ver ≠ 3 ∧ s.ver ≠ 4 ∧ s.ver ≠ 6)) : verifyPath p kv s = false := by
  rcases h with h | h
  · simp [verifyPath, h]
  · refine verifyPath_false_of_hash p kv s (Bool.eq_false_iff.2 fun hh => ?_)
    rcases (hashSignatureData_iff _ _).1 hh with h2 | h3 | ⟨h4 | h6, _⟩
    · exact h.1 h2
    · exact h.2.1 h3
    · exact h.2.2.1 h4
    · exact h.2.2.2 h6

/-- what acceptance means on every entry point (all guards, none skipped) -/
theorem verify_guards (p : VPath) (kv : Nat) (s : SigDesc) :
    verifyPath p kv s = true ↔
      s.known = true ∧ typeOk p s.typ = true ∧ keyGuards p kv s = true ∧
      ((checksSaltLen p = true ∧ s.ver = Gen.sigV6) → s.saltLenOk = true) ∧
      hashSignatureData s.ver s.hashed = true ∧ s.prefixOk = true ∧ s.cryptoOk = true :=
  verifyPath_iff p kv s

/-! ## 5. unknown critical subpackets and the issuer-fingerprint version -/

/-- which ids are "unknown" to the code: all 128, against the registry -/
theorem is_other_table : ∀ id, id < 128 →
    (subClass id = .other ↔ (¬ id ∈ registryIds ∧ ¬ (100 ≤ id ∧ id ≤ 110))) :=
  fun id _ => subClass_other_iff id

/-- the hashed-area loop accepts iff every subpacket passes (for every list) -/
theorem hashed_area_ok_iff (sv : Nat) (l : List Sub) : hashedAreaOk sv l = l.all (subOk sv) :=
  hashedAreaOk_iff sv l

/-- `critical_unknown_rejected`: a v4/v6 signature with an unknown critical subpacket anywhere
in its hashed area — any id, any position, any other subpackets around it — is rejected on every
entry point, whatever the key, the digest and the primitive say -/
theorem critical_unknown_rejected (p : VPath) (kv : Nat) (s : SigDesc) (x : Sub)
    (hv : s.ver ≠ 2 ∧ s.ver ≠ 3) (hx : x ∈ s.hashed) (hc : x.critical = true)
    (ho : subClass x.id = .other) : verifyPath p kv s = false :=
  verifyPath_false_of_hash p kv s <|
    hashSignatureData_false_of_mem _ _ x hv hx (subOk_critical_other _ x hc ho)

/-- … and on the one-pass path -/
theorem critical_unknown_rejected_inline (o : Option OpsDesc) (kv : Nat) (s : SigDesc) (x : Sub)
    (hv : s.ver ≠ 2 ∧ s.ver ≠ 3) (hx : x ∈ s.hashed) (hc : x.critical = true)
    (ho : subClass x.id = .other) : verifyInline o kv s = false := by
  simp [verifyInline, critical_unknown_rejected .inline kv s x hv hx hc ho]

/-- the same check sits in front of every signing entry point (`hash_signature_data` is called
before the primitive): such a signature cannot be made either -/
theorem critical_unknown_not_hashable (sv : Nat) (l : List Sub) (x : Sub) (hv : sv ≠ 2 ∧ sv ≠ 3)
    (hx : x ∈ l) (hc : x.critical = true) (ho : subClass x.id = .other) :
    hashSignatureData sv l = false :=
  hashSignatureData_false_of_mem sv l x hv hx (subOk_critical_other sv x hc ho)

/-- a non-critical subpacket, or a critical one of a registered or private (100..110) type, that
is not an issuer fingerprint never causes a rejection by itself -/
theorem harmless_subpacket_passes (sv : Nat) (x : Sub)
    (h : x.critical = false ∨ subClass x.id ≠ .other) (hid : x.id ≠ 33) : subOk sv x = true :=
  (subOk_iff sv x).2 ⟨fun ⟨hc, ho⟩ => h.elim (fun h => by rw [hc] at h; cases h) (fun h => h ho), fun h => absurd h hid⟩

theorem fp_aligned_table (sv : Nat) (fv : Option Nat) :
    fpAligned sv fv = true ↔ ((sv = 6 ∧ fv = some 6) ∨ (sv = 4 ∧ fv = some 4)) := by
  have e4 : Gen.sigV4 = 4 := rfl
  have e6 : Gen.sigV6 = 6 := rfl
  have k4 : Gen.keyV4 = 4 := rfl
  have k6 : Gen.keyV6 = 6 := rfl
  cases fv <;> simp [fpAligned, e4, e6, k4, k6]

/-- `issuer_fp_version_checked`: a hashed issuer-fingerprint subpacket whose key version is not
the signature's version makes every entry point reject -/
theorem issuer_fp_version_checked (p : VPath) (kv : Nat) (s : SigDesc) (x : Sub)
    (hv : s.ver ≠ 2 ∧ s.ver ≠ 3) (hx : x ∈ s.hashed) (hid : x.id = 33)
    (hf : fpAligned s.ver x.fpVer = false) : verifyPath p kv s = false :=
  verifyPath_false_of_hash p kv s <| hashSignatureData_false_of_mem _ _ x hv hx <|
    Bool.eq_false_iff.2 fun h => by rw [((subOk_iff _ x).1 h).2 hid] at hf; cases hf

/-! ## 6. a one-pass header that disagrees with its signature invalidates it -/

theorem ops_matches_iff (o : OpsDesc) (s : SigDesc) :
    opsMatches o s = true ↔
      s.known = true ∧ o.typ = s.typ ∧ o.hashAlg = s.hashAlg ∧ o.pubAlg = s.pubAlg ∧
      ((o.ver = 3 ∧ s.ver = 4) ∨ (o.ver = 6 ∧ s.ver = 6 ∧ o.salt = s.salt)) :=
  Rpgp.Policy.ops_matches_iff o s

/-- `ops_mismatch_invalidates`: for each compared field — signature type, hash algorithm,
public-key algorithm, version pairing (v3 OPS ↔ v4 signature, v6 ↔ v6), salt — a disagreement
makes inline verification fail for every key, whatever the trailing signature is worth -/
theorem ops_mismatch_invalidates (o : OpsDesc) (kv : Nat) (s : SigDesc)
    (h : o.typ ≠ s.typ ∨ o.hashAlg ≠ s.hashAlg ∨ o.pubAlg ≠ s.pubAlg ∨
         ¬ ((o.ver = 3 ∧ s.ver = 4) ∨ (o.ver = 6 ∧ s.ver = 6)) ∨ (o.ver = 6 ∧ o.salt ≠ s.salt)) :
    verifyInline (some o) kv s = false := by
  have : opsMatches o s = false := Bool.eq_false_iff.2 fun hm => by
    obtain ⟨_, h1, h2, h3, h4⟩ := (ops_matches_iff o s).1 hm
    rcases h with h | h | h | h | ⟨h5, h6⟩
    · exact h h1
    · exact h h2
    · exact h h3
    · exact h (h4.imp id fun h4 => ⟨h4.1, h4.2.1⟩)
    · rcases h4 with h4 | h4
      · omega
      · exact h6 h4.2.2
  simp [verifyInline, this]

/-- a one-pass header can only restrict: what verifies behind an OPS verifies as a prefixed
signature -/
theorem ops_only_restricts (o : OpsDesc) (kv : Nat) (s : SigDesc)
    (h : verifyInline (some o) kv s = true) : verifyInline none kv s = true := by
  simp [verifyInline] at h ⊢
  exact h.2

/-- as coded, the issuer field of the OPS (key id / fingerprint) is *not* compared with the
signature; it is a lookup hint only (the signature's own issuer subpackets are matched against the
key by `match_identity`) -/
theorem ops_issuer_not_compared (o : OpsDesc) (i : Nat) (s : SigDesc) :
    opsMatches { o with issuer := i } s = opsMatches o s := rfl

/-! ## 7. equivalent paths judge the same -/

/-- `paths_agree_inline_detached`: a prefixed-signature message is judged exactly as the detached
signature over the same data — same guards (alignment, hash strength, issuer match, salt length,
hashed-area checks), for every key version and every signature -/
theorem paths_agree_inline_detached (kv : Nat) (s : SigDesc) :
    verifyInline none kv s = verifyPath .data kv s := by
  simp [verifyInline, verifyPath, keyGuards, Gen.inlineChecksPreconditions, typeOk, checksIdentity, checksSaltLen]

/-- … and a one-pass message whose header matches likewise -/
theorem paths_agree_onepass_detached (o : OpsDesc) (kv : Nat) (s : SigDesc) (h : opsMatches o s = true) :
    verifyInline (some o) kv s = verifyPath .data kv s := by
  rw [← paths_agree_inline_detached]
  simp [verifyInline, h]

/-- certificate parser: a v6 primary carries only v6 subkeys -/
theorem v6_primary_only_v6_subkeys (c : CertDesc) (h : certParseOk c = true) (h6 : c.primaryVer = 6) :
    ∀ s ∈ c.subkeys, s.ver = 6 := by
  have k6 : Gen.keyV6 = 6 := rfl
  unfold certParseOk at h
  simp [h6, k6] at h
  exact h.2

/-- certificate parser: v2/v3 primaries carry no subkeys -/
theorem no_subkeys_on_v2_v3 (c : CertDesc) (h : certParseOk c = true)
    (hv : c.primaryVer = 2 ∨ c.primaryVer = 3) : c.subkeys = [] := by
  have hb : belowV4 c.primaryVer = true := by rcases hv with hv | hv <;> rw [hv] <;> rfl
  simp only [certParseOk, hb, Bool.not_true, Bool.or_false, Bool.and_eq_true, List.isEmpty_iff] at h
  exact h.1

/-- the public path demands, for every binding signature of every subkey, a valid binding and —
if the binding grants signing — a valid embedded back signature -/
theorem public_path_requires_backsig (c : CertDesc) (h : verifyBindings false c = true) :
    ∀ s ∈ c.subkeys, ∀ g ∈ s.sigs, g.bindingOk = true ∧ (g.signFlag = true → g.back = .good) :=
  fun s hs g hg => (publicSubSigOk_iff g).1 (verifyBindings_sigs false c h s hs g hg)

/-
The full statement, `paths_agree_public_secret` in §8, holds iff
`SignedSecretSubKey::verify_bindings` checks the back signature (`Gen.secretSubkeyChecksBacksig = 1`);
on a tree without the check (`= 0`, defect D15a) it is false.  The three theorems below do not
depend on the value of the constant: the guarded form, the full form under the hypothesis that the
check is present, and the refutation under the hypothesis that it is absent.
-/

/-- guarded form: if no verifying, signing-capable binding lacks a good back signature, the
secret and the public representation of a certificate are judged the same -/
theorem paths_agree_public_secret_partial (c : CertDesc) (h : backsigsPresent c = true) :
    certAccepted true c = certAccepted false c := by
  unfold certAccepted verifyBindings
  congr 2
  apply all_congr_mem
  intro s hs
  unfold subkeyOk
  unfold backsigsPresent at h
  have hs' := List.all_eq_true.1 h s hs
  have hsig : s.sigs.all secretSubSigOk = s.sigs.all publicSubSigOk :=
    all_congr_mem _ _ _ (fun g hg => subSig_agree g (List.all_eq_true.1 hs' g hg))
  cases s.secret
  · simp
  · simp [hsig]

/-- full form, for every certificate, once the secret path performs the check -/
theorem paths_agree_public_secret_of_fix (hfix : Gen.secretSubkeyChecksBacksig = 1) (c : CertDesc) :
    certAccepted true c = certAccepted false c := by
  have : secretSubSigOk = publicSubSigOk := by
    funext g; unfold secretSubSigOk publicSubSigOk; rw [hfix]; rfl
  unfold certAccepted verifyBindings subkeyOk
  simp [this]

/-- refutation on a concrete certificate while the check is absent (D15a): a v4 certificate with
one signing-capable secret subkey whose binding has no embedded 0x19 signature is rejected as a
public key and accepted as a secret key -/
theorem secret_path_skips_backsig_witness (h0 : Gen.secretSubkeyChecksBacksig = 0) :
    certAccepted false d15aWitness = false ∧ certAccepted true d15aWitness = true := by
  constructor
  · decide +kernel
  · simp [certAccepted, certParseOk, verifyBindings, subkeyOk, secretSubSigOk, d15aWitness, h0, belowV4]
    decide +kernel

/-- in either state the secret path never accepts more subkey *bindings* than it verifies: it
only differs on the back signature -/
theorem secret_path_at_least_checks_binding (c : CertDesc) (h : certAccepted true c = true) :
    ∀ s ∈ c.subkeys, ∀ g ∈ s.sigs, g.bindingOk = true := by
  intro s hs g hg
  have := verifyBindings_sigs true c (Bool.and_eq_true _ _ ▸ h).2 s hs g hg
  split at this
  · exact (Bool.and_eq_true _ _ ▸ this).1
  · exact (Bool.and_eq_true _ _ ▸ this).1

/-! ## 8. with the back-signature check on the secret path (D15a)

The obligations of this section hold only on a tree in which `SignedSecretSubKey::verify_bindings`
verifies the embedded back signature (the constant is re-extracted from `signed_key/secret.rs` on
every run).  On a tree without the check the first one fails at `lake build` time and the oracle
`public_and_secret_form_judged_alike` produces the failing certificate. -/

theorem secret_path_checks_backsig : Gen.secretSubkeyChecksBacksig = 1 := by decide

/-- `paths_agree_public_secret`: for **every** certificate — any primary version, any number of
subkeys, public or secret subkey packets, any list of binding signatures each with any
combination of (binding verifies, signing flag, back signature absent/good/bad) — the secret and
the public representation are judged the same by `from_bytes` + `verify_bindings` -/
theorem paths_agree_public_secret (c : CertDesc) : certAccepted true c = certAccepted false c :=
  paths_agree_public_secret_of_fix secret_path_checks_backsig c

/-- … so the secret path, too, demands the back signature of every signing-capable binding -/
theorem secret_path_requires_backsig (c : CertDesc) (h : certAccepted true c = true) :
    ∀ s ∈ c.subkeys, ∀ g ∈ s.sigs, g.bindingOk = true ∧ (g.signFlag = true → g.back = .good) := by
  rw [paths_agree_public_secret] at h
  exact public_path_requires_backsig c (Bool.and_eq_true _ _ ▸ h).2

/-! ## concrete evaluations (non-vacuity of the hypotheses, and the tables at a glance) -/

example : parsedEsks .seipd1 [⟨true, 3⟩, ⟨true, 6⟩, ⟨false, 4⟩, ⟨false, 5⟩, ⟨false, 6⟩, ⟨true, 9⟩] =
    [⟨true, 3⟩, ⟨false, 4⟩] := by decide +kernel
example : parsedEsks .seipd2 [⟨true, 3⟩, ⟨true, 6⟩, ⟨false, 4⟩, ⟨false, 5⟩, ⟨false, 6⟩] =
    [⟨true, 6⟩, ⟨false, 6⟩] := by decide +kernel
example : parsedEsks .gnupg [⟨true, 3⟩, ⟨true, 6⟩, ⟨false, 4⟩, ⟨false, 5⟩, ⟨false, 6⟩] =
    [⟨true, 3⟩, ⟨false, 4⟩, ⟨false, 5⟩] := by decide +kernel
-- a downgrade attempt: SEIPDv1 container behind a v6 SKESK the caller can open
example : decryptMessage ⟨.seipd1, 0, 0⟩ [⟨false, 6⟩] ⟨true, true, [], ⟨true, true⟩⟩ ⟨7, 1, 16⟩ true = .missing := by
  decide +kernel
example : decryptMessage ⟨.seipd2, 7, 16⟩ [⟨false, 6⟩] ⟨false, true, [], ⟨false, false⟩⟩ ⟨7, 1, 16⟩ true = .ok := by
  decide +kernel
example : decryptMessage ⟨.gnupg, 7, 16⟩ [⟨false, 5⟩] ⟨false, true, [], ⟨false, false⟩⟩ ⟨7, 1, 16⟩ true = .missing := by
  decide +kernel
example : decryptMessage ⟨.gnupg, 7, 16⟩ [⟨false, 5⟩] ⟨false, true, [], ⟨false, true⟩⟩ ⟨7, 1, 16⟩ true = .ok := by
  decide +kernel
example : verifyPath .data 6 { ver := 4, typ := 0 } = false := by decide +kernel
example : verifyPath .data 4 { ver := 4, typ := 0 } = true := by decide +kernel
example : verifyPath .data 4 { ver := 4, typ := 0, hashed := [{ id := 2, critical := true }, { id := 95, critical := true }] } = false := by
  decide +kernel
example : verifyPath .data 4 { ver := 4, typ := 0, unhashed := [{ id := 95, critical := true }] } = true := by decide +kernel
example : verifyPath .data 4 { ver := 4, typ := 0, hashed := [{ id := 101, critical := true }] } = true := by decide +kernel
example : verifyInline (some ⟨3, 0, 8, 1, 0, 0⟩) 4 { ver := 4, typ := 0 } = false := by decide  -- pub alg 1 ≠ 22
example : verifyInline (some ⟨3, 0, 8, 22, 0, 0⟩) 4 { ver := 4, typ := 0 } = true := by decide +kernel
example : backsigsPresent d15aWitness = false := by decide +kernel

/-! ## "a key accepted through one import path is judged the same through the equivalent path": the
public part of a key packet is read by two parsers (`public_key_parser.rs`, `secret_key_parser.rs`);
with the exact octet count of the `fix:` commit for D15d they are one function of the octets (model:
`RpgpModel/Wire.lean`) -/

theorem d15d_repaired : Wire.pubLenExact = true := by decide

/-- for every octet string, the public-key parser and the secret-key parser read the same public key
(or both refuse) and leave the same octets unread -/
theorem public_and_secret_key_parsers_agree (trust : Bool) (b : Bytes) :
    Wire.pubKeyParse trust false b = Wire.pubKeyParse trust true b := by
  unfold Wire.pubKeyParse
  rw [d15d_repaired]
  -- with the exact count `pubKeyParseWith` never consults `secret`: once `if true` is reduced
  -- the two sides are one term
  rfl

/-- a v6 X25519 key packet body (algorithm 25, 32 octets of material) announcing `cnt` octets -/
def d15dKey (cnt : UInt8) (extra : Bytes) : Bytes :=
  [6, 0, 0, 0, 1, 25, 0, 0, 0, cnt] ++ List.replicate 32 7 ++ extra

/-- witness for D15d: without the exact count (`pubKeyParseWith false`) the over-stated count 33 is
accepted by the public parser and refused by the secret parser (whose window then reaches into the
secret part), and the count 0 of a key of unknown algorithm is accepted by the secret parser only;
with it (`pubKeyParseWith true`) both parsers refuse both and accept the exact count -/
theorem d15d_witness :
    (Wire.pubKeyParseWith false false false (d15dKey 33 [])).isSome = true ∧
    (Wire.pubKeyParseWith false false true (d15dKey 33 [0])).isSome = false ∧
    (Wire.pubKeyParseWith true false false (d15dKey 33 [])).isSome = false ∧
    (Wire.pubKeyParseWith true false true (d15dKey 33 [0])).isSome = false ∧
    (Wire.pubKeyParseWith false false true [6, 0, 0, 0, 1, 99, 0, 0, 0, 0, 0]).isSome = true ∧
    (Wire.pubKeyParseWith false false false [6, 0, 0, 0, 1, 99, 0, 0, 0, 0, 0]).isSome = false ∧
    (Wire.pubKeyParseWith true false true [6, 0, 0, 0, 1, 99, 0, 0, 0, 0, 0]).isSome = false ∧
    (Wire.pubKeyParseWith true false false (d15dKey 32 [])).isSome = true ∧
    (Wire.pubKeyParseWith true false true (d15dKey 32 [0])).isSome = true := by decide +kernel

end Rpgp.C15
