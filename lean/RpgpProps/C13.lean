import RpgpProofs.Fingerprint
/-!
# C13 — fingerprints and key ids are the RFC-defined hashes and are stable

Model: `RpgpModel/Fingerprint.lean` (MPI codec, key-material dispatch, public/secret key packet
parser, `Serialize for PubKeyInner`, `imprint`, `fingerprint`, `legacy_key_id`, issuer subpackets,
`match_identity`, PKESK recipient field).  The digests are parameters (`structure Hashes`); nothing
here depends on what MD5/SHA-1/SHA-256 compute — only on *what is hashed*.  Where a statement
needs the digest size (key id = 8 named octets of a 20/32-octet fingerprint) it is an explicit
hypothesis on the lengths.

Literals of the source (0x99/0x9B, the `as u16` cast, 8-octet windows, fingerprint sizes, MPI
limits, subpacket type octets, PKESK version octets) are re-extracted on every run into `Gen`
(`tools/constants/fingerprint.py`), one definition per use site.
-/
namespace Rpgp.C13
open Rpgp

/-! ## the constants are the RFC's and all use sites agree -/

theorem framing_constants_rfc :
    Gen.fpV4Prefix = 0x99 ∧ Gen.fpV6Prefix = 0x9B ∧ Gen.fpV4VersionOctet = 4 ∧ Gen.fpV6VersionOctet = 6 ∧
    Gen.fpV6FixedLen = 1 + 4 + 1 + 4 ∧ Gen.fpV4LenBits = 16 := by decide

/-- the key framing inside signature pre-images (`serialize_for_hashing`) uses the same prefix
octets as the fingerprint (`imprint`) -/
theorem sites_agree_framing :
    Gen.sigKeyPrefixV4 = Gen.fpV4Prefix ∧ Gen.sigKeyPrefixV6 = Gen.fpV6Prefix := by decide

theorem fingerprint_sizes_rfc :
    Gen.fpLenV3 = 16 ∧ Gen.fpLenV4 = 20 ∧ Gen.fpLenV6 = 32 ∧
    Gen.kvFpLenV3 = Gen.fpLenV3 ∧ Gen.kvFpLenV4 = Gen.fpLenV4 ∧ Gen.kvFpLenV6 = Gen.fpLenV6 ∧
    Gen.fpArrV3 = Gen.fpLenV3 ∧ Gen.fpArrV4 = Gen.fpLenV4 ∧ Gen.fpArrV6 = Gen.fpLenV6 := by decide

theorem keyid_windows_are_64_bits :
    Gen.keyIdV3Width = 8 ∧ Gen.keyIdV3Sub = 8 ∧ Gen.keyIdV3Pad = 8 ∧ Gen.keyIdV4Width = 8 ∧
    Gen.keyIdV6Take = 8 ∧ Gen.pkeskKeyIdLen = 8 ∧ Gen.issuerKeyIdLen = 8 := by decide

theorem mpi_constants :
    Gen.maxExternMpiBits = 16384 ∧ Gen.mpiRoundAdd = 7 ∧ Gen.mpiRoundShift = 3 ∧ Gen.mpiBitsPerByte = 8 := by
  decide

theorem identity_field_octets_rfc :
    Gen.spIssuerKeyIdWr = 16 ∧ Gen.spIssuerKeyIdRd = Gen.spIssuerKeyIdWr ∧
    Gen.spIssuerFpWr = 33 ∧ Gen.spIssuerFpRd = Gen.spIssuerFpWr ∧ Gen.pkeskV3 = 3 ∧ Gen.pkeskV6 = 6 := by
  decide

/-- the model's material dispatch (`shape`) is keyed on the algorithm octets and native key sizes
the source has today -/
theorem material_dispatch_matches_source :
    shape Gen.algRsa = [.mpi, .mpi] ∧ shape Gen.algRsaEncrypt = [.mpi, .mpi] ∧ shape Gen.algRsaSign = [.mpi, .mpi] ∧
    shape Gen.algDsa = [.mpi, .mpi, .mpi, .mpi] ∧
    shape Gen.algElgamal = [.mpi, .mpi, .mpi] ∧ shape Gen.algElgamalEncrypt = [.mpi, .mpi, .mpi] ∧
    shape Gen.algEcdsa = [.lp, .mpi] ∧ shape Gen.algEddsaLegacy = [.lp, .mpi] ∧ shape Gen.algEcdh = [.lp, .mpi, .kdf] ∧
    shape Gen.algX25519 = [.fixed Gen.x25519PubLen] ∧ shape Gen.algEd25519 = [.fixed Gen.ed25519PubLen] ∧
    shape Gen.algX448 = [.fixed Gen.x448PubLen] ∧ shape Gen.algEd448 = [.fixed Gen.ed448PubLen] := by decide

theorem version_and_kdf_octets :
    Gen.keyVersionV2 = 2 ∧ Gen.keyVersionV3 = 3 ∧ Gen.keyVersionV4 = 4 ∧ Gen.keyVersionV6 = 6 ∧
    Gen.ecdhKdfParamLen = 3 ∧ Gen.ecdhKdfNative = 1 ∧ Gen.ecdhKdfNativeRd = Gen.ecdhKdfNative := by decide

/-! ## MPIs: normalisation, bit length, round trip, leading zeros -/

/-- MPI normalisation is idempotent -/
theorem mpi_norm_idem (b : Bytes) : stripZeros (stripZeros b) = stripZeros b := stripZeros_idem b

/-- … and does not change the value -/
theorem mpi_norm_value (b : Bytes) : beNat (stripZeros b) = beNat b := beNat_stripZeros b

/-- the bit count `Mpi::to_writer` writes is the bit length of the value (RFC 9580 §3.2) -/
theorem mpi_bit_count_is_bit_length (x : Byte) (r : Bytes) (hx : x ≠ 0) :
    2 ^ (bitSize (x :: r) - 1) ≤ beNat (x :: r) ∧ beNat (x :: r) < 2 ^ bitSize (x :: r) :=
  KeyGen.bitSize_spec (x :: r) hx (List.cons_ne_nil x r)

/-- write → read, every normalised body up to the 16384-bit limit, any following octets -/
theorem mpi_roundtrip (b rest : Bytes) (hn : stripZeros b = b) (hl : b.length ≤ 2048) :
    mpiParse (mpiSer b ++ rest) = some (b, rest) := mpiParse_mpiSer b rest hn hl

/-- whatever the reader accepts, what it stores is normalised, within the limit, has the value of
the octets on the wire, and the unread input is what followed them -/
theorem mpi_parse_normalises (inp b r : Bytes) (h : mpiParse inp = some (b, r)) :
    stripZeros b = b ∧ b.length ≤ 2048 ∧
    ∃ raw, inp = inp.take 2 ++ raw ++ r ∧ b = stripZeros raw ∧ beNat b = beNat raw := by
  rw [mpiParse_eq] at h
  obtain ⟨hn, hl, _⟩ := KeyGen.mpiRead_wf h
  obtain ⟨bits, raw, _, _, rfl, hb⟩ := KeyGen.mpiRead_eq_some h
  rw [← stripZeros_eq] at hb
  refine ⟨(normalized_iff b).mp hn, hl, raw, ?_, hb, by rw [hb, beNat_stripZeros]⟩
  rw [List.append_assoc, List.take_left' (be16_length bits), List.append_assoc]

/-- an encoding with `z` leading zero octets (and any bit count that rounds to the padded
octet count) is read as the very same stored body as the canonical encoding -/
theorem mpi_leading_zeros_same (b rest : Bytes) (z bits : Nat) (hn : stripZeros b = b)
    (hbits : (bits + 7) / 8 = z + b.length) (hmax : bits ≤ 16384) (hl : b.length ≤ 2048) :
    mpiParse (be16 bits ++ List.replicate z 0 ++ b ++ rest) = mpiParse (mpiSer b ++ rest) := by
  rw [mpiParse_leading_zeros b rest z bits hn hbits hmax, mpiParse_mpiSer b rest hn hl]

/-! ## key packets: parse ∘ serialize -/

/-- serialize → parse is the identity on every well-formed key (either parser), with any
following octets (for an unknown algorithm in v2–v4 the material *is* the rest of the packet) -/
theorem parse_ser (strict : Bool) (k : PubKey) (body rest : Bytes) (hw : WF strict k)
    (hs : serBody k = some body) (hr : shape k.alg = [.rest] → k.version ≠ 6 → rest = []) :
    parseBody strict (body ++ rest) = some (k, rest) := parseBody_serBody strict k body rest hw hs hr

/-- every key the parser returns is well formed: MPIs normalised and within the limit, fields
conforming to the algorithm's layout, version/algorithm admitted, sizes in range -/
theorem parse_wellformed (strict : Bool) (w : Bytes) (k : PubKey) (rest : Bytes)
    (h : parseBody strict w = some (k, rest)) : WF strict k := parseBody_wf strict w k rest h

/-- a well-formed key always serializes -/
theorem wellformed_serializes (strict : Bool) (k : PubKey) (hw : WF strict k) : ∃ body, serBody k = some body := by
  obtain ⟨hver, _, _, _, _, _, _, hlen6⟩ := hw
  unfold serBody
  rcases hver with h | h | h | h
  · simp [h]
  · simp [h]
  · simp [h]
  · have := (hlen6 h).1
    simp [h, this]

/-- **stability under parse ∘ serialize.**  Whatever octets a key packet was read from
(non-minimal MPIs, over-long v6 windows, trailing octets), serializing the parsed key and parsing
it again gives the same key — hence the same fingerprint and key id, for every hash. -/
theorem fp_reparse (strict : Bool) (w : Bytes) (k : PubKey) (rest : Bytes)
    (h : parseBody strict w = some (k, rest)) :
    ∃ body, serBody k = some body ∧ parseBody strict body = some (k, []) ∧
      ∀ H : Hashes, (parseBody strict body).map (fun p => (fingerprint H p.1, legacyKeyId H p.1)) =
        some (fingerprint H k, legacyKeyId H k) := by
  have hw := parseBody_wf strict w k rest h
  obtain ⟨body, hs⟩ := wellformed_serializes strict k hw
  have hp := parseBody_serBody strict k body [] hw hs (fun _ _ => rfl)
  rw [List.append_nil] at hp
  exact ⟨body, hs, hp, fun H => by rw [hp]; rfl⟩

/-- … and the re-serialization is a fixed point: serialize ∘ parse ∘ serialize = serialize -/
theorem ser_parse_ser (strict : Bool) (w : Bytes) (k : PubKey) (rest : Bytes)
    (h : parseBody strict w = some (k, rest)) (body : Bytes) (hs : serBody k = some body) :
    (parseBody strict body).bind (fun p => serBody p.1) = some body := by
  have hw := parseBody_wf strict w k rest h
  have hp := parseBody_serBody strict k body [] hw hs (fun _ _ => rfl)
  rw [List.append_nil] at hp
  rw [hp]; exact hs

/-- **secret key = its public half.**  The secret key reports the identity of its public part
(both hash the same public body), and that public part, written out as a public-key packet and
read back by the public-key parser, is the same key. -/
theorem fp_secret_eq_public (w : Bytes) (sk : SecKey) (h : parseSecBody w = some sk) :
    (∀ H : Hashes, sk.fingerprint H = fingerprint H sk.publicPart ∧
      sk.legacyKeyId H = legacyKeyId H sk.publicPart) ∧
    ∀ pb, serBody sk.publicPart = some pb →
      (sk.publicPart.version = 6 → 0 < (serMaterial sk.publicPart.mat).length) →
      parsePubBody pb = some (sk.publicPart, []) := by
  refine ⟨fun H => ⟨rfl, rfl⟩, fun pb hs hpos => ?_⟩
  unfold parseSecBody at h
  split at h
  next k rest hc =>
    cases h
    have hp := parseBodyCur_some true w (k, rest) hc
    have hw := parseBody_wf true w k rest hp
    have := parseBody_serBody true k pb [] hw hs (fun _ _ => rfl)
    rw [List.append_nil] at this
    have hx := v6CountExact_serBody k pb [] hs hpos
    rw [List.append_nil] at hx
    unfold parsePubBody
    rw [parseBodyCur_eq false pb hx]
    exact this
  · cases h

/-- after repair D15d the public-key parser and the secret-key parser read the public part of a key
packet alike, whatever the octets (before, an over-stated v6 octet count was accepted by the public
parser only, a zero count by the secret parser only) -/
theorem key_parsers_agree (w : Bytes) : parseBodyCur false w = parseBodyCur true w :=
  parseBodyCur_strict_irrelevant w

/-- **leading-zero encodings, whole keys (v2–v4 layout shown for v4).**  A key packet whose MPIs
are written with any numbers of leading zero octets (and any declared bit counts that round to the
padded sizes) is read as *the same key* as the canonical packet — so its fingerprint and key id
are those of the canonical encoding, whatever the hash.  (`PadsOK`, `serMaterialPad`:
`RpgpProofs/Fingerprint.lean`.) -/
theorem leading_zero_encoding_same_key_v4 (strict : Bool) (k : PubKey) (hw : WF strict k) (hv : k.version = 4)
    (hnr : Kind.rest ∉ shape k.alg) (ps : List (Nat × Nat)) (hp : PadsOK ps k.mat) (rest : Bytes) :
    parseBody strict (4 :: be32 k.created ++ [k.alg.toUInt8] ++ serMaterialPad ps k.mat ++ rest) = some (k, rest) :=
  parseBody_padded_v4 strict k hw hv hnr ps hp rest

/-- … and for v6, where the announced material length grows with the padding -/
theorem leading_zero_encoding_same_key_v6 (strict : Bool) (k : PubKey) (hw : WF strict k) (hv : k.version = 6)
    (hnr : Kind.rest ∉ shape k.alg) (ps : List (Nat × Nat)) (hp : PadsOK ps k.mat) (rest : Bytes)
    (hl : (serMaterialPad ps k.mat).length < 4294967296)
    (hpos : strict = false → 0 < (serMaterialPad ps k.mat).length) :
    parseBody strict (6 :: be32 k.created ++ [k.alg.toUInt8] ++ be32 (serMaterialPad ps k.mat).length ++
      serMaterialPad ps k.mat ++ rest) = some (k, rest) :=
  parseBody_padded_v6 strict k hw hv hnr ps hp rest hl hpos

/-- the padded writer with no padding and exact bit counts is the canonical writer -/
theorem padded_writer_generalises_canonical (fs : Material) :
    serMaterialPad (fs.map fun f => match f with | .mpi b => (0, bitSize b) | _ => (0, 0)) fs = serMaterial fs :=
  serMaterialPad_canonical fs

/-! ## the pre-image is the RFC's framing of the serialized body -/

/-- v4: `imprint` rebuilds the packet by hand; it is `0x99 ‖ len16 ‖ body` of what `Serialize`
writes (RFC 9580 §5.5.4.2) -/
theorem imprint_hashes_serialized_body_v4 (k : PubKey) (body : Bytes) (hv : k.version = 4)
    (hs : serBody k = some body) : preimage k = some (0x99 :: be16 body.length ++ body) := by
  simp only [serBody, hv, show ¬ ((4 : Nat) = 2 ∨ (4 : Nat) = 3) by decide, if_false, if_true,
    Option.some.injEq] at hs
  subst hs
  simp [preimage, hv, Gen.fpV4Prefix, Gen.fpV4VersionOctet, Gen.fpV4LenBits, be16]

/-- v6: `0x9B ‖ len32 ‖ body` (§5.5.4.3) -/
theorem imprint_hashes_serialized_body_v6 (k : PubKey) (body : Bytes) (hv : k.version = 6)
    (hs : serBody k = some body) : preimage k = some (0x9B :: be32 body.length ++ body) := by
  rw [serBody, if_neg (by omega), if_neg (by omega), if_pos hv] at hs
  split at hs
  · cases hs
    rw [preimage, if_neg (by omega), if_neg (by omega), if_pos hv, hv]
    -- both length fields are `10 + (serMaterial k.mat).length`; the octets are then the same list
    simp only [List.length_cons, List.length_append, be32_length, List.length_nil]
    rfl
  · cases hs

/-- v2/v3: MD5 over the MPI *bodies* of n and e, no length prefixes (§5.5.4.1) -/
theorem imprint_v3_bodies_only (k : PubKey) (n e : Bytes) (hv : k.version = 2 ∨ k.version = 3)
    (hm : k.mat = [.mpi n, .mpi e]) : preimage k = some (n ++ e) := by
  simp [preimage, hv, hm]

/-- the reported fingerprint is the RFC 9580 §5.5.4 fingerprint of the serialized key, for
every version the library computes fingerprints for, whatever the hash functions are -/
theorem fingerprint_is_rfc (H : Hashes) (k : PubKey) (fp : Fp) (h : fingerprint H k = some fp)
    (hser : (serBody k).isSome) (hv3 : k.version = 2 ∨ k.version = 3 → ∃ n e, k.mat = [.mpi n, .mpi e]) :
    specFingerprint H k = some fp.bytes ∧ fp.ver = k.version := by
  obtain ⟨body, hs⟩ := Option.isSome_iff_exists.mp hser
  obtain ⟨pre, hp, ⟨h23, rfl⟩ | ⟨h4, rfl⟩ | ⟨h6, rfl⟩⟩ := fingerprint_eq_some h
  · obtain ⟨n, e, hm⟩ := hv3 h23
    rw [imprint_v3_bodies_only k n e h23 hm] at hp
    cases hp
    simp [specFingerprint, hs, h23.symm, hm]
  · rw [imprint_hashes_serialized_body_v4 k body h4 hs] at hp
    cases hp
    simp [specFingerprint, hs, h4]
  · rw [imprint_hashes_serialized_body_v6 k body h6 hs] at hp
    cases hp
    simp [specFingerprint, hs, h6]

/-- the key framing used inside signature pre-images is, octet for octet, the fingerprint
pre-image (so a certification and the fingerprint commit to the same octets) -/
theorem sig_key_framing_eq_fp_preimage (k : PubKey) (f : Bytes) (hv : k.version = 4 ∨ k.version = 6)
    (h : keyFraming k = some f) : preimage k = some f := by
  unfold keyFraming at h
  split at h
  · cases h
  next body hs =>
    rcases hv with h4 | h6
    · rw [if_pos (.inr (.inr h4))] at h
      split at h <;> cases h
      exact imprint_hashes_serialized_body_v4 k body h4 hs
    · rw [if_neg (by omega), if_pos h6] at h
      split at h <;> cases h
      exact imprint_hashes_serialized_body_v6 k body h6 hs

/-! ## the v4 length field is the body length modulo 2¹⁶ — exactly what the code does -/

/-- `(packet.len() as u16)`: the two length octets are `len mod 65536`, and the *whole* body
follows regardless (RFC 9580 only defines bodies below 65536 octets; the code wraps silently
instead of failing — `serialize_for_hashing` for signatures fails instead, see `keyFraming`) -/
theorem v4_length_field_is_mod_65536 (k : PubKey) (body : Bytes) (hv : k.version = 4)
    (hs : serBody k = some body) :
    ∃ pre l0 l1, preimage k = some pre ∧ pre = 0x99 :: l0 :: l1 :: body ∧
      beNat [l0, l1] = body.length % 65536 := by
  refine ⟨_, (body.length / 256 % 256).toUInt8, (body.length % 256).toUInt8,
    imprint_hashes_serialized_body_v4 k body hv hs, by rw [be16_eq]; rfl, ?_⟩
  rw [← be16_eq]
  exact beNat_beBytes 2 body.length

/-- two lengths that differ by 65536 get the same length field -/
theorem v4_length_field_wraps (n : Nat) : be16 (n + 65536) = be16 n := by
  refine beNat_inj (by rw [be16_length, be16_length]) ?_
  rw [be16, be16, beNat_beBytes, beNat_beBytes]
  exact Nat.add_mod_right n 65536

/-! ## the framing cannot be confused: injectivity of the pre-image -/

/-- v4: equal pre-images ⇒ equal serialized bodies — for *every* body length, also beyond 65535
where the length field wraps (the prefix has a fixed size, the body follows in full) -/
theorem preimage_injective_body_v4 (k1 k2 : PubKey) (b1 b2 : Bytes) (h1 : k1.version = 4) (h2 : k2.version = 4)
    (s1 : serBody k1 = some b1) (s2 : serBody k2 = some b2) (h : preimage k1 = preimage k2) : b1 = b2 := by
  rw [imprint_hashes_serialized_body_v4 k1 b1 h1 s1, imprint_hashes_serialized_body_v4 k2 b2 h2 s2] at h
  simp only [be16_eq, Option.some.injEq, List.cons.injEq, List.cons_append, List.nil_append] at h
  exact h.2.2.2

theorem preimage_injective_body_v6 (k1 k2 : PubKey) (b1 b2 : Bytes) (h1 : k1.version = 6) (h2 : k2.version = 6)
    (s1 : serBody k1 = some b1) (s2 : serBody k2 = some b2) (h : preimage k1 = preimage k2) : b1 = b2 := by
  rw [imprint_hashes_serialized_body_v6 k1 b1 h1 s1, imprint_hashes_serialized_body_v6 k2 b2 h2 s2] at h
  simp only [be32_eq, Option.some.injEq, List.cons.injEq, List.cons_append, List.nil_append] at h
  exact h.2.2.2.2.2

/-- a v4 pre-image is never a v6 pre-image -/
theorem preimage_versions_separated (k1 k2 : PubKey) (h1 : k1.version = 4) (h2 : k2.version = 6)
    (s1 : (serBody k1).isSome) (s2 : (serBody k2).isSome) : preimage k1 ≠ preimage k2 := by
  obtain ⟨b1, s1⟩ := Option.isSome_iff_exists.mp s1
  obtain ⟨b2, s2⟩ := Option.isSome_iff_exists.mp s2
  rw [imprint_hashes_serialized_body_v4 k1 b1 h1 s1, imprint_hashes_serialized_body_v6 k2 b2 h2 s2]
  simp

/-- **pre-image injectivity in the key.**  Two well-formed v4/v6 keys with the same pre-image are
the same key (version, creation time, algorithm and every field of the material): the only way
to get equal fingerprints from different keys is a collision of the hash itself. -/
theorem preimage_injective_key (strict : Bool) (k1 k2 : PubKey) (w1 : WF strict k1) (w2 : WF strict k2)
    (v1 : k1.version = 4 ∨ k1.version = 6) (v2 : k2.version = 4 ∨ k2.version = 6)
    (h : preimage k1 = preimage k2) : k1 = k2 := by
  obtain ⟨b1, s1⟩ := wellformed_serializes strict k1 w1
  obtain ⟨b2, s2⟩ := wellformed_serializes strict k2 w2
  have hb : b1 = b2 := by
    rcases v1 with a | a <;> rcases v2 with b | b
    · exact preimage_injective_body_v4 k1 k2 b1 b2 a b s1 s2 h
    · exact absurd h (preimage_versions_separated k1 k2 a b (by simp [s1]) (by simp [s2]))
    · exact absurd h.symm (preimage_versions_separated k2 k1 b a (by simp [s2]) (by simp [s1]))
    · exact preimage_injective_body_v6 k1 k2 b1 b2 a b s1 s2 h
  subst hb
  have p1 := parseBody_serBody strict k1 b1 [] w1 s1 (fun _ _ => rfl)
  have p2 := parseBody_serBody strict k2 b1 [] w2 s2 (fun _ _ => rfl)
  rw [p1] at p2
  simp only [Option.some.injEq, Prod.mk.injEq, and_true] at p2
  exact p2

/-- hence: under collision freedom of the digest on the pre-images, equal fingerprints ⇒ equal keys -/
theorem equal_fingerprints_equal_keys (H : Hashes) (strict : Bool) (k1 k2 : PubKey)
    (w1 : WF strict k1) (w2 : WF strict k2) (v1 : k1.version = 4 ∨ k1.version = 6) (v2 : k2.version = 4 ∨ k2.version = 6)
    (hcf1 : ∀ x y, H.sha1 x = H.sha1 y → x = y) (hcf2 : ∀ x y, H.sha256 x = H.sha256 y → x = y)
    (h : fingerprint H k1 = fingerprint H k2) : k1 = k2 := by
  obtain ⟨b1, s1⟩ := wellformed_serializes strict k1 w1
  obtain ⟨b2, s2⟩ := wellformed_serializes strict k2 w2
  apply preimage_injective_key strict k1 k2 w1 w2 v1 v2
  rcases v1 with a | a <;> rcases v2 with b | b
  · have e1 := imprint_hashes_serialized_body_v4 k1 b1 a s1
    have e2 := imprint_hashes_serialized_body_v4 k2 b2 b s2
    simp only [fingerprint, e1, e2, a, b, show ¬ ((4 : Nat) = 2 ∨ (4 : Nat) = 3) by decide, if_false, if_true,
      Option.some.injEq, Fp.mk.injEq, true_and] at h
    rw [e1, e2, hcf1 _ _ h]
  · have e1 := imprint_hashes_serialized_body_v4 k1 b1 a s1
    have e2 := imprint_hashes_serialized_body_v6 k2 b2 b s2
    simp [fingerprint, e1, e2, a, b] at h
  · have e1 := imprint_hashes_serialized_body_v6 k1 b1 a s1
    have e2 := imprint_hashes_serialized_body_v4 k2 b2 b s2
    simp [fingerprint, e1, e2, a, b] at h
  · have e1 := imprint_hashes_serialized_body_v6 k1 b1 a s1
    have e2 := imprint_hashes_serialized_body_v6 k2 b2 b s2
    simp only [fingerprint, e1, e2, a, b, show ¬ ((6 : Nat) = 2 ∨ (6 : Nat) = 3) by decide,
      show ¬ ((6 : Nat) = 4) by decide, if_false, Option.some.injEq, Fp.mk.injEq, true_and] at h
    rw [e1, e2, hcf2 _ _ h]

/-- the v3 definition (RFC 9580 §5.5.4.1: MD5 over the concatenated MPI bodies, no lengths) is
*not* injective in the key — a property of the RFC's definition, faithfully implemented -/
theorem v3_preimage_not_injective :
    ∃ k1 k2 : PubKey, k1.version = 3 ∧ k2.version = 3 ∧ k1 ≠ k2 ∧ preimage k1 = preimage k2 :=
  ⟨{ version := 3, created := 0, expiry := 0, alg := 1, mat := [.mpi [1, 2], .mpi [3]] },
   { version := 3, created := 0, expiry := 0, alg := 1, mat := [.mpi [1], .mpi [2, 3]] },
   rfl, rfl, by decide, by decide⟩

/-! ## key id = the specified 8 octets of the fingerprint -/

/-- v4: the last 8 octets, i.e. the low 64 bits of the fingerprint read as a number -/
theorem keyid_v4_low_64_bits (fp : Bytes) (h : 8 ≤ fp.length) :
    keyIdV4 fp = fp.drop (fp.length - 8) ∧ (keyIdV4 fp).length = 8 ∧
    beNat (keyIdV4 fp) = beNat fp % 18446744073709551616 := by
  refine ⟨rfl, ?_, ?_⟩
  · simp only [keyIdV4, Gen.keyIdV4Width, List.length_drop]; omega
  · exact beNat_drop fp 8 h

/-- v6: the first 8 octets, i.e. the high 64 bits -/
theorem keyid_v6_high_64_bits (fp : Bytes) (h : 8 ≤ fp.length) :
    keyIdV6 fp = fp.take 8 ∧ (keyIdV6 fp).length = 8 ∧
    beNat (keyIdV6 fp) = beNat fp / 256 ^ (fp.length - 8) := by
  refine ⟨rfl, ?_, ?_⟩
  · simp only [keyIdV6, Gen.keyIdV6Take, List.length_take]; omega
  · exact beNat_take fp 8

/-- v6 with a 32-octet digest: `fingerprint / 2¹⁹²` -/
theorem keyid_v6_of_sha256 (fp : Bytes) (h : fp.length = 32) :
    beNat (keyIdV6 fp) = beNat fp / 2 ^ 192 := by
  rw [(keyid_v6_high_64_bits fp (by omega)).2.2, h]

/-- v2/v3: the low 64 bits of the modulus, for a modulus of any length (a short one is
left-padded with zeros) -/
theorem keyid_v3_low_64_bits (n : Bytes) :
    (keyIdV3 n).length = 8 ∧ beNat (keyIdV3 n) = beNat n % 18446744073709551616 := by
  unfold keyIdV3
  by_cases h : Gen.keyIdV3Width ≤ n.length
  · rw [if_pos h]
    exact ⟨by rw [List.length_drop]; exact Nat.sub_sub_self h, beNat_drop n 8 h⟩
  · rw [if_neg h]
    have h8 : n.length ≤ 8 := Nat.le_of_not_le h
    refine ⟨by rw [List.length_append, List.length_replicate]; exact Nat.sub_add_cancel h8, ?_⟩
    have hp : 256 ^ n.length ≤ 256 ^ 8 := Nat.pow_le_pow_right (by decide) h8
    rw [KeyGen.beNat_replicate_zero, Nat.mod_eq_of_lt (Nat.lt_of_lt_of_le (beNat_lt n) hp)]

/-- the key id the library reports is that window of the fingerprint it reports -/
theorem keyid_of_fp (H : Hashes) (k : PubKey) (fp : Fp) (h : fingerprint H k = some fp) :
    (k.version = 4 → legacyKeyId H k = some (keyIdV4 fp.bytes)) ∧
    (k.version = 6 → legacyKeyId H k = some (keyIdV6 fp.bytes)) := by
  constructor
  · intro h4; simp [legacyKeyId, h, h4]
  · intro h6; simp [legacyKeyId, h, h6]

/-! ## the identities the library embeds are the ones it matches against -/

/-- (`HashSizes H`: MD5 16, SHA-1 20, SHA-256 32 octets — `RpgpProofs/Fingerprint.lean`.)
a reported fingerprint always has the length its variant demands (`Fingerprint::new` accepts it) -/
theorem fingerprint_wellformed (H : Hashes) (hs : HashSizes H) (k : PubKey) (fp : Fp)
    (h : fingerprint H k = some fp) : Fp.new fp.ver fp.bytes = some fp ∧ fp.len = fp.bytes.length := by
  obtain ⟨pre, _, ⟨h23, rfl⟩ | ⟨_, rfl⟩ | ⟨_, rfl⟩⟩ := fingerprint_eq_some h
  · rcases h23 with e | e <;> simp [Fp.new, Fp.len, kvFpLen, e, hs.md5, Gen.kvFpLenV3, Gen.fpLenV3]
  · simp [Fp.new, Fp.len, kvFpLen, hs.sha1, Gen.kvFpLenV4, Gen.fpLenV4]
  · simp [Fp.new, Fp.len, kvFpLen, hs.sha256, Gen.kvFpLenV6, Gen.fpLenV6]

theorem match_identity_iff (iss : Issuers) (kid : Bytes) (fp : Fp) :
    matchIdentity iss kid fp = true ↔
      (iss.keyIds = [] ∧ iss.fps = []) ∨ kid ∈ iss.keyIds ∨ fp ∈ iss.fps := by
  unfold matchIdentity
  split
  · next h =>
    rw [Bool.and_eq_true, List.isEmpty_iff, List.isEmpty_iff] at h
    exact iff_of_true rfl (.inl h)
  · next h =>
    rw [Bool.and_eq_true, List.isEmpty_iff, List.isEmpty_iff] at h
    simp only [Bool.or_eq_true, List.any_eq_true, beq_iff_eq, exists_eq_right, h, false_or]

/-- **embedded_id_matches (signatures).**  The issuer fingerprint / key id the signing helpers
write are the values `match_identity` compares with: a fresh signature always matches its key. -/
theorem embedded_id_matches (H : Hashes) (k : PubKey) (iss : Issuers) (fp : Fp) (kid : Bytes)
    (hi : signIssuers H k = some iss) (hf : fingerprint H k = some fp) (hk : legacyKeyId H k = some kid) :
    fp ∈ iss.fps ∧ (k.version ≤ 4 → kid ∈ iss.keyIds) ∧ (4 < k.version → iss.keyIds = []) ∧
    matchIdentity iss kid fp = true := by
  unfold signIssuers at hi
  simp only [hf, hk] at hi
  split at hi <;> cases hi
  · next h4 =>
    refine ⟨by simp, fun _ => by simp, fun h => by omega, ?_⟩
    rw [match_identity_iff]; right; left; simp
  · next h4 =>
    refine ⟨by simp, fun h => absurd h h4, fun _ => rfl, ?_⟩
    rw [match_identity_iff]; right; right; simp

/-- … and does not match a key with another fingerprint and another key id -/
theorem embedded_id_rejects_other (H : Hashes) (k : PubKey) (iss : Issuers) (fp fp' : Fp) (kid kid' : Bytes)
    (hi : signIssuers H k = some iss) (hf : fingerprint H k = some fp) (hk : legacyKeyId H k = some kid)
    (h1 : fp' ≠ fp) (h2 : kid' ≠ kid) : matchIdentity iss kid' fp' = false := by
  unfold signIssuers at hi
  simp only [hf, hk] at hi
  split at hi <;> cases hi
  · simp [matchIdentity, h1.symm, h2.symm]
  · simp [matchIdentity, h1.symm]

/-- the Issuer Fingerprint subpacket written for a v4/v6 fingerprint is read back as the same
fingerprint; an Issuer Key ID likewise -/
theorem issuer_subpackets_roundtrip (fp : Fp) (hv : fp.ver = 4 ∨ fp.ver = 5 ∨ fp.ver = 6)
    (hn : Fp.new fp.ver fp.bytes = some fp) (kid : Bytes) (hk : kid.length = 8) :
    (∃ b, issuerFpBody fp = some b ∧ parseIssuerFp b = some fp) ∧ parseIssuerKeyId kid = some kid := by
  obtain ⟨ver, bytes⟩ := fp
  simp only at hv hn
  constructor
  · have hv0 : ver ≠ 0 := by omega
    have hlt : ver < 256 := by omega
    refine ⟨ver.toUInt8 :: bytes, by simp [issuerFpBody, hv0], ?_⟩
    have hl := (Fp.new_eq_some hn).1
    have hvn : ver.toUInt8.toNat = ver := toUInt8_toNat_of_lt _ hlt
    have hv' : ver.toUInt8 = 4 ∨ ver.toUInt8 = 5 ∨ ver.toUInt8 = 6 := by
      rcases hv with rfl | rfl | rfl <;> decide
    simp only [parseIssuerFp, hv', if_true, hvn, hl]
    simp [Fp.new, hl]
  · simp [parseIssuerKeyId, Gen.issuerKeyIdLen, hk]

/-- **embedded_id_matches (PKESK).**  The recipient field written for a key by
`from_session_key_v3` / `_v6` matches that key. -/
theorem pkesk_recipient_matches (H : Hashes) (k : PubKey) (pv : Nat) (rc : Recipient) (fp : Fp) (kid : Bytes)
    (hr : recipientFor H k pv = some rc) (hf : fingerprint H k = some fp) (hk : legacyKeyId H k = some kid) :
    (pv = 3 → rc = .v3 kid) ∧ (pv = 6 → rc = .v6 (some fp)) ∧ pkeskMatch rc kid fp = true := by
  unfold recipientFor at hr
  by_cases h3 : pv = 3
  · simp only [h3, if_true, hk, Option.map_some, Option.some.injEq] at hr
    subst hr
    exact ⟨fun _ => rfl, fun h => by omega, by simp [pkeskMatch]⟩
  · by_cases h6 : pv = 6
    · simp [h6, hf] at hr
      subst hr
      exact ⟨fun h => absurd h h3, fun _ => rfl, by simp [pkeskMatch]⟩
    · simp [h3, h6] at hr

/-- a named recipient field does not match a key with another identity (the all-zero key id is
the wildcard and matches everybody, as does the absent v6 fingerprint) -/
theorem pkesk_rejects_other (rc : Recipient) (kid kid' : Bytes) (fp fp' : Fp)
    (hrc : rc = .v3 kid ∧ isWildcard kid = false ∧ kid' ≠ kid ∨ rc = .v6 (some fp) ∧ fp' ≠ fp) :
    pkeskMatch rc kid' fp' = false := by
  rcases hrc with ⟨rfl, hw, hne⟩ | ⟨rfl, hne⟩
  · simp [pkeskMatch, hw, hne.symm]
  · simp [pkeskMatch, hne.symm]

theorem pkesk_wildcards (kid : Bytes) (fp : Fp) :
    pkeskMatch (.v6 none) kid fp = true ∧ pkeskMatch (.v3 (List.replicate 8 0)) kid fp = true := by
  simp [pkeskMatch, isWildcard]

/-- the recipient field survives the wire: what `Serialize` writes, the parser reads back -/
theorem recipient_wire_roundtrip (rc : Recipient) (bs rest : Bytes) (hs : serRecipient rc = some bs)
    (hwf : match rc with
      | .v3 kid => kid.length = 8
      | .v6 (some fp) => Fp.new fp.ver fp.bytes = some fp ∧ fp.ver < 256
      | .v6 none => True
      | .other v => v < 256 ∧ v ≠ 3 ∧ v ≠ 6) :
    parseRecipient (bs ++ rest) = some (rc, rest) := by
  cases rc with
  | v3 kid =>
    simp only at hwf
    cases hs
    have : takeN Gen.pkeskKeyIdLen (kid ++ rest) = some (kid, rest) := by
      have := takeN_append kid rest
      rwa [hwf] at this
    simp [parseRecipient, Gen.pkeskV3, this]
  | v6 o =>
    cases o with
    | none =>
      cases hs
      simp [parseRecipient, Gen.pkeskV3, Gen.pkeskV6]
    | some fp =>
      obtain ⟨hn, hv⟩ := hwf
      obtain ⟨ver, bytes⟩ := fp
      simp only at hn hv
      obtain ⟨hv0, hlen⟩ := Fp.len_of_kvFpLen bytes (Fp.new_eq_some hn).1
      simp only [serRecipient, hv0, if_false, hlen] at hs
      split at hs
      · simp at hs
      · rename_i h256
        cases hs
        have hl1 : (bytes.length + 1).toUInt8.toNat = bytes.length + 1 := toUInt8_toNat_of_lt _ (by omega)
        have hvn : ver.toUInt8.toNat = ver := toUInt8_toNat_of_lt _ hv
        generalize (bytes.length + 1).toUInt8 = l at hl1
        generalize ver.toUInt8 = kv at hvn
        have hne : l ≠ 0 := by
          intro h0; subst h0; simp at hl1
        have ht : takeN (l.toNat - 1) (bytes ++ rest) = some (bytes, rest) := by
          have := takeN_append bytes rest
          rw [hl1]; simpa using this
        have h6 : (Gen.pkeskV6.toUInt8).toNat = Gen.pkeskV6 := by decide
        simp only [parseRecipient, List.cons_append, h6]
        simp [Gen.pkeskV3, Gen.pkeskV6, hne, ht, hvn, hn]
  | other v =>
    obtain ⟨h1, h2, h3⟩ := hwf
    cases hs
    have hvn : v.toUInt8.toNat = v := toUInt8_toNat_of_lt _ h1
    simp [parseRecipient, Gen.pkeskV3, Gen.pkeskV6, hvn, h2, h3]

/-! ## not proved (not counted as obligations)

-- TODO(unproved): the one-pass-signature packet's key id / fingerprint field (`OnePassSignature::v3/v6`
--   in `message/builder.rs`) is not modelled; it is covered by the oracle `embedded_issuer` only.
-- TODO(unproved): cryptographic admission of key material (RSA modulus checks of the `rsa` crate, points
--   on curve, SEC1 re-encoding, DSA component checks) is not modelled: `parseBody` accepts a superset of
--   what the real parser accepts, so `parse_wellformed`/`fp_reparse` cover every key the code returns
--   provided the stored form of the accepted material is the normalised wire form — which is what the
--   correspondence op `pubkey` checks on every fixture, generated and padded key.
-- TODO(unproved): correspondence for `keyFraming` (`serialize_for_hashing`) is not run here (it is the
--   subject of C11); here it is tied by `sites_agree_framing` and `sig_key_framing_eq_fp_preimage` only.
-/

/-! ## non-vacuity and concrete evaluations (`toyH`, `exKey`: `RpgpProofs/Fingerprint.lean`) -/

example : HashSizes toyH := ⟨by intro x; simp [toyH], by intro x; simp [toyH], by intro x; simp [toyH]⟩

example : preimage exKey = some ([0x99, 0, 38, 4, 1, 2, 3, 4, 27] ++ List.replicate 32 7) := by decide
example : (serBody exKey).bind (fun b => parsePubBody b) = some (exKey, []) := by decide
example : mpiSer [0x01, 0xFF] = [0, 9, 1, 0xFF] := by decide
example : mpiParse [0, 16, 0, 0xFF, 9] = some ([0xFF], [9]) := by decide
example : mpiParse [0, 9, 1, 0xFF] = mpiParse [0, 24, 0, 1, 0xFF] := by decide
example : keyIdV3 [1, 2, 3] = [0, 0, 0, 0, 0, 1, 2, 3] := by decide
/-- `PadsOK` is satisfiable: Elgamal material with 2, 0 and 1 leading zero octets -/
example : PadsOK [(2, 24), (0, 1), (1, 16)] [.mpi [0xFF], .mpi [1], .mpi [2]] := by
  simp [PadsOK, PadOK]
example : serRecipient (.v6 (some ⟨4, List.replicate 20 1⟩)) = some (6 :: 21 :: 4 :: List.replicate 20 1) := by decide
/-- the hypothesis of `parse_ser` is satisfiable: a parsed key is well formed -/
example : WF false { version := 4, created := 1, expiry := 0, alg := 16, mat := [.mpi [0xFF], .mpi [1], .mpi [2]] } :=
  parseBody_wf false [4, 0, 0, 0, 1, 16, 0, 8, 0xFF, 0, 1, 1, 0, 16, 0, 2] _ [] (by decide)

end Rpgp.C13
