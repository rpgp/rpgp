import RpgpProofs.KeyGenEncodings
import RpgpProofs.KeyGenShape
import RpgpProofs.KeyGenValidate
/-!
# C07 — generated keys are valid, self-consistent and usable for every seed and shape (PARTIAL)

Model: `RpgpModel/KeyGen.lean`.  What is proved here, for ALL inputs:

* the value-dependent encodings (MPI strip / bit count / re-padding of fixed-size scalars, EdDSA
  legacy signature halves, 0x40-prefixed native points, reversed Curve25519 secrets) round-trip for
  every value and every number of leading zero octets — the 1/256 cases no finite seed sweep can
  exhaust;
* the builder's validation is the decision table the source contains (tables re-extracted on
  every run);
* over abstract primitives that satisfy the sign/verify law, the self-signatures `generate`
  makes are exactly the ones `verify_bindings` checks (public and secret path), a back-signature
  is embedded exactly for `can_sign` subkeys, and flags / preferences can be read back.

What is NOT proved (carried only by the seed sweep of the harness): that the primitives' key
generation, signing, encryption are correct for a given seed; the serialisation of whole
certificates (C05/C10); secret-key locking (C08).

The model is that of the code after the fixes 7538dec (D7c), 49ffb17 (D7a), 05de5d4 (D5c), ffb9bdd (D7b) —
* `validate_v4_needs_uid`: the "V4 keys must have a primary User ID" rule holds for the *effective*
  version, hence `flags_prefs_as_requested` needs no exclusion for validated v4/v6 builders;
* `validate_rejects_unconstructible` / `validated_never_panics`: the versions on which
  `PublicKey::from_inner` panics are refused by the builder;
* `ecdsa_scalar_roundtrip`: ECDSA secrets are re-padded with `pad_key` like all other scalars;
* `export_import_id`: after any history of locking / unlocking the stored packet header is truthful,
  so a key is `==` to its re-import as far as the header is concerned.
Regression theorems about clearly named pre-fix definitions are kept
(`prefix_ecdsa_from_slice_short_witness`, `prefix_locked_header_stale_witness`,
`prefix_secret_path_ignored_backsig_witness`).
The secret-key path of `verify_bindings` now performs the same checks as the public one (D15a fixed:
`secret_path_eq_public`; regression `prefix_secret_path_ignored_backsig_witness`).  Still as coded: v2/v3
keys (outside the property's quantifier) may be built without any User ID
(`flags_lost_without_uid_witness` shows why the v4 rule matters); an encryption-only algorithm is
refused as primary only when the first signature is attempted (`GenErr.notSigningAlg`).
-/
namespace Rpgp.C07
open Rpgp Rpgp.KeyGen

/-! ## constants and tables (re-extracted from the source on every run) -/

theorem mpi_constants : Gen.maxExternMpiBits = 16384 ∧ Gen.mpiRoundAdd = 7 ∧ Gen.mpiRoundShift = 3 ∧
    Gen.mpiBitsPerByte = 8 := by decide

/-- RFC 9580 §9.1 algorithm ids behind `KeyType::to_alg` -/
theorem alg_ids_rfc :
    Gen.ktAlgRsa = 1 ∧ Gen.ktAlgDsa = 17 ∧ Gen.ktAlgECDH = 18 ∧ Gen.ktAlgECDSA = 19 ∧
    Gen.ktAlgEd25519Legacy = 22 ∧ Gen.ktAlgX25519 = 25 ∧ Gen.ktAlgX448 = 26 ∧ Gen.ktAlgEd25519 = 27 ∧
    Gen.ktAlgEd448 = 28 := by decide

/-- signature type ids and subpacket ids are the RFC's (§5.2.1, §5.2.3.7) -/
theorem sig_constants_rfc :
    Gen.sigTypeCertPositive = 0x13 ∧ Gen.sigTypeSubkeyBinding = 0x18 ∧ Gen.sigTypeKeyBinding = 0x19 ∧
    Gen.sigTypeKey = 0x1F ∧ Gen.spCreationTime = 2 ∧ Gen.spIssuerKeyId = 16 ∧ Gen.spPrefSym = 11 ∧
    Gen.spPrefHash = 21 ∧ Gen.spPrefComp = 22 ∧ Gen.spPrimaryUserId = 25 ∧ Gen.spKeyFlags = 27 ∧
    Gen.spFeatures = 30 ∧ Gen.spEmbeddedSignature = 32 ∧ Gen.spIssuerFingerprint = 33 ∧ Gen.spPrefAead = 39 := by
  decide

/-- key flag bits (§5.2.3.29): certify 0x01, sign 0x02, encrypt 0x04 / 0x08, authenticate 0x20 -/
theorem key_flag_bits_rfc :
    Gen.kfCertifyBit = 0 ∧ Gen.kfSignBit = 1 ∧ Gen.kfEncryptCommsBit = 2 ∧ Gen.kfEncryptStorageBit = 3 ∧
    Gen.kfAuthenticationBit = 5 := by decide

/-- the scalar sizes used for re-padding: both tables in the source agree and are the curve sizes,
and `ecdsa.rs try_from_mpi` pads each curve's secret to exactly that size -/
theorem scalar_sizes :
    Gen.secretLenP256 = 32 ∧ Gen.secretLenP384 = 48 ∧ Gen.secretLenP521 = 66 ∧ Gen.secretLenSecp256k1 = 32 ∧
    Gen.secretLenEd25519Legacy = 32 ∧ Gen.secretLenCurve25519Legacy = 32 ∧ Gen.c25519PadLen = Gen.secretLenCurve25519Legacy ∧
    Gen.ecdsaSecretLenP256 = Gen.secretLenP256 ∧ Gen.ecdsaSecretLenP384 = Gen.secretLenP384 ∧
    Gen.ecdsaSecretLenP521 = Gen.secretLenP521 ∧ Gen.ecdsaSecretLenSecp256k1 = Gen.secretLenSecp256k1 ∧
    Gen.ecdsaPadLenP256 = Gen.ecdsaSecretLenP256 ∧ Gen.ecdsaPadLenP384 = Gen.ecdsaSecretLenP384 ∧
    Gen.ecdsaPadLenP521 = Gen.ecdsaSecretLenP521 ∧ Gen.ecdsaPadLenSecp256k1 = Gen.ecdsaSecretLenSecp256k1 := by decide

/-- native points: writer and reader sites agree on prefix 0x40 and length 33; the EdDSA legacy
signature is rebuilt as 2 × 32 octets from halves shorter than 33 -/
theorem native_constants :
    Gen.eddsaLegacyWrPrefix = 0x40 ∧ Gen.eddsaLegacyRdPrefix = Gen.eddsaLegacyWrPrefix ∧
    Gen.ecdh25519WrPrefix = Gen.eddsaLegacyWrPrefix ∧ Gen.eddsaLegacyRdLen = 33 ∧ Gen.ecdh25519RdLen = 33 ∧
    Gen.eddsaSigLen = 64 ∧ Gen.eddsaSigHalf = 32 ∧ Gen.eddsaSigRLimit = 33 ∧ Gen.eddsaSigSLimit = 33 := by decide

/-- `validate_table` (1): which key types may be asked to sign / authenticate, which to encrypt —
the table of `KeyType::can_sign` / `can_encrypt`, for every parameter of the parametrised variants -/
theorem can_sign_table (bits : Nat) (c : Curve) :
    (KeyType.rsa bits).canSign = true ∧ (KeyType.dsa bits).canSign = true ∧ (KeyType.ecdsa c).canSign = true ∧
    KeyType.ed25519Legacy.canSign = true ∧ KeyType.ed25519.canSign = true ∧ KeyType.ed448.canSign = true ∧
    (KeyType.ecdh c).canSign = false ∧ KeyType.x25519.canSign = false ∧ KeyType.x448.canSign = false := by
  simp only [KeyType.canSign, KeyType.idx]; decide

theorem can_encrypt_table (bits : Nat) (c : Curve) :
    (KeyType.rsa bits).canEncrypt = true ∧ (KeyType.ecdh c).canEncrypt = true ∧ KeyType.x25519.canEncrypt = true ∧
    KeyType.x448.canEncrypt = true ∧ (KeyType.dsa bits).canEncrypt = false ∧ (KeyType.ecdsa c).canEncrypt = false ∧
    KeyType.ed25519Legacy.canEncrypt = false ∧ KeyType.ed25519.canEncrypt = false ∧ KeyType.ed448.canEncrypt = false := by
  simp only [KeyType.canEncrypt, KeyType.idx]; decide

/-- every key type can do at least one of the two, and only RSA both -/
theorem capability_partition (k : KeyType) :
    (k.canSign = true ∨ k.canEncrypt = true) ∧ (k.canSign = true ∧ k.canEncrypt = true → ∃ b, k = .rsa b) := by
  cases k <;> simp [KeyType.canSign, KeyType.canEncrypt, KeyType.idx, Gen.ktCanSignMask, Gen.ktCanEncryptMask] <;> decide

/-- `validate_table` (2): curves accepted for ECDSA by the builder = curves the ECDSA generator
supports = {P-256, P-384, P-521, secp256k1}; ECDH generation supports {Curve25519Legacy, P-256,
P-384, P-521} -/
theorem curve_tables :
    Gen.ecdsaValidateCurveMask = Gen.ecdsaGenerateCurveMask ∧
    (∀ c : Curve, Gen.ecdsaValidateCurveMask.testBit c.idx = true ↔ c = .p256 ∨ c = .p384 ∨ c = .p521 ∨ c = .secp256k1) ∧
    (∀ c : Curve, Gen.ecdhGenerateCurveMask.testBit c.idx = true ↔ c = .curve25519Legacy ∨ c = .p256 ∨ c = .p384 ∨ c = .p521) := by
  refine ⟨by decide, ?_, ?_⟩ <;> intro c <;> cases c <;> decide

/-- `validate_table` (3): `validate_keytype` as a closed decision: a capability is refused iff the
algorithm cannot provide it; RSA below 2048 bits and ECDSA outside the four curves are refused -/
theorem validate_keytype_iff (k : KeyType) (sign auth : Bool) (enc : EncCaps) :
    validateKeytype (some k) (some sign) enc (some auth) = .ok () ↔
      (sign = true → k.canSign = true) ∧ (enc ≠ .none → k.canEncrypt = true) ∧ (auth = true → k.canSign = true) ∧
      (∀ b, k = .rsa b → Gen.rsaMinBits ≤ b) ∧
      (∀ c, k = .ecdsa c → Gen.ecdsaValidateCurveMask.testBit c.idx = true) := by
  simpa using validateKeytype_ok_iff k (some sign) (some auth) enc

/-- the version rule: a v6 primary takes only v6 subkeys, any other primary no v6 subkey -/
theorem validate_versions_iff (v : Option Nat) (subs : List SubParams) :
    validateVersions v subs = .ok () ↔
      (v = some 6 → ∀ s ∈ subs, s.version = 6) ∧ (v ≠ some 6 → ∀ s ∈ subs, s.version ≠ 6) := by
  rw [validateVersions_ok_iff]
  by_cases h6 : v = some 6 <;> simp [h6]

/-- what a successful `build()` guarantees (soundness of `validate`) -/
theorem validate_sound (b : Builder) (h : validate b = .ok ()) :
    unconstructible b.effVersion = false ∧ (∀ s ∈ b.subkeys, unconstructible s.version = false) ∧
    validateVersions b.version b.subkeys = .ok () ∧
    validateKeytype b.keyType b.canSign (b.canEncrypt.getD .none) b.canAuth = .ok () ∧
    (∀ s ∈ b.subkeys, validateKeytype (some s.keyType) (some s.canSign) s.canEncrypt (some s.canAuth) = .ok ()) ∧
    (b.effVersion = 4 → b.primaryUid ≠ none) :=
  (validate_ok_iff b).mp h

/-- "V4 keys must have a primary User ID" — for the version the key will actually have, whether it
was chosen explicitly or left at the builder's default (full statement; before fix 49ffb17 only
`b.version = some 4` was covered) -/
theorem validate_v4_needs_uid (b : Builder) (h : validate b = .ok ()) (hv : b.effVersion = 4) :
    b.primaryUid ≠ none := (validate_sound b h).2.2.2.2.2 hv

/-- the default builder (version never set ⇒ v4) without a User ID is refused -/
theorem validate_default_version_needs_uid :
    validate { keyType := some .ed25519, canSign := some true, canCertify := some true } = .error .v4NeedsUid ∧
    validate { keyType := some .ed25519, canSign := some true, canCertify := some true, primaryUid := some [65] } = .ok () :=
  ⟨by rfl, by rfl⟩

/-- versions for which a key packet cannot be constructed (V5, Other) are refused for the primary
and for every subkey … -/
theorem validate_rejects_unconstructible (b : Builder) (h : validate b = .ok ()) :
    (b.effVersion = 2 ∨ b.effVersion = 3 ∨ b.effVersion = 4 ∨ b.effVersion = 6) ∧
    (∀ s ∈ b.subkeys, s.version = 2 ∨ s.version = 3 ∨ s.version = 4 ∨ s.version = 6) := by
  obtain ⟨h1, h2, _⟩ := validate_sound b h
  exact ⟨(unconstructible_eq_false_iff _).mp h1, fun s hs => (unconstructible_eq_false_iff _).mp (h2 s hs)⟩

/-- … hence `generate` on a validated builder never reaches the `panic!` in
`PubKeyInner::write_len` (neither for the primary nor for a subkey) -/
theorem validated_never_panics (b : Builder) (h : validate b = .ok ()) (kt : KeyType) :
    pubKeyNewCheck b.effVersion kt ≠ .error .panicKeyVersion ∧
    (∀ s ∈ b.subkeys, pubKeyNewCheck s.version s.keyType ≠ .error .panicKeyVersion) := by
  obtain ⟨hp, hs⟩ := validate_rejects_unconstructible b h
  exact ⟨fun hc => pubKeyNewCheck_panic hc hp, fun s hs' hc => pubKeyNewCheck_panic hc (hs s hs')⟩

/-- a version/algorithm mix the builder lets through and `generate` then refuses (after having
generated the key material): v6 with the legacy Ed25519 / Curve25519 encodings -/
theorem validate_accepts_v6_legacy :
    validate { version := some 6, keyType := some .ed25519Legacy, primaryUid := some [] } = .ok () ∧
    pubKeyNewCheck 6 .ed25519Legacy = .error .legacyAlgVersion ∧
    pubKeyNewCheck 6 (.ecdh .curve25519Legacy) = .error .legacyAlgVersion := ⟨by rfl, by rfl, by rfl⟩

/-! ## MPI: strip, bit length, round trip -/

/-- **pad_strip.** Whatever the value — in particular for every number of leading zero octets, up
to the all-zero string — stripping for the MPI and re-padding to the scalar size restores it. -/
theorem pad_strip (n : Nat) (x : Bytes) (h : x.length = n) : padKey n (stripZeros x) = some x :=
  padKey_stripZeros n x h

/-- the same, with the number `k` of leading zero octets explicit -/
theorem pad_strip_every_count (k : Nat) (m : Bytes) (hm : Normalized m) :
    stripZeros (List.replicate k 0 ++ m) = m ∧
    padKey (k + m.length) (stripZeros (List.replicate k 0 ++ m)) = some (List.replicate k 0 ++ m) :=
  ⟨stripZeros_replicate_append k m hm, padKey_stripZeros _ _ (by simp)⟩

/-- stripping removes exactly the leading zero octets and does not change the value -/
theorem strip_spec (x : Bytes) :
    (stripZeros x).length + leadingZeros x = x.length ∧ beNat (stripZeros x) = beNat x ∧ Normalized (stripZeros x) :=
  ⟨stripZeros_length x, beNat_stripZeros x, stripZeros_normalized x⟩

/-- `pad_key` never accepts more octets than the scalar has, and always returns exactly `n` -/
theorem pad_key_total (n : Nat) (v : Bytes) :
    (n < v.length → padKey n v = none) ∧ (∀ k, padKey n v = some k → k.length = n ∧ beNat k = beNat v) :=
  ⟨padKey_too_long n v, fun _ hk => ⟨padKey_length hk, padKey_beNat hk⟩⟩

/-- **mpi_bits.** The bit count written in front of an MPI is the position of the top set bit of
the value: `2^(bits-1) ≤ value < 2^bits` (and 0 for the value zero, which is the empty string). -/
theorem mpi_bits (raw : Bytes) :
    (mpiFromSlice raw = [] → bitSize (mpiFromSlice raw) = 0 ∧ beNat raw = 0) ∧
    (mpiFromSlice raw ≠ [] →
      2 ^ (bitSize (mpiFromSlice raw) - 1) ≤ beNat raw ∧ beNat raw < 2 ^ bitSize (mpiFromSlice raw)) := by
  unfold mpiFromSlice
  rw [← beNat_stripZeros raw]
  refine ⟨fun h => ?_, bitSize_spec _ (stripZeros_normalized raw)⟩
  rw [h]
  exact ⟨rfl, rfl⟩

/-- the two length octets in front of the value are that bit count (values up to 8191 octets) -/
theorem mpi_declared_bits (m : Bytes) (h : m.length ≤ 8191) :
    beNat ((mpiWrite m).take 2) = bitSize m ∧ (mpiWrite m).drop 2 = m := by
  have hl := be16_length (bitSize m)
  have hb := bitSize_le m
  rw [mpiWrite, List.take_left' hl, List.drop_left' hl]
  exact ⟨beNat_be16 _ (by omega), rfl⟩

/-- **mpi_roundtrip.** What `Mpi::from_slice` + `to_writer` emit for any octet string (of at most
2048 octets = `MAX_EXTERN_MPI_BITS`), `Mpi::try_from_reader` reads back as the same value, leaving
exactly the bytes that followed. -/
theorem mpi_roundtrip (raw rest : Bytes) (h : raw.length ≤ 2048) :
    mpiRead (mpiWrite (mpiFromSlice raw) ++ rest) = some (mpiFromSlice raw, rest) :=
  mpiRead_mpiWrite_normalized _ rest (stripZeros_normalized raw) (Nat.le_trans (stripZeros_length_le raw) h)

/-- the whole path of a fixed-size secret scalar (ECDH and ECDSA NIST curves / secp256k1,
Ed25519Legacy): raw → `Mpi::from_slice` → wire → `try_from_reader` → `pad_key::<n>` gives back raw,
for every value -/
theorem scalar_roundtrip (n : Nat) (x rest : Bytes) (h : x.length = n) (hn : n ≤ 2048) :
    (mpiRead (mpiWrite (mpiFromSlice x) ++ rest)).bind (fun vr => (padKey n vr.1).map (fun k => (k, vr.2)))
      = some (x, rest) := by
  rw [mpi_roundtrip x rest (by omega)]
  simp [mpiFromSlice, padKey_stripZeros n x h]

/-- **ECDSA secrets** (full statement; before fix ffb9bdd only scalars with at most n − 24 leading
zero octets came back): at each of the four scalar sizes `ecdsa::SecretKey` knows, every scalar —
whatever its number of leading zero octets — survives write and re-import -/
theorem ecdsa_scalar_roundtrip (n : Nat) (x rest : Bytes) (h : x.length = n)
    (hn : n = Gen.ecdsaSecretLenP256 ∨ n = Gen.ecdsaSecretLenP384 ∨ n = Gen.ecdsaSecretLenP521 ∨
          n = Gen.ecdsaSecretLenSecp256k1) :
    padKey n (stripZeros x) = some x ∧
    (mpiRead (mpiWrite (mpiFromSlice x) ++ rest)).bind (fun vr => (padKey n vr.1).map (fun k => (k, vr.2)))
      = some (x, rest) := by
  refine ⟨padKey_stripZeros n x h, scalar_roundtrip n x rest h ?_⟩
  simp only [Gen.ecdsaSecretLenP256, Gen.ecdsaSecretLenP384, Gen.ecdsaSecretLenP521, Gen.ecdsaSecretLenSecp256k1] at hn
  omega

/-- REGRESSION (pre-fix definition `ecFromSlicePreFix` = `SecretKey::from_slice`): a P-256 scalar with
nine leading zero octets is written as a 23-octet MPI, which the old import path refused and
`pad_key` restores -/
theorem prefix_ecdsa_from_slice_short_witness :
    let x : Bytes := List.replicate 9 0 ++ List.replicate 23 1
    x.length = 32 ∧ ecFromSlicePreFix 32 (stripZeros x) = none ∧ padKey 32 (stripZeros x) = some x := by decide

/-! ## EdDSA legacy signatures, native points, Curve25519 secrets -/

/-- the 64 octets `verify` rebuilds from the two stripped halves are the 64 octets the primitive
produced, whatever the number of leading zero octets in `r` and in `s` -/
theorem eddsa_sig_roundtrip (sig : Bytes) (h : sig.length = 64) :
    eddsaSigBytes (eddsaSigMpis sig).1 (eddsaSigMpis sig).2 = some sig := by
  rw [eddsaSigBytes_eq_padKey, eddsaSigMpis, mpiFromSlice, mpiFromSlice, Gen.eddsaSigHalf,
    padKey_stripZeros 32 _ (by simp [h]), padKey_stripZeros 32 _ (by simp [h])]
  simp

/-- halves that are too long are refused -/
theorem eddsa_sig_rejects_long (r s : Bytes) (h : 33 ≤ r.length ∨ 33 ≤ s.length) : eddsaSigBytes r s = none := by
  rw [eddsaSigBytes_eq_padKey]
  rcases h with h | h
  · rw [padKey_too_long 32 r (by omega)]; rfl
  · rw [padKey_too_long 32 s (by omega)]; cases padKey 32 r <;> rfl

/-- the prefix octet 0x40 (or SEC1's 0x04) is never stripped: a prefixed point is written with all
its octets, its declared bit length is `8·len − clz(prefix)` -/
theorem native_point_never_stripped (pfx : Byte) (p : Bytes) (h : pfx ≠ 0) :
    mpiFromSlice (pfx :: p) = pfx :: p ∧ bitSize (pfx :: p) = (p.length + 1) * 8 - clz8 pfx := by
  simp [mpiFromSlice, stripZeros, h, bitSize_cons]

/-- Ed25519Legacy public key: written by `to_writer`, read back by `try_from_reader`, any point
(the point itself may begin with any number of zero octets) -/
theorem eddsa_legacy_point_roundtrip (p rest : Bytes) (h : p.length = 32) :
    eddsaLegacyPointRead (nativePointMpi Gen.eddsaLegacyWrPrefix p ++ rest) = some (p, rest) := by
  rw [eddsaLegacyPointRead, mpiRead_nativePointMpi _ p rest (by decide) (by omega)]
  simp [Gen.eddsaLegacyRdLen, Gen.eddsaLegacyRdPrefix, Gen.eddsaLegacyWrPrefix, h]

/-- Curve25519Legacy ECDH public key likewise -/
theorem ecdh25519_point_roundtrip (p rest : Bytes) (h : p.length = 32) :
    ecdh25519PointRead (nativePointMpi Gen.ecdh25519WrPrefix p ++ rest) = some (p, rest) := by
  rw [ecdh25519PointRead, mpiRead_nativePointMpi _ p rest (by decide) (by omega)]
  simp [Gen.ecdh25519RdLen, h]

theorem fixD8f_on : Gen.fixD8fC25519Export = 1 ∧ Gen.fixD8fC25519Import = 1 := by decide

/-- Curve25519Legacy secret: the little-endian scalar is stored reversed as an MPI.  **Every** 32-octet
scalar — clamped or not, with or without zero octets at its top — is written as a well-formed MPI and
comes back exactly (D8f: before the repairs a scalar whose top octet is zero, one key in 256 written
by an implementation that does not clamp what it stores, was written with a malformed MPI and read
back multiplied by 256). -/
theorem c25519_secret_roundtrip (le rest : Bytes) (h : le.length = 32) :
    c25519SecretRead (c25519SecretMpi le ++ rest) = some (le, rest) := by
  simp only [c25519SecretRead, c25519SecretMpi, fixD8f_on.1, fixD8f_on.2, if_true, mpiFromSlice]
  rw [mpiRead_mpiWrite_normalized _ rest (stripZeros_normalized _)
    (Nat.le_trans (stripZeros_length_le _) (by simp [h]))]
  simp [Gen.c25519PadLen, padKey_stripZeros 32 le.reverse (by simp [h])]

/-- regression witness (D8f): the pre-repair pair did not round-trip an unclamped scalar whose top
octet is zero, and read a short stored value back multiplied by 256 -/
theorem c25519_prefix_witness :
    let le : Bytes := List.replicate 31 1 ++ [0]
    le.length = 32 ∧ c25519SecretReadPreFix (c25519SecretMpiPreFix le) ≠ some (le, []) ∧
    c25519SecretReadPreFix (mpiWrite (List.replicate 31 1)) = some (0 :: List.replicate 31 1, []) ∧
    c25519SecretRead (mpiWrite (List.replicate 31 1)) = some (List.replicate 31 1 ++ [0], []) := by decide

/-! ## shape of the generated certificate -/

/-- **generate_verifies.** For every parameter set, every seed material and every primitive
satisfying the sign/verify law: whenever `generate` returns a certificate, `verify_bindings`
succeeds on its public form and on its secret form. -/
theorem generate_verifies {M S σ : Type} (P : KeyPrims M S σ) (law : SignLaw P) (p : GenParams) (r : GenRand S)
    (c : Cert M σ) (h : generate P p r = .ok c) :
    verifyBindingsPublic (checksOf P) c.toPublic = true ∧ verifyBindingsSecret (checksOf P) c = true := by
  rw [generate_toPublic P h, verifyBindingsSecret_eq]
  exact ⟨generate_verifiesPublic P law h, generate_verifiesPublic P law h⟩

/-- `to_public_key` changes nothing in a generated certificate: no signature is filtered out, no
subkey dropped -/
theorem to_public_keeps_everything {M S σ : Type} (P : KeyPrims M S σ) (p : GenParams) (r : GenRand S)
    (c : Cert M σ) (h : generate P p r = .ok c) : c.toPublic = c := generate_toPublic P h

/-- in general it does: a subkey without a binding signature makes the secret form fail and is
silently dropped from the public form, which then verifies (as coded: `SignedPublicKey::new`) -/
theorem to_public_drops_unsigned_subkey_witness :
    let C : SigChecks (PubKey Nat) Bytes (Sig Nat) (BackSig Nat) := checksOf toyPrims
    let c : Cert Nat Nat := { primary := { version := 4, keyType := .ed25519, created := 0, mat := 1 },
                              direct := [], users := [],
                              subkeys := [{ key := { version := 4, keyType := .x25519, created := 0, mat := 2 }, sigs := [] }] }
    verifyBindingsSecret C c = false ∧ verifyBindingsPublic C c = false ∧ verifyBindingsPublic C c.toPublic = true := by
  decide

/-- the hypothesis is satisfiable: the toy primitive `toyPrims` (secret = public = a number, the
signature is the signer's number) satisfies the law -/
theorem toy_law : SignLaw toyPrims := by intro s m; simp [toyPrims]

/-- the secret form and the public form of a subkey are checked in exactly the same way (since the
fix of D15a), in particular a signing subkey needs its back-signature on both paths -/
theorem secret_path_eq_public {K U Sg B : Type} (C : SigChecks K U Sg B) (key sub : K) (sigs : List Sg) :
    verifySubSecret C key sub sigs = verifySubPublic C key sub sigs := rfl

/-- REGRESSION (pre-fix definition `verifySubSecretPreFix`): the old secret path checked strictly
less — a binding whose flags say "sign" but which carries no back-signature passed it -/
theorem prefix_secret_path_ignored_backsig_witness :
    let C : SigChecks Unit Unit Unit Unit :=
      { vCert := fun _ _ _ => true, vKey := fun _ _ => true, vSub := fun _ _ _ => true, vBack := fun _ _ _ => true,
        flagsSign := fun _ => true, embedded := fun _ => none }
    verifySubSecretPreFix C () () [()] = true ∧ verifySubSecret C () () [()] = false ∧
    verifySubPublic C () () [()] = false := by decide

/-- components without any signature are refused on both paths -/
theorem unsigned_components_rejected {K U Sg B : Type} (C : SigChecks K U Sg B) (key sub : K) (id : U) :
    verifyUser C key id [] = false ∧ verifySubPublic C key sub [] = false ∧ verifySubSecret C key sub [] = false := by
  simp [verifyUser, verifySubPublic, verifySubSecret]

/-- **back-signature exactly for signing subkeys**, and the flags of every subkey binding are the
requested ones: position by position, (flags, has embedded 0x19, version, algorithm) of the generated
subkeys = the request -/
theorem backsig_iff_can_sign {M S σ : Type} (P : KeyPrims M S σ) (law : SignLaw P) (p : GenParams) (r : GenRand S)
    (c : Cert M σ) (h : generate P p r = .ok c) (hl : p.subkeys.length ≤ r.subSecs.length) :
    c.subkeys.map (fun s => (s.sigs.map (fun x => (hashedFlags x, (sigEmbedded x).isSome)), s.key.version, s.key.keyType)) =
      p.subkeys.map (fun sp => ([(some (subFlags sp), sp.canSign)], sp.version, sp.keyType)) := by
  obtain ⟨_, _, subs, direct, users, v, hsubs, _, _, rfl⟩ := (generate_ok_iff ..).mp h
  have hpar := genSubMaterials_view P hsubs hl
  have := congrArg (List.map (fun (t : Flags × Bool × Nat × KeyType) => ([(some t.1, t.2.1)], t.2.2.1, t.2.2.2))) hpar
  rw [bindSubkeys_map P _ v r.salt r.now _ _ (fun s x => bindSubkey_view P _ v s r.now x)]
  simpa [List.map_map, Function.comp_def] using this

/-- `generate` on its own (any parameter set, validated or not): for a v6 key the direct key
signature carries flags, features and preferences; for other versions a User ID certification
does — so there must be a User ID.  `validate` supplies that hypothesis
(`flags_prefs_as_requested`). -/
theorem flags_prefs_read_back {M S σ : Type} (P : KeyPrims M S σ) (p : GenParams) (r : GenRand S)
    (c : Cert M σ) (h : generate P p r = .ok c)
    (hguard : p.version = 6 ∨ p.primaryUid ≠ none ∨ p.uids ≠ []) :
    (metadataSig c).bind hashedFlags = some p.flags ∧ (metadataSig c).map hashedPrefs = some p.prefs := by
  obtain ⟨_, _, subs, direct, users, v, _, hdet, _, rfl⟩ := (generate_ok_iff ..).mp h
  obtain ⟨hd, hu⟩ := (signDetails_ok_iff ..).mp hdet
  replace hd := (directSigs_ok_iff ..).mp hd
  by_cases h6 : p.version = 6
  · -- v6: the direct key signature
    rw [if_pos h6] at hd
    simp only [metadataSig, if_pos h6, hd.2, List.head?_cons, Option.bind_some, Option.map_some]
    exact (hashed_metadata_read P List.prefix_rfl).imp id (congrArg some)
  · -- not v6: the certification of the first User ID, which is the primary one if there is one
    have hn : ¬ (p.primaryUid = none ∧ p.uids = []) := fun ⟨a, b⟩ => hguard.elim h6 fun g => g.elim (· a) (· b)
    rw [if_neg hn] at hu
    obtain ⟨w, _, rfl⟩ := hu
    simp only [metadataSig, h6, if_false]
    cases hp : p.primaryUid with
    | some u =>
      simp only [Option.toList, List.map_cons, List.map_nil, List.cons_append, List.nil_append, List.find?_cons,
        certifyUid_sigIsPrimary, Option.orElse_some]
      exact certifyUid_read P h6
    | none =>
      cases hu' : p.uids with
      | nil => exact absurd ⟨hp, hu'⟩ hn
      | cons a rr =>
        simp only [Option.toList, List.map_nil, List.nil_append, certifyUids_notPrimary, Option.orElse_none]
        exact certifyUid_read P h6

/-- **flags_as_requested / prefs_as_requested** (full statement; before fix 49ffb17 the default-version
builder had to be excluded).  For every builder that `validate` accepts and whose key will be v4 or
v6 — the versions the property quantifies over — whatever the algorithms, capabilities, user ids,
preferences and seed material: if `generate` returns a certificate, the key flags, features and
preferences read back from its metadata self-signature are exactly the requested ones. -/
theorem flags_prefs_as_requested {M S σ : Type} (P : KeyPrims M S σ) (b : Builder) (kt : KeyType) (prefs : Prefs)
    (created subCreated : Nat) (r : GenRand S) (c : Cert M σ)
    (hval : validate b = .ok ()) (hv : b.effVersion = 4 ∨ b.effVersion = 6)
    (h : generate P (b.toParams kt prefs created subCreated) r = .ok c) :
    (metadataSig c).bind hashedFlags = some (b.toParams kt prefs created subCreated).flags ∧
    (metadataSig c).map hashedPrefs = some prefs := by
  refine flags_prefs_read_back P _ r c h ?_
  rcases hv with h4 | h6
  · exact .inr (.inl (validate_v4_needs_uid b hval h4))
  · exact .inl h6

/-- why the v4 rule matters (about `generate` alone, on parameters no validated v4/v6 builder
produces): a v4 key without User IDs would be generated, verify (vacuously), and carry its flags
and preferences nowhere -/
theorem flags_lost_without_uid_witness :
    let p : GenParams := { version := 4, keyType := .ed25519, flags := { certify := true, sign := true },
                           prefs := { sym := [9] }, created := 0, primaryUid := none, uids := [], subkeys := [] }
    let r : GenRand Nat := { primarySec := 7, subSecs := [], salt := fun _ => [], now := 1 }
    ∃ c, generate toyPrims p r = .ok c ∧ metadataSig c = none ∧ c.direct.length = 0 ∧ c.users.length = 0 ∧
      verifyBindingsPublic (checksOf toyPrims) c = true :=
  ⟨_, rfl, rfl, rfl, rfl, rfl⟩

/-- a direct key signature (0x1F) is made exactly for v6 keys, and it is the only one -/
theorem direct_sig_iff_v6 {M S σ : Type} (P : KeyPrims M S σ) (p : GenParams) (r : GenRand S)
    (c : Cert M σ) (h : generate P p r = .ok c) :
    (p.version = 6 → ∃ s, c.direct = [s] ∧ s.typ = Gen.sigTypeKey ∧ s.version = 6) ∧ (p.version ≠ 6 → c.direct = []) ∧
    c.revocations = [] := by
  obtain ⟨_, _, subs, direct, users, v, _, hdet, _, rfl⟩ := (generate_ok_iff ..).mp h
  have hd := (directSigs_ok_iff ..).mp ((signDetails_ok_iff ..).mp hdet).1
  refine ⟨fun h6 => ?_, fun h6 => ?_, rfl⟩
  · rw [if_pos h6] at hd
    exact ⟨_, hd.2, rfl, rfl⟩
  · rw [if_neg h6] at hd
    exact hd

/-- on the public path a binding that claims the signing capability and carries no
back-signature is refused, whatever else holds -/
theorem signing_binding_needs_backsig {K U Sg B : Type} (C : SigChecks K U Sg B) (key sub : K) (s : Sg) (rest : List Sg)
    (hf : C.flagsSign s = true) (he : C.embedded s = none) : verifySubPublic C key sub (s :: rest) = false := by
  simp [verifySubPublic, hf, he]

/-- `generate` itself still does not refuse key versions other than 2, 3, 4, 6 with an error:
`PublicKey::from_inner` calls `write_len()`, which panics ("V5 keys") — unreachable through the
builder since fix 7538dec (`validated_never_panics`) -/
theorem unsupported_version_panics (kt : KeyType) (hk : kt ≠ .ecdh .curve25519Legacy ∧ kt ≠ .ed25519Legacy) :
    pubKeyNewCheck 5 kt = .error .panicKeyVersion ∧ pubKeyNewCheck 7 kt = .error .panicKeyVersion := by
  simp [pubKeyNewCheck, hk.1, hk.2]

/-! ## totality on supported shapes -/

theorem supportedKey_iff (version : Nat) (kt : KeyType) :
    supportedKey version kt = true ↔
      (version = 4 ∨ version = 6) ∧ keygenCheck kt = .ok () ∧ pubKeyNewCheck version kt = .ok () := by
  unfold supportedKey
  cases keygenCheck kt <;> cases pubKeyNewCheck version kt <;> simp

theorem genSubMaterials_total {M S σ : Type} (P : KeyPrims M S σ) (primary : PubKey M) (created : Nat)
    (salt : Nat → Bytes) (now : Nat) (sps : List SubParams)
    (hs : sps.all (fun s => supportedKey s.version s.keyType && (!s.canSign || s.keyType.canSign)) = true) :
    ∀ (i : Nat) (secs : List S), sps.length ≤ secs.length →
      ∃ subs, genSubMaterials P primary created salt now i sps secs = .ok subs ∧ subs.length = sps.length := by
  induction sps with
  | nil => intro i secs _; exact ⟨[], rfl, rfl⟩
  | cons sp r ih =>
    intro i secs hl
    cases secs with
    | nil => simp at hl
    | cons sec secs =>
      rw [List.all_cons, Bool.and_eq_true, Bool.and_eq_true] at hs
      obtain ⟨⟨hsp, hcs⟩, hr⟩ := hs
      obtain ⟨rr, hrr, hlen⟩ := ih hr (i + 1) secs (by simpa using hl)
      obtain ⟨hv, hk', hn'⟩ := (supportedKey_iff _ _).mp hsp
      obtain ⟨x, hx⟩ := genSubMaterial_total P primary created sp sec (salt (2 * i)) now hk' hn' fun hc =>
        ⟨_, signerCheck_ok_iff.mpr ⟨sigVersionOf_eq_some.mpr ⟨rfl, hv⟩, by simpa [hc] using hcs⟩⟩
      exact ⟨x :: rr, (genSubMaterials_cons_ok P).mpr ⟨x, rr, hx, hrr, rfl⟩, by simp [hlen]⟩

/-- **for every supported shape and every seed material, generation yields a certificate** (it
cannot fail in the modelled logic) — and by `generate_verifies` that certificate verifies -/
theorem generate_total {M S σ : Type} (P : KeyPrims M S σ) (law : SignLaw P) (p : GenParams) (r : GenRand S)
    (hs : supported p = true) (hl : p.subkeys.length ≤ r.subSecs.length) :
    ∃ c, generate P p r = .ok c ∧ verifyBindingsPublic (checksOf P) c.toPublic = true ∧
      verifyBindingsSecret (checksOf P) c = true ∧ c.subkeys.length = p.subkeys.length := by
  simp only [supported, Bool.and_eq_true] at hs
  obtain ⟨⟨hp, hcan⟩, hsubs⟩ := hs
  obtain ⟨hv, hk', hn'⟩ := (supportedKey_iff _ _).mp hp
  have hsc : signerCheck p.version p.keyType = .ok p.version :=
    signerCheck_ok_iff.mpr ⟨sigVersionOf_eq_some.mpr ⟨rfl, hv⟩, hcan⟩
  obtain ⟨subs, hsm, hlen⟩ :=
    genSubMaterials_total P (primaryKey P p r).pub p.subCreated r.salt r.now p.subkeys hsubs 0 r.subSecs hl
  obtain ⟨direct, users, hdet⟩ := signDetails_total P (primaryKey P p r) p r.salt r.now hsc
  have hc := (generate_ok_iff P p r _).mpr ⟨hk', hn', subs, direct, users, p.version, hsm, hdet, fun _ => hsc, rfl⟩
  have := generate_verifies P law p r _ hc
  exact ⟨_, hc, this.1, this.2, by simp [bindSubkeys_length, hlen]⟩

/-! ## packet header of a (locked) generated key -/

/-- a key packet is `==` to its re-import, as far as the header goes, exactly when the stored
header is truthful -/
theorem reimport_id_iff (k : KeyPkt) : reimportPkt k = k ↔ k.hdrLen = k.bodyLen := by
  cases k; simp [reimportPkt]; exact eq_comm

/-- **export_import_id** (full statement; before fix 05de5d4 it failed for every locked key): a
packet made by `SecretKey::new` and then locked / unlocked any number of times — `generate` locks
at most once — is equal to its re-import -/
theorem export_import_id (n : Nat) (ops : List PktOp) :
    reimportPkt (applyOps (newPkt n) ops) = applyOps (newPkt n) ops := by
  have key : ∀ (ops : List PktOp) (k : KeyPkt), k.hdrLen = k.bodyLen → (applyOps k ops).hdrLen = (applyOps k ops).bodyLen := by
    intro ops
    induction ops with
    | nil => intro k hk; exact hk
    | cons o r ih => intro k _; cases o <;> exact ih _ rfl
  exact (reimport_id_iff _).mpr (key ops (newPkt n) rfl)

/-- the two shapes `generate` produces: unlocked, and locked once -/
theorem generated_packets_reimport (n g : Nat) :
    reimportPkt (newPkt n) = newPkt n ∧ reimportPkt (lockPkt (newPkt n) g) = lockPkt (newPkt n) g :=
  ⟨rfl, rfl⟩

/-- REGRESSION (pre-fix definition `lockPktPreFix`): locking that kept the header made the key differ
from its own re-import — in the header only -/
theorem prefix_locked_header_stale_witness (n g : Nat) (hg : 0 < g) :
    reimportPkt (lockPktPreFix (newPkt n) g) ≠ lockPktPreFix (newPkt n) g ∧
    (reimportPkt (lockPktPreFix (newPkt n) g)).bodyLen = (lockPktPreFix (newPkt n) g).bodyLen := by
  refine ⟨?_, rfl⟩
  simp [reimportPkt, lockPktPreFix, newPkt]; omega

/-! ## non-vacuity / concrete evaluations -/

example : stripZeros [0, 0, 5, 0] = [5, 0] ∧ bitSize [5, 0] = 11 ∧ mpiWrite [5, 0] = [0, 11, 5, 0] := by decide
example : mpiRead [0, 11, 5, 0, 9] = some ([5, 0], [9]) ∧ mpiRead [0, 9, 0, 0xFF] = some ([0xFF], []) := by decide
example : padKey 4 [1, 2] = some [0, 0, 1, 2] ∧ padKey 1 [1, 2] = none := by decide
example : mpiRead [0x40, 0x01] = none ∧ mpiRead [0, 9, 1] = none := by decide
/-- a v6 key with one signing and one encryption subkey: the shape verifies under the toy primitive -/
example :
    let p : GenParams :=
      { version := 6, keyType := .ed25519, flags := { certify := true, sign := true }, prefs := { sym := [] },
        created := 0, primaryUid := some [65], uids := [[66]],
        subkeys := [{ version := 6, keyType := .ed448, canSign := true }, { version := 6, keyType := .x25519, canEncrypt := .all }] }
    let r : GenRand Nat := { primarySec := 1, subSecs := [2, 3], salt := fun _ => [0], now := 5 }
    supported p = true ∧
    (match generate toyPrims p r with
     | .ok c => verifyBindingsPublic (checksOf toyPrims) c && c.direct.length == 1 && c.users.length == 2 && c.subkeys.length == 2
     | .error _ => false) = true := by decide

end Rpgp.C07
