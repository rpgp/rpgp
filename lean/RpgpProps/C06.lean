import RpgpProofs.SignVerify
import RpgpProofs.SignVerifyCleartext
import RpgpProofs.Message
import RpgpModel.Gen.Constants
/-!
# C06 — signature completeness: what any signing API signs, every verify API accepts

Model: `RpgpModel/SignVerify.lean` (namespace `Rpgp.SV`): for every signing interface the byte
string it feeds to the digest as a function of the payload, and for every verifying interface
likewise, kept separate where the code has two implementations (streaming `NormalizingHasher` on
the sign side and for inline verification; `NormalizedReader` for detached verification and
cleartext signing; `normalize_lines` for `new_many` / `signed_text`).  Canonicalisation itself is
the C14 layer (`Canon.lean`), reused here through `hashedText_eq_canon`, `normalizedRead_eq_canon`,
`replaceNewlines_crlf`.

Every theorem quantifies over ALL payloads, ALL chunkings / read schedules of the source, all
window / buffer sizes > 0, v4 and v6 configurations, any public-key algorithm and hash (they are
octets of the configuration), any number of signers.

The two cleartext defects of the original snapshot (D6b: sign hashed the untrimmed text; D16b: a
final lone CR was lost in the armored round trip) are repaired in this tree (commits 0bd5542,
39f6afe); `cleartext_agree` and `roundtrip_preserves_verify` are therefore stated and proved at full
strength: no guard `NoTrailingBlank` / `¬EndsWithCR` on the text.
-/
namespace Rpgp.C06
open Rpgp Rpgp.SV

/-! ## constants re-extracted from the sources on every run -/

/-- RFC 9580 §5.2.1: binary document = 0x00, canonical text document = 0x01 -/
theorem sig_type_ids_rfc : Gen.sigTypeBinary = 0 ∧ Gen.sigTypeText = 1 := by decide

/-- RFC 9580 §5.2.4: trailer = version, 0xFF, four-octet length (at offset 2) -/
theorem trailer_layout_rfc : Gen.sigTrailerMarker = 255 ∧ Gen.sigTrailerLenOffset = 2 := by decide

/-- the certification prefix octets of the sign site (`config.rs`) and of the verify site
(`types.rs`) are the same … -/
theorem cert_prefix_sites_agree :
    Gen.certPrefixUidSign = Gen.certPrefixUidVerify ∧ Gen.certPrefixAttrSign = Gen.certPrefixAttrVerify := by decide

/-- … and are the RFC's 0xB4 / 0xD1 -/
theorem cert_prefix_rfc : Gen.certPrefixUidVerify = 0xB4 ∧ Gen.certPrefixAttrVerify = 0xD1 := by decide

/-- key framing octets 0x99 (v4) / 0x9B (v6) -/
theorem key_frame_rfc : Gen.keyFrameV4 = 0x99 ∧ Gen.keyFrameV6 = 0x9B := by decide

/-- the window of `NormalizedReader` and the read size of inline verification are positive (the
theorems below hold for every positive value; these are the instances the code uses) -/
theorem extracted_sizes_ok : 0 < Gen.normalizedReaderWindow ∧ 0 < Gen.signedManyBufferSize := by decide

/-! ## the streaming hasher in both modes, for every chunking -/

/-- binary mode: the digest sees the concatenation of the chunks -/
theorem hasher_binary_is_identity (chunks : List Bytes) : hasherFeed false chunks = chunks.flatten :=
  hasherFeed_false chunks

/-- text mode: the digest sees `canon` of the concatenation of the chunks -/
theorem hasher_text_is_canon (chunks : List Bytes) : hasherFeed true chunks = canon chunks.flatten :=
  hasherFeed_true chunks

/-- the pre-image determines the hashed data (same configuration): nothing is lost by framing -/
theorem preimage_data_injective (c : SigCfg) (d d' : Bytes) (h : preimage c d = preimage c d') : d = d' := by
  unfold preimage at h
  rw [List.append_assoc, List.append_assoc] at h
  exact List.append_cancel_right (List.append_cancel_left h)

/-! ## sign side: every data-signing interface hashes the same function of the payload -/

/-- `SignatureConfig::sign`: for every read schedule `src` of the data -/
theorem sign_config_input (kv : Nat) (c : SigCfg) (src : List Bytes) :
    signConfig kv c src =
      if signAligned kv c.ver && dataSigType c.typ then some (preimage c (dataHashed c.textMode src.flatten))
      else none :=
  signConfig_eq kv c src

/-- … hence independent of how the source delivers the data -/
theorem sign_chunk_indep (kv : Nat) (c : SigCfg) (src src' : List Bytes) (h : src.flatten = src'.flatten) :
    signConfig kv c src = signConfig kv c src' := by
  rw [sign_config_input, sign_config_input, h]

/-- `DetachedSignature::sign_binary_data` hashes the data, `sign_text_data` its canonical form,
under a configuration of the signer's key version -/
theorem sign_detached_input (text : Bool) (kv : Nat) (hkv : kv = 4 ∨ kv = 6) (c : SigCfg) (src : List Bytes) :
    signDetached text kv c src =
      some (preimage { c with ver := kv, typ := if text then Gen.sigTypeText else Gen.sigTypeBinary }
        (dataHashed text src.flatten)) := by
  unfold signDetached
  rw [if_pos hkv, sign_config_input]
  have hal : signAligned kv kv = true := by rcases hkv with h | h <;> subst h <;> decide
  have hbt : isText Gen.sigTypeBinary = false := by decide
  have htt : isText Gen.sigTypeText = true := by decide
  have hdb : dataSigType Gen.sigTypeBinary = true := by decide
  have hdt : dataSigType Gen.sigTypeText = true := by decide
  cases text
  · simp [hal, SigCfg.textMode, hbt, hdb]
  · simp [hal, SigCfg.textMode, htt, hdt]

/-- `MessageBuilder` with any number of signers: each signer's hasher sees what
`SignatureConfig::sign` would see for the same source -/
theorem sign_builder_input (signers : List (Nat × SigCfg)) (src : List Bytes) :
    signBuilder signers src = signers.map fun s =>
      if signAligned s.1 s.2.ver && dataSigType s.2.typ then
        some (preimage s.2 (dataHashed s.2.textMode src.flatten))
      else none := by
  unfold signBuilder
  apply List.map_congr_left
  intro s _
  exact sign_config_input s.1 s.2 src

/-- the sign-side guard (signature version = key version ∈ {4, 6}) implies the verify-side
version-alignment guard -/
theorem sign_guard_implies_verify_guard (kv sv : Nat) (h : signAligned kv sv = true) :
    verifyAligned kv sv = true :=
  signAligned_verifyAligned kv sv h

/-! ## verify side -/

/-- `Signature::verify` / `DetachedSignature::verify`: for every window `W > 0` and every read
schedule of the data -/
theorem verify_detached_input (W : Nat) (hW : 0 < W) (kv : Nat) (c : SigCfg) (src : List Bytes)
    (hsrc : AllNonEmpty src) :
    verifyDetached W kv c src =
      if verifyAligned kv c.ver && dataSigType c.typ then some (preimage c (dataHashed c.textMode src.flatten))
      else none :=
  verifyDetached_eq W hW kv c src hsrc

/-- inline verification of a one-pass signed message: for every read size `B > 0` -/
theorem verify_inline_ops_input (B : Nat) (hB : 0 < B) (c : SigCfg) (hc : WFCfg c) (body : Bytes) :
    verifyInlineOps B (opsOf c) c body = some (preimage c (dataHashed c.textMode body)) :=
  verifyInlineOps_eq B hB c hc body

/-- inline verification of a prefixed signature packet -/
theorem verify_inline_sig_input (B : Nat) (hB : 0 < B) (c : SigCfg) (body : Bytes) :
    verifyInlineSig B c body = some (preimage c (dataHashed c.textMode body)) :=
  verifyInlineSig_eq B hB c body

/-! ## headline: sign-side and verify-side computations agree on EVERY input, for every pairing -/

/-- **Data signatures, all pairings.**  Whatever `SignatureConfig::sign` (hence the detached
interfaces and every signer of the message builder) hashed for a payload delivered as `src`, each
of the three verifying paths — `Signature::verify` over any read schedule `src'` of the same
payload, inline verification through the one-pass packet, inline verification of a prefixed
signature packet — hashes exactly the same bytes. -/
theorem data_signature_agree (W B : Nat) (hW : 0 < W) (hB : 0 < B) (kv : Nat) (c : SigCfg) (hc : WFCfg c)
    (src src' : List Bytes) (hsrc' : AllNonEmpty src') (hflat : src.flatten = src'.flatten)
    (p : Bytes) (hsign : signConfig kv c src = some p) :
    verifyDetached W kv c src' = some p ∧
    verifyInlineOps B (opsOf c) c src'.flatten = some p ∧
    verifyInlineSig B c src'.flatten = some p := by
  obtain ⟨hal, hty, rfl⟩ := signConfig_some kv c src p hsign
  rw [hflat]
  refine ⟨?_, verify_inline_ops_input B hB c hc _, verify_inline_sig_input B hB c _⟩
  rw [verify_detached_input W hW kv c src' hsrc', signAligned_verifyAligned _ _ hal, hty]
  rfl

/-- `sign_verify_agree_binary`: both sides hash the bytes of the document -/
theorem sign_verify_agree_binary (W B : Nat) (hW : 0 < W) (hB : 0 < B) (kv : Nat) (c : SigCfg) (hc : WFCfg c)
    (hbin : c.typ = Gen.sigTypeBinary) (hal : signAligned kv c.ver = true)
    (src src' : List Bytes) (hsrc' : AllNonEmpty src') (hflat : src.flatten = src'.flatten) :
    signConfig kv c src = some (preimage c src.flatten) ∧
    verifyDetached W kv c src' = some (preimage c src.flatten) ∧
    verifyInlineOps B (opsOf c) c src'.flatten = some (preimage c src.flatten) ∧
    verifyInlineSig B c src'.flatten = some (preimage c src.flatten) := by
  have hs := signConfig_of_guards kv c src hal (by rw [hbin]; decide)
  rw [show c.textMode = false by rw [SigCfg.textMode, hbin]; decide] at hs
  exact ⟨hs, data_signature_agree W B hW hB kv c hc src src' hsrc' hflat _ hs⟩

/-- `sign_verify_agree_text`: for every document and every chunking on either side, both sides hash
`canon` of the document (unconditional since the `done` defect D6a is repaired: hasher = reader =
canon) -/
theorem sign_verify_agree_text (W B : Nat) (hW : 0 < W) (hB : 0 < B) (kv : Nat) (c : SigCfg) (hc : WFCfg c)
    (htext : c.typ = Gen.sigTypeText) (hal : signAligned kv c.ver = true)
    (src src' : List Bytes) (hsrc' : AllNonEmpty src') (hflat : src.flatten = src'.flatten) :
    signConfig kv c src = some (preimage c (canon src.flatten)) ∧
    verifyDetached W kv c src' = some (preimage c (canon src.flatten)) ∧
    verifyInlineOps B (opsOf c) c src'.flatten = some (preimage c (canon src.flatten)) ∧
    verifyInlineSig B c src'.flatten = some (preimage c (canon src.flatten)) := by
  have hs := signConfig_of_guards kv c src hal (by rw [htext]; decide)
  rw [show c.textMode = true by rw [SigCfg.textMode, htext]; decide] at hs
  exact ⟨hs, data_signature_agree W B hW hB kv c hc src src' hsrc' hflat _ hs⟩

/-- a text signature does not depend on the line-ending convention of the copy that is verified:
signing the LF form and verifying the CRLF form (or any mixture with the same canonical form)
agree -/
theorem text_signature_line_ending_indep (W : Nat) (hW : 0 < W) (kv : Nat) (c : SigCfg)
    (htext : c.typ = Gen.sigTypeText) (src src' : List Bytes) (hsrc' : AllNonEmpty src')
    (hcanon : canon src.flatten = canon src'.flatten) (p : Bytes) (hsign : signConfig kv c src = some p) :
    verifyDetached W kv c src' = some p := by
  obtain ⟨hal, hty, rfl⟩ := signConfig_some kv c src p hsign
  rw [verify_detached_input W hW kv c src' hsrc', signAligned_verifyAligned _ _ hal, hty,
    show c.textMode = true by rw [SigCfg.textMode, htext]; decide]
  exact congrArg (fun d => some (preimage c d)) hcanon.symm

/-- the single `preimage` function that the message model of C01 (`MsgPrims.preimage`, used by both
`signedStream` and `readSigned`) takes as a parameter is what both sides of the code compute:
builder side over any source chunking, reader side over any read size -/
theorem inline_preimage_is_one_function (B : Nat) (hB : 0 < B) (kv : Nat) (c : SigCfg) (hc : WFCfg c)
    (hal : signAligned kv c.ver = true) (hty : dataSigType c.typ = true)
    (src : List Bytes) (payload : Bytes) (hflat : src.flatten = payload) :
    (signBuilder [(kv, c)] src).head? = some (some (preimage c (dataHashed c.textMode payload))) ∧
    verifyInlineOps B (opsOf c) c payload = some (preimage c (dataHashed c.textMode payload)) := by
  refine ⟨?_, verify_inline_ops_input B hB c hc payload⟩
  rw [← hflat]
  exact congrArg some (signConfig_of_guards kv c src hal hty)

/-! ## the signature object: verification succeeds -/

/-- `signed_hash_value` check and the public-key check both pass on the pre-image that was signed -/
theorem check_of_mk (P : SigPrims) (L : SigPrimLaws P) (c : SigCfg) (pre : Bytes) :
    checkSignature P (mkSignature P c pre) pre = true := by
  simp [checkSignature, mkSignature, L.verify_sign]

/-- **Completeness for data signatures.**  A signature produced by `SignatureConfig::sign` (detached
binary/text, low level, or any signer of the message builder) over a payload verifies through
`Signature::verify`, through inline verification with its one-pass packet, and as a prefixed
signature packet — for every payload, chunking, window and buffer size. -/
theorem data_signature_complete (P : SigPrims) (L : SigPrimLaws P) (W B : Nat) (hW : 0 < W) (hB : 0 < B)
    (kv : Nat) (c : SigCfg) (hc : WFCfg c) (src src' : List Bytes) (hsrc' : AllNonEmpty src')
    (hflat : src.flatten = src'.flatten) (s : SigPacket) (hsign : signWith P c (signConfig kv c src) = some s) :
    verifyWith P s (verifyDetached W kv s.cfg src') = true ∧
    verifyWith P s (verifyInlineOps B (opsOf s.cfg) s.cfg src'.flatten) = true ∧
    verifyWith P s (verifyInlineSig B s.cfg src'.flatten) = true := by
  obtain ⟨p, hp, rfl⟩ := signWith_some P c _ s hsign
  obtain ⟨h1, h2, h3⟩ := data_signature_agree W B hW hB kv c hc src src' hsrc' hflat p hp
  show verifyWith P _ (verifyDetached W kv c src') = true ∧
    verifyWith P _ (verifyInlineOps B (opsOf c) c src'.flatten) = true ∧
    verifyWith P _ (verifyInlineSig B c src'.flatten) = true
  rw [h1, h2, h3]
  exact ⟨check_of_mk P L c p, check_of_mk P L c p, check_of_mk P L c p⟩

/-- … and through the signed layer of the message model of C01: the signed stream the builder writes
with this pre-image function is read back with the payload intact and every signature verified
(`readSigned_signedStream`, instantiated at the pre-image both sides were shown to compute; with the
compression and encryption layers around it: `C01.message_roundtrip_preimage_instantiated`) -/
theorem message_sign_verify_roundtrip (base : MsgPrims) (cfgs : Nat → SigCfg)
    (LS : SigLaws { base with preimage := fun i d => preimage (cfgs i) (dataHashed (cfgs i).textMode d) })
    (c : MsgCfg) (payload : Bytes)
    (hk : ∀ k, c.lit = .part k → 9 ≤ k ∧ k ≤ 30 ∧ c.litHdr.length ≤ 2 ^ k)
    (hlen : c.litHdr.length + payload.length < 4294967296)
    (hops : ∀ i ∈ c.signers, (base.opsBody i).length < 4294967296)
    (hsig : ∀ i ∈ c.signers,
      (base.sigBody i (preimage (cfgs i) (dataHashed (cfgs i).textMode payload))).length < 4294967296) :
    readSigned { base with preimage := fun i d => preimage (cfgs i) (dataHashed (cfgs i).textMode d) }
        c.litHdr.length c.signers
        (signedStream { base with preimage := fun i d => preimage (cfgs i) (dataHashed (cfgs i).textMode d) } c payload) =
      some { payload := payload, verified := List.replicate c.signers.length true } :=
  readSigned_signedStream _ LS c payload hk hlen hops hsig

/-! ## cleartext signature framework -/

/-- `CleartextSignedMessage::{sign, new}` hash the canonical form of the text with the trailing
blanks of every line removed (for every window and copy granularity) -/
theorem cleartext_sign_input (W k : Nat) (hW : 0 < W) (hk : 0 < k) (kv : Nat) (c : SigCfg) (t : Bytes) :
    signCleartextNew W k kv c t =
      if signAligned kv c.ver && dataSigType c.typ then some (preimage c (canon (trimLines t))) else none :=
  signCleartextNew_eq W k hW hk kv c t

/-- `new_many` with the standard closure: the same -/
theorem cleartext_many_input (k : Nat) (hk : 0 < k) (kv : Nat) (c : SigCfg) (t : Bytes) :
    signCleartextMany k kv c t =
      if signAligned kv c.ver && dataSigType c.typ then some (preimage c (canon (trimLines t))) else none :=
  signCleartextMany_eq k hk kv c t

/-- the two cleartext signing entry points agree with each other on every text -/
theorem cleartext_sign_interfaces_agree (W k k' : Nat) (hW : 0 < W) (hk : 0 < k) (hk' : 0 < k')
    (kv : Nat) (c : SigCfg) (t : Bytes) :
    signCleartextNew W k kv c t = signCleartextMany k' kv c t := by
  rw [cleartext_sign_input W k hW hk, cleartext_many_input k' hk']

/-- `dash_unescape_and_trim ∘ dash_escape` is per-line trimming, for every text -/
theorem unescape_escape_is_trim (t : Bytes) : dashUnescapeTrim (dashEscape t) = trimLines t :=
  dashUnescapeTrim_dashEscape t

/-- `CleartextSignedMessage::verify` on the message object that signing produced hashes the
canonical form of the trimmed text -/
theorem cleartext_verify_input (W : Nat) (hW : 0 < W) (kv : Nat) (c : SigCfg) (t : Bytes) :
    verifyCleartext W kv c (dashEscape t) =
      if verifyAligned kv c.ver && dataSigType c.typ then some (preimage c (canon (trimLines t))) else none := by
  rw [verifyCleartext_eq W hW, unescape_escape_is_trim]

/-- **`cleartext_agree`** (full statement; no guard `NoTrailingBlank` is needed since the repair of
D6b): for EVERY text the cleartext verify computation hashes what the cleartext sign computation
hashed -/
theorem cleartext_agree (W k : Nat) (hW : 0 < W) (hk : 0 < k) (kv : Nat) (c : SigCfg)
    (hal : signAligned kv c.ver = true) (hty : dataSigType c.typ = true) (t : Bytes) :
    verifyCleartext W kv c (dashEscape t) = signCleartextNew W k kv c t := by
  rw [cleartext_verify_input W hW, cleartext_sign_input W k hW hk, hal, hty,
    signAligned_verifyAligned _ _ hal]

/-- the D6b witnesses (a blank before a line end): sign and verify agree on them -/
theorem cleartext_former_witnesses_agree (W k : Nat) (hW : 0 < W) (hk : 0 < k) (kv : Nat) (c : SigCfg)
    (hal : signAligned kv c.ver = true) (hty : dataSigType c.typ = true) :
    verifyCleartext W kv c (dashEscape [97, 98, 99, SP, LF, 120]) = signCleartextNew W k kv c [97, 98, 99, SP, LF, 120] ∧
    verifyCleartext W kv c (dashEscape [97, 98, 99, TAB, LF]) = signCleartextNew W k kv c [97, 98, 99, TAB, LF] :=
  ⟨cleartext_agree W k hW hk kv c hal hty _, cleartext_agree W k hW hk kv c hal hty _⟩

/-- trailing blanks are not part of the signed text (RFC 9580 §7.2): texts with the same trimmed
form are signed identically -/
theorem cleartext_trailing_blanks_not_signed (W k : Nat) (hW : 0 < W) (hk : 0 < k) (kv : Nat) (c : SigCfg)
    (t t' : Bytes) (h : trimLines t = trimLines t') :
    signCleartextNew W k kv c t = signCleartextNew W k kv c t' := by
  rw [cleartext_sign_input W k hW hk, cleartext_sign_input W k hW hk, h]

/-- on texts without trailing blanks the signed bytes are the canonical form of the text itself -/
theorem cleartext_sign_input_no_trailing_blank (W k : Nat) (hW : 0 < W) (hk : 0 < k) (kv : Nat) (c : SigCfg)
    (t : Bytes) (hnb : NoTrailingBlank t) :
    signCleartextNew W k kv c t =
      if signAligned kv c.ver && dataSigType c.typ then some (preimage c (canon t)) else none := by
  rw [cleartext_sign_input W k hW hk, trimLines_of_noTrailingBlank t hnb]

/-! ### serialize, armor, parse again -/

/-- **`roundtrip_preserves_verify`, body part** (full statement since the repair of D16b): for
EVERY text and every signature block that begins with the five dashes of an armor header line,
`from_string(to_armored_string(m))` has exactly the escaped text of `m` — including a final lone
CR, which the writer protects with a CR LF terminator. -/
theorem cleartext_body_roundtrip (t sigBlock : Bytes) (hsig : startsWith sigBlock dashes5 = true) :
    armorRoundTripCsf (dashEscape t) sigBlock = some (dashEscape t) :=
  armorRoundTripCsf_dashEscape t sigBlock hsig

/-- hence the verify input after the armored round trip is the verify input before it -/
theorem roundtrip_preserves_verify (W : Nat) (kv : Nat) (c : SigCfg) (t sigBlock : Bytes)
    (hsig : startsWith sigBlock dashes5 = true) :
    (armorRoundTripCsf (dashEscape t) sigBlock).map (verifyCleartext W kv c) =
      some (verifyCleartext W kv c (dashEscape t)) := by
  rw [cleartext_body_roundtrip t sigBlock hsig]; rfl

/-- the D16b witness `"a\r"` comes back intact -/
theorem roundtrip_former_witness (sigBlock : Bytes) (hsig : startsWith sigBlock dashes5 = true) :
    armorRoundTripCsf (dashEscape [97, CR]) sigBlock = some [97, CR] := by
  rw [cleartext_body_roundtrip _ _ hsig]; decide

/-- **Completeness of the cleartext framework**, for EVERY text: sign (`sign`/`new`), then `verify`
directly, and `to_armored_string`, `from_string`, `verify` — both succeed. -/
theorem cleartext_complete (P : SigPrims) (L : SigPrimLaws P) (W k : Nat) (hW : 0 < W) (hk : 0 < k)
    (kv : Nat) (c : SigCfg) (t sigBlock : Bytes) (hsig : startsWith sigBlock dashes5 = true)
    (s : SigPacket) (hsign : signWith P c (signCleartextNew W k kv c t) = some s) :
    verifyWith P s (verifyCleartext W kv s.cfg (dashEscape t)) = true ∧
    ((armorRoundTripCsf (dashEscape t) sigBlock).map fun csf => verifyWith P s (verifyCleartext W kv s.cfg csf))
      = some true := by
  obtain ⟨p, hp, rfl⟩ := signWith_some P c _ s hsign
  obtain ⟨hal, hty, _⟩ := signConfig_some kv c _ p hp
  have hdirect : verifyWith P (mkSignature P c p) (verifyCleartext W kv c (dashEscape t)) = true := by
    rw [cleartext_agree W k hW hk kv c hal hty t, hp]
    exact check_of_mk P L c p
  refine ⟨hdirect, ?_⟩
  rw [cleartext_body_roundtrip t sigBlock hsig]
  exact congrArg some hdirect

/-! ## key and certificate self-signatures -/

/-- certification (user id / user attribute): the verify side announces `write_len()`, the sign side
the length of what `to_writer` produced; they agree whenever `write_len` is truthful (C05) -/
theorem cert_agree (c : SigCfg) (kv : Nat) (key : Ser) (attr : Bool) (id : Ser)
    (hlen : id.writeLen = id.bytes.length) :
    verifyCert c kv key attr id = signCert c kv key attr id := by
  unfold verifyCert signCert
  rw [hlen, cert_prefix_sites_agree.1, cert_prefix_sites_agree.2]

/-- … and ONLY then (the prefix length is hashed): an untruthful `write_len` would break
certification verification -/
theorem cert_agree_iff (c : SigCfg) (kv : Nat) (key : Ser) (attr : Bool) (id : Ser)
    (h1 : id.writeLen < 4294967296) (h2 : id.bytes.length < 4294967296) :
    verifyCert c kv key attr id = signCert c kv key attr id ↔ id.writeLen = id.bytes.length := by
  constructor
  · intro h
    unfold verifyCert signCert at h
    rw [cert_prefix_sites_agree.1, cert_prefix_sites_agree.2] at h
    simp only [List.append_assoc, List.cons_append] at h
    have h := (List.cons.inj (List.append_cancel_left (List.append_cancel_left h))).2
    exact be32_inj _ _ h1 h2 (List.append_inj h (by rw [be32_length, be32_length])).1
  · exact cert_agree c kv key attr id

/-- subkey binding: both sides hash primary frame ‖ subkey frame -/
theorem subkey_binding_agree (c : SigCfg) (pv : Nat) (prim : Ser) (sv : Nat) (sub : Ser) :
    verifySubkeyBinding c pv prim sv sub = signSubkeyBinding c pv prim sv sub := rfl

/-- primary key binding (back signature): both sides hash primary frame ‖ subkey frame, although the
roles signer/signee are swapped in the two APIs -/
theorem primary_key_binding_agree (c : SigCfg) (pv : Nat) (prim : Ser) (sv : Nat) (sub : Ser) :
    verifyPrimaryKeyBinding c pv prim sv sub = signPrimaryKeyBinding c pv prim sv sub := rfl

/-- direct key signatures and key revocations -/
theorem key_signature_agree (c : SigCfg) (kv : Nat) (key : Ser) :
    verifyKey c kv key = signKey c kv key := rfl

/-- completeness for the four kinds: the signature made over the sign-side pre-image passes the
check against the verify-side pre-image -/
theorem key_signatures_complete (P : SigPrims) (L : SigPrimLaws P) (c : SigCfg) (pv : Nat) (prim : Ser)
    (sv : Nat) (sub : Ser) (attr : Bool) (id : Ser) (hlen : id.writeLen = id.bytes.length) :
    checkSignature P (mkSignature P c (signCert c pv prim attr id)) (verifyCert c pv prim attr id) = true ∧
    checkSignature P (mkSignature P c (signSubkeyBinding c pv prim sv sub)) (verifySubkeyBinding c pv prim sv sub) = true ∧
    checkSignature P (mkSignature P c (signPrimaryKeyBinding c pv prim sv sub)) (verifyPrimaryKeyBinding c pv prim sv sub) = true ∧
    checkSignature P (mkSignature P c (signKey c pv prim)) (verifyKey c pv prim) = true := by
  rw [cert_agree c pv prim attr id hlen, subkey_binding_agree, primary_key_binding_agree, key_signature_agree]
  exact ⟨check_of_mk P L c _, check_of_mk P L c _, check_of_mk P L c _, check_of_mk P L c _⟩

/-! ## non-vacuity and concrete evaluations of the executable model -/

/-- toy primitives satisfying the law -/
def toyPrims : SigPrims where
  hash := fun x => x.length.toUInt8 :: x.take 3
  pkSign := fun d => d.reverse
  pkVerify := fun d s => s == d.reverse

example : SigPrimLaws toyPrims := ⟨fun _ => beq_self_eq_true _⟩

def cfg4 : SigCfg := { ver := 4, typ := 1, pk := 27, hash := 8, salt := [], area := [5, 2, 0, 0, 0, 1] }
def cfg6 : SigCfg := { ver := 6, typ := 0, pk := 27, hash := 10, salt := [1, 2, 3], area := [] }

example : WFCfg cfg4 ∧ WFCfg cfg6 := by decide +kernel
example : signAligned 4 cfg4.ver = true ∧ dataSigType cfg4.typ = true := by decide +kernel
example : AllNonEmpty [[97, CR], [LF]] := by intro c hc; simp at hc; rcases hc with rfl | rfl <;> simp
/-- v4 text signature over "a\n" delivered in two chunks: canon, fields with u16 area length, trailer -/
example : signConfig 4 cfg4 [[97], [LF]] =
    some [97, CR, LF, 4, 1, 27, 8, 0, 6, 5, 2, 0, 0, 0, 1, 4, 255, 0, 0, 0, 12] := by
  rw [sign_config_input]; decide +kernel
/-- v6 binary signature: salt first, u32 area length -/
example : signConfig 6 cfg6 [[97, LF]] =
    some [1, 2, 3, 97, LF, 6, 0, 27, 10, 0, 0, 0, 0, 6, 255, 0, 0, 0, 8] := by
  rw [sign_config_input]; decide +kernel
example : signConfig 6 cfg4 [[97]] = none := by rw [sign_config_input]; decide +kernel
example : dashEscape [DASH, 97, LF, 98, LF, DASH] = [DASH, SP, DASH, 97, LF, 98, LF, DASH, SP, DASH] := by decide +kernel
example : dashUnescapeTrim [DASH, SP, DASH, 97, SP, TAB, CR, LF, 98, SP] = [DASH, 97, CR, LF, 98] := by decide +kernel
example : readCleartextBody ([97, CR, LF] ++ dashes5 ++ [66, LF]) = some ([97], dashes5 ++ [66, LF]) := by decide +kernel
example : startsWith (dashes5 ++ [66]) dashes5 = true := by decide +kernel

end Rpgp.C06
