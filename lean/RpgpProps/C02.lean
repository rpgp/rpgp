import RpgpProofs.SoundToy
import RpgpProofs.Wire
/-!
# C02 — signature soundness: only the signed content under the signer's key verifies

Model: `RpgpModel/Sound.lean` (namespace `Rpgp.Sound`) — every verification entry point of rpgp as
the ordered list of guards the code applies, followed by the left-16 comparison and the
public-key verification of the digest of the pre-image.  The pre-images are those of
`RpgpModel/SigDigest.lean` (C11), canonicalisation is `canon` (C14), the cleartext signed form is
`SV.signedText` (C06), the parsed packet is `Wire.Sig` (C05).  Hash function and public-key
primitive are parameters (`Sound.Prims`).

Shape of the argument (every theorem is over ALL keys, packets, subjects, hash functions and
primitives):

1. **injectivity** (`preimage_injective_*`, shared with C11): the hashed octet string determines
   document (or `canon` of it for text signatures), type, both algorithm octets, hashed area, salt,
   key bodies and identity body — for v4, for v6, across v4 / v6, and a v3 pre-image equals a v4 /
   v6 one only for the type octet 0xFF, which no entry point accepts;
2. **reduction** (`verify_sound_*`): under `Unforgeable` (signing-oracle log), `LogHonest`,
   `CollisionFreeOn` (on the two pre-images), a successful verification implies that exactly this
   (subject, hashed fields) was honestly signed under exactly this key material; the corollaries
   (`*_mutation_is_error`, `key_substitution_is_error`) are the mutation classes of the property;
3. **guards** (`verify_guards_*`, `left16_checked_*`, `inline_none_slot_is_error`,
   `ops_mismatch_never_verifies`, `backsig_required`);
4. **what is not bound** (`unbound_*`): unhashed area (except through issuer subpackets and the
   embedded back-signature), MPI bit-count octets of the signature value, One-Pass issuer, packet
   framing; and what *is* bound since the two repairs the harness of this property led to
   (`hashed_area_*`: the parser refuses a hashed area that would be hashed in another form than
   received, D2a / c2573e8; `prefixed_sig_exact`: the message parser demands that a prefixed
   Signature / One-Pass Signature packet is consumed entirely, D2b / 11d69e3), with regression
   theorems on the former witnesses.

Not theorems (carried by the correspondence run): that the Rust functions compute what the model
functions compute; `write_len()` truthfulness of real keys / ids (`Ser.truthful` is a hypothesis);
that `Wire.sigParse` is the real parser (C05); EUF-CMA and collision resistance (hypotheses).
-/
namespace Rpgp.C02
open Rpgp Rpgp.SigDigest Rpgp.Sound

/-! ## constants re-extracted from the sources on every run -/

/-- the signature types each verify entry point accepts are the RFC's (RFC 9580 §5.2.1) -/
theorem verify_site_types_rfc :
    Gen.sndCertTypes = [0x10, 0x11, 0x12, 0x13, 0x30] ∧ Gen.sndSubkeyBindingTypes = [0x18, 0x28] ∧
    Gen.sndPrimaryKeyBindingTypes = [0x19] ∧ Gen.sndKeyTypes = [0x1F, 0x20] ∧
    Gen.sndInlineTypes = [0x00, 0x01] ∧ Gen.sndHashDataFullTypes = [0x00, 0x01] := by decide +kernel

/-- … and they are the ones the model's guards use (for every type octet) -/
theorem verify_site_types_are_model (t : Byte) :
    (isCertification t = Gen.sndCertTypes.contains t.toNat) ∧
    ((t == Gen.sdSigTypeSubkeyBinding.toUInt8 || t == Gen.sdSigTypeSubkeyRevocation.toUInt8) =
      Gen.sndSubkeyBindingTypes.contains t.toNat) ∧
    ((t == Gen.sdSigTypeKeyBinding.toUInt8) = Gen.sndPrimaryKeyBindingTypes.contains t.toNat) ∧
    ((t == Gen.sdSigTypeKey.toUInt8 || t == Gen.sdSigTypeKeyRevocation.toUInt8) =
      Gen.sndKeyTypes.contains t.toNat) ∧
    ((t == typBinary || t == typText) = Gen.sndInlineTypes.contains t.toNat) := by
  obtain ⟨h1, h2, h3, h4, h5, _⟩ := verify_site_types_rfc
  rw [h1, h2, h3, h4, h5]
  -- both sides become the same chain of comparisons of `t.toNat` with the type values
  simp +decide only [isCertification, typBinary, typText, beq_toUInt8, List.contains_cons, List.contains_nil,
    Bool.or_false, Bool.or_assoc]
  exact ⟨rfl, rfl, rfl, rfl, rfl⟩

/-- version alignment table at both sites: a v6 key ⇒ a v6 signature, a v6 signature ⇒ a v6 key -/
theorem alignment_table_rfc :
    Gen.sndAlignIfKey = 6 ∧ Gen.sndAlignThenSig = 6 ∧ Gen.sndAlignIfSig = 6 ∧ Gen.sndAlignThenKey = 6 ∧
    Gen.sndAlignInlineIfKey = 6 ∧ Gen.sndAlignInlineThenSig = 6 ∧ Gen.sndAlignInlineIfSig = 6 ∧
    Gen.sndAlignInlineThenKey = 6 := by decide

/-- the model's alignment guard is that table -/
theorem alignment_model (c : Cfg) (kv : Nat) :
    verifyAligned c kv =
      ((kv != Gen.sndAlignIfKey || c.ver == .v6) && (c.ver != .v6 || kv == Gen.sndAlignThenKey)) := by
  simp [verifyAligned, Gen.sndAlignIfKey, Gen.sndAlignThenKey]

/-- every entry point that hands a digest to the primitive first compares the stored two octets -/
theorem left16_compare_present :
    Gen.sndLeft16Data = 1 ∧ Gen.sndLeft16Cert = 1 ∧ Gen.sndLeft16SubkeyBinding = 1 ∧
    Gen.sndLeft16PrimaryKeyBinding = 1 ∧ Gen.sndLeft16Key = 1 ∧ Gen.sndLeft16Inline = 1 := by decide

/-- `match_identity` is applied by `verify`, `verify_(third_party_)certification`,
`verify_key(_third_party)` and the inline path, not by the two binding verifiers; the issuer
lists are read from both subpacket areas -/
theorem identity_sites :
    Gen.sndIdentityData = 1 ∧ Gen.sndIdentityCert = 1 ∧ Gen.sndIdentityKey = 1 ∧
    Gen.sndIdentitySubkeyBinding = 0 ∧ Gen.sndIdentityPrimaryKeyBinding = 0 ∧
    Gen.inlineChecksPreconditions = 1 ∧ Gen.sndIdentityBothAreasId = 1 ∧ Gen.sndIdentityBothAreasFp = 1 := by
  decide

/-- the salt size is compared with RFC 9580 table 23 in `Signature::verify`, in
`hash_signature_data` and in both arms of `new_hasher` -/
theorem salt_checks_present :
    Gen.sndSaltCheckVerify = 1 ∧ Gen.sndSaltCheckHsd = 1 ∧ Gen.sndSaltCheckNewHasher = 2 := by decide

/-- One-Pass Signature: versions 3 and 6, four compared fields, v3 pairs with v4, a mismatch
empties the slot, an empty slot is an error -/
theorem ops_constants :
    Gen.sndOpsV3 = 3 ∧ Gen.sndOpsV6 = 6 ∧ Gen.sndOpsMatchFields = 4 ∧ Gen.sndOpsPairV3V4 = 1 ∧
    Gen.sndOpsNoneOnMismatch = 1 ∧ Gen.sndInlineNoneIsError = 1 := by decide

/-- certificates: both subkey verifiers check the back-signature, all four user / attribute
verifiers refuse an empty signature list, cleartext and detached go through `Signature::verify` -/
theorem composed_sites :
    Gen.sndBacksigPublic = 1 ∧ Gen.sndBacksigSecret = 1 ∧ Gen.publicSubkeyChecksBacksig = 1 ∧
    Gen.sndUserNonEmpty = 4 ∧ Gen.sndCleartextViaVerify = 1 ∧ Gen.sndDetachedViaVerify = 1 := by decide

/-- no post-quantum algorithm is compiled in: the hash-strength guard never refuses -/
theorem strength_guard_inactive (c : Cfg) : Gen.sndPqcArms = 0 ∧ strengthOk c = true := by
  refine ⟨by decide, ?_⟩
  simp [strengthOk, isPqc, Gen.sndPqcArms]

/-- the digest covers the re-serialisation of the parsed hashed subpackets, and both signature
parsers refuse a hashed area that would be written back differently from what was received (D2a
repair); the message parser requires a prefixed Signature / One-Pass Signature packet to be
consumed entirely (D2b repair).  If either call disappears this theorem stops checking, and with
it `prefixed_sig_exact` / the C05 model (`Wire.areaParseCanon`) stop describing the code. -/
theorem code_as_it_stands :
    Gen.sndHashedReserialised = 1 ∧ Gen.sndHashedAreaCanonical = 1 ∧ Gen.sndMsgSigExhausted = 1 := by decide

/-! ## 1. the hashed octets determine what was signed -/

/-- version 4 (C11's theorem, restated because the property is claimed here) -/
theorem preimage_injective_v4 (a b : Spec.Input) (ha : a.ver = .v4) (hb : b.ver = .v4)
    (wa : Spec.WF a = true) (wb : Spec.WF b = true) (h : Spec.preimage a = Spec.preimage b) : a = b :=
  SigDigest.preimage_injective_v4 a b ha hb wa wb h

/-- version 6, salt included (its size is fixed by the recovered hash octet) -/
theorem preimage_injective_v6 (a b : Spec.Input) (ha : a.ver = .v6) (hb : b.ver = .v6)
    (wa : Spec.WF a = true) (wb : Spec.WF b = true) (h : Spec.preimage a = Spec.preimage b) : a = b :=
  SigDigest.preimage_injective_v6 a b ha hb wa wb h

/-- version 3: type, creation time, subject octets -/
theorem preimage_injective_v3 (a b : Spec.Input) (ha : a.ver = .v3) (hb : b.ver = .v3)
    (wa : Spec.WF a = true) (wb : Spec.WF b = true) (h : Spec.preimage a = Spec.preimage b) :
    a.typ = b.typ ∧ a.created = b.created ∧
      Spec.subjectBytes .v3 a.typ a.subject = Spec.subjectBytes .v3 b.typ b.subject :=
  SigDigest.preimage_injective_v3 a b ha hb wa wb h

/-- a v4 pre-image is never a v6 pre-image -/
theorem preimage_v4_ne_v6 (a b : Spec.Input) (ha : a.ver = .v4) (hb : b.ver = .v6) :
    Spec.preimage a ≠ Spec.preimage b := by
  -- the sixth octet from the end is the version octet of the trailer
  intro h
  simp only [Spec.preimage, ha, hb, Spec.trailerBytes] at h
  have := (List.append_inj' h (by simp [be32_length])).2
  simp at this

/-- injectivity over v4 and v6 together: the version is recovered too -/
theorem preimage_injective (a b : Spec.Input) (ha : a.ver ≠ .v3) (hb : b.ver ≠ .v3)
    (wa : Spec.WF a = true) (wb : Spec.WF b = true) (h : Spec.preimage a = Spec.preimage b) : a = b :=
  SigDigest.preimage_injective a b ha hb wa wb h

/-- a v3 pre-image coincides with a v4 / v6 one only if its type octet is 0xFF -/
theorem preimage_v3_collides_only_for_type_ff (a b : Spec.Input) (ha : a.ver = .v3) (hb : b.ver ≠ .v3)
    (h : Spec.preimage a = Spec.preimage b) : a.typ = 0xFF :=
  v3_tail_typ_ff b hb (Spec.subjectBytes .v3 a.typ a.subject) a.typ a.created (by rw [← h, Spec.preimage, ha])

/-- text documents: equal pre-images ⇔ equal canonical forms (the documented equivalence) -/
theorem doc_text_equiv (i : Spec.Input) (d d' : Bytes) (ht : i.typ = 0x01) :
    Spec.preimage { i with subject := .document d } = Spec.preimage { i with subject := .document d' } ↔
      canon d = canon d' :=
  doc_text_iff i d d' ht

/-- binary documents: equal pre-images ⇔ equal documents -/
theorem doc_binary_equiv (i : Spec.Input) (d d' : Bytes) (ht : i.typ ≠ 0x01) :
    Spec.preimage { i with subject := .document d } = Spec.preimage { i with subject := .document d' } ↔
      d = d' :=
  doc_binary_iff i d d' ht

/-- **the serializer establishes the well-formedness predicate** of the injectivity theorems:
whatever `Signature::verify` hashes for a v4 / v6 document signature is the RFC pre-image of a
well-formed input (the document in its canonical representative for text signatures) -/
theorem verify_data_hashes_wellformed (hk : Byte → Bool) (k : VKey) (s : Sig) (d p : Bytes)
    (hv : s.cfg.ver ≠ .v3) (hty : s.cfg.typ = typBinary ∨ s.cfg.typ = typText)
    (h : dataPre hk k s d = .ok p) :
    p = Spec.preimage (s.cfg.toInput (.document (docRep s.cfg.typ d))) ∧
    Spec.WF (s.cfg.toInput (.document (docRep s.cfg.typ d))) = true := by
  obtain ⟨hE, hcl⟩ := verifyData_established s.cfg k.ver d p hty (dataPre_ok hk k s d p h).digest
  exact ⟨hE.1, hE.wf hcl (docRep_canonical s.cfg.typ d) fun e => absurd e hv⟩

/-- the same for certifications (key + User ID / User Attribute) -/
theorem verify_cert_hashes_wellformed (hk : Byte → Bool) (signer : VKey) (signee : Key) (s : Sig) (tag : Nat)
    (id : Ser) (p : Bytes) (hv : s.cfg.ver ≠ .v3) (ht : signee.ser.truthful) (hi : id.truthful)
    (h : certPre hk signer signee s tag id = .ok p) :
    p = Spec.preimage (s.cfg.toInput (.certification signee.toSpec (tag == tagUserAttribute) id.bytes)) ∧
    Spec.WF (s.cfg.toInput (.certification signee.toSpec (tag == tagUserAttribute) id.bytes)) = true := by
  obtain ⟨hE, hcl⟩ := verifyCertification_eq_spec s.cfg signer.ver signee tag id p
    (certPre_ok hk signer signee s tag id p h).digest ht hi
  exact ⟨hE.1, hE.wf hcl (fun _ hd => nomatch hd) fun e => absurd e hv⟩

/-- … and for subkey bindings (primary + subkey) -/
theorem verify_binding_hashes_wellformed (hk : Byte → Bool) (primary : VKey) (sub : Key) (s : Sig) (p : Bytes)
    (hv : s.cfg.ver ≠ .v3) (tp : primary.ser.truthful) (ts : sub.ser.truthful)
    (h : subkeyBindingPre hk primary sub s = .ok p) :
    p = Spec.preimage (s.cfg.toInput (.binding primary.toKey.toSpec sub.toSpec)) ∧
    Spec.WF (s.cfg.toInput (.binding primary.toKey.toSpec sub.toSpec)) = true := by
  obtain ⟨hE, hcl⟩ := verifySubkeyBinding_eq_spec s.cfg primary.toKey sub p
    (subkeyBindingPre_ok hk primary sub s p h).digest tp ts
  exact ⟨hE.1, hE.wf hcl (fun _ hd => nomatch hd) fun e => absurd e hv⟩

/-- what rpgp's data signer hashes is an honest input in the sense of `HonestInputs` -/
theorem sign_data_is_honest_input (c : Cfg) (sv : Nat) (chunks : List Bytes) (p : Bytes)
    (h : signData c sv chunks = some p) :
    c.ver ≠ .v3 ∧ p = Spec.preimage (c.toInput (.document (docRep c.typ chunks.flatten))) ∧
    Spec.WF (c.toInput (.document (docRep c.typ chunks.flatten))) = true := by
  obtain ⟨hE, hcl⟩ := signData_eq_spec c sv chunks p h
  have hv : c.ver ≠ .v3 := by
    by_cases ha : signAligned c sv = true
    · exact signAligned_not_v3 c sv ha
    · simp [signData, ha] at h
  have hE' := established_docRep c chunks.flatten p hE
  exact ⟨hv, hE'.1, hE'.wf hcl (docRep_canonical c.typ _) fun e => absurd e hv⟩

/-! ## 2. the reduction

`L` is the signing-oracle log (key material, digest), `S` what honest signers signed.  The three
hypotheses are exactly: unforgeability of the primitive, honesty of the log, no collision between
the pre-image being verified and the honestly signed ones. -/

/-- **`Signature::verify` / `DetachedSignature::verify`**: success means that the holder of this
key material signed exactly this document (its canonical form for text signatures) with exactly
these type, algorithm octets, hashed area and salt -/
theorem verify_sound_data (P : Prims) (L : List (Bytes × Bytes)) (S : List Signed) (k : VKey) (s : Sig) (d : Bytes)
    (hU : Unforgeable P L) (hH : LogHonest P L S) (hS : HonestInputs S)
    (hv : s.cfg.ver ≠ .v3) (hty : s.cfg.typ = typBinary ∨ s.cfg.typ = typText)
    (hC : ∀ p, SigDigest.verifyData s.cfg k.ver d = some p → CollisionFreeOn P S s.cfg.hash p)
    (h : verifyData P k s d = .ok) :
    ∃ e ∈ S, e.km = k.mat ∧ e.input = s.cfg.toInput (.document (docRep s.cfg.typ d)) :=
  finish_sound P L S _ k s _ _ _ hU hH hS hv (fun p hp => (dataPre_ok _ k s d p hp).digest)
    (fun p hd => verifyData_established s.cfg k.ver d p hty hd) (docRep_canonical s.cfg.typ d) hC h

theorem verify_sound_detached (P : Prims) (L : List (Bytes × Bytes)) (S : List Signed) (k : VKey) (s : Sig) (d : Bytes)
    (hU : Unforgeable P L) (hH : LogHonest P L S) (hS : HonestInputs S)
    (hv : s.cfg.ver ≠ .v3) (hty : s.cfg.typ = typBinary ∨ s.cfg.typ = typText)
    (hC : ∀ p, SigDigest.verifyData s.cfg k.ver d = some p → CollisionFreeOn P S s.cfg.hash p)
    (h : verifyDetached P k s d = .ok) :
    ∃ e ∈ S, e.km = k.mat ∧ e.input = s.cfg.toInput (.document (docRep s.cfg.typ d)) :=
  verify_sound_data P L S k s d hU hH hS hv hty hC h

/-- **`CleartextSignedMessage::verify`**: one of the signatures was honestly made over the signed
form of the text (`signed_text()`: dash-unescaped, trailing blanks removed, CR LF line endings) -/
theorem verify_sound_cleartext (P : Prims) (L : List (Bytes × Bytes)) (S : List Signed) (k : VKey)
    (sigs : List Sig) (csf : Bytes)
    (hU : Unforgeable P L) (hH : LogHonest P L S) (hS : HonestInputs S)
    (hv : ∀ s ∈ sigs, s.cfg.ver ≠ .v3 ∧ (s.cfg.typ = typBinary ∨ s.cfg.typ = typText))
    (hC : ∀ s ∈ sigs, ∀ p, SigDigest.verifyData s.cfg k.ver (SV.signedText csf) = some p →
      CollisionFreeOn P S s.cfg.hash p)
    (h : verifyCleartext P k sigs csf = .ok) :
    ∃ s ∈ sigs, ∃ e ∈ S, e.km = k.mat ∧
      e.input = s.cfg.toInput (.document (docRep s.cfg.typ (SV.signedText csf))) := by
  obtain ⟨s, hs, hok⟩ := verifyCleartext_ok P k sigs csf h
  exact ⟨s, hs, verify_sound_data P L S k s _ hU hH hS (hv s hs).1 (hv s hs).2 (hC s hs) hok⟩

/-- **`verify_certification` / `verify_third_party_certification`**: key body, identity kind,
identity body and every hashed field are what the signer signed -/
theorem verify_sound_certification (P : Prims) (L : List (Bytes × Bytes)) (S : List Signed) (signer : VKey)
    (signee : Key) (s : Sig) (tag : Nat) (id : Ser)
    (hU : Unforgeable P L) (hH : LogHonest P L S) (hS : HonestInputs S)
    (hv : s.cfg.ver ≠ .v3) (ht : signee.ser.truthful) (hi : id.truthful)
    (hC : ∀ p, verifyCertification s.cfg signer.ver signee tag id = some p → CollisionFreeOn P S s.cfg.hash p)
    (h : verifyCert P signer signee s tag id = .ok) :
    ∃ e ∈ S, e.km = signer.mat ∧
      e.input = s.cfg.toInput (.certification signee.toSpec (tag == tagUserAttribute) id.bytes) :=
  finish_sound P L S _ signer s _ _ _ hU hH hS hv (fun p hp => (certPre_ok _ signer signee s tag id p hp).digest)
    (fun p hd => verifyCertification_eq_spec s.cfg signer.ver signee tag id p hd ht hi) (fun _ hd => nomatch hd) hC h

/-- **`verify_key` / `verify_key_third_party`** (direct-key signatures, key revocations) -/
theorem verify_sound_key (P : Prims) (L : List (Bytes × Bytes)) (S : List Signed) (signer : VKey) (signee : Key) (s : Sig)
    (hU : Unforgeable P L) (hH : LogHonest P L S) (hS : HonestInputs S)
    (hv : s.cfg.ver ≠ .v3) (ht : signee.ser.truthful)
    (hC : ∀ p, SigDigest.verifyKey s.cfg signer.ver signee = some p → CollisionFreeOn P S s.cfg.hash p)
    (h : verifyKey P signer signee s = .ok) :
    ∃ e ∈ S, e.km = signer.mat ∧ e.input = s.cfg.toInput (.directKey signee.toSpec) :=
  finish_sound P L S _ signer s _ _ _ hU hH hS hv (fun p hp => (keyPre_ok _ signer signee s p hp).digest)
    (fun p hd => verifyKey_eq_spec s.cfg signer.ver signee p hd ht) (fun _ hd => nomatch hd) hC h

/-- **`verify_subkey_binding`** (0x18, 0x28): primary and subkey bodies, in this order -/
theorem verify_sound_subkey_binding (P : Prims) (L : List (Bytes × Bytes)) (S : List Signed) (primary : VKey)
    (sub : Key) (s : Sig)
    (hU : Unforgeable P L) (hH : LogHonest P L S) (hS : HonestInputs S)
    (hv : s.cfg.ver ≠ .v3) (tp : primary.ser.truthful) (ts : sub.ser.truthful)
    (hC : ∀ p, SigDigest.verifySubkeyBinding s.cfg primary.toKey sub = some p → CollisionFreeOn P S s.cfg.hash p)
    (h : verifySubkeyBinding P primary sub s = .ok) :
    ∃ e ∈ S, e.km = primary.mat ∧ e.input = s.cfg.toInput (.binding primary.toKey.toSpec sub.toSpec) :=
  finish_sound P L S _ primary s _ _ _ hU hH hS hv (fun p hp => (subkeyBindingPre_ok _ primary sub s p hp).digest)
    (fun p hd => verifySubkeyBinding_eq_spec s.cfg primary.toKey sub p hd tp ts) (fun _ hd => nomatch hd) hC h

/-- **`verify_primary_key_binding`** (0x19): made by the subkey over primary then subkey -/
theorem verify_sound_primary_key_binding (P : Prims) (L : List (Bytes × Bytes)) (S : List Signed) (sub : VKey)
    (primary : Key) (s : Sig)
    (hU : Unforgeable P L) (hH : LogHonest P L S) (hS : HonestInputs S)
    (hv : s.cfg.ver ≠ .v3) (tp : primary.ser.truthful) (ts : sub.ser.truthful)
    (hC : ∀ p, SigDigest.verifyPrimaryKeyBinding s.cfg sub.toKey primary = some p → CollisionFreeOn P S s.cfg.hash p)
    (h : verifyPrimaryKeyBinding P sub primary s = .ok) :
    ∃ e ∈ S, e.km = sub.mat ∧ e.input = s.cfg.toInput (.binding primary.toSpec sub.toKey.toSpec) :=
  finish_sound P L S _ sub s _ _ _ hU hH hS hv (fun p hp => (primaryKeyBindingPre_ok _ sub primary s p hp).digest)
    (fun p hd => verifyPrimaryKeyBinding_eq_spec s.cfg sub.toKey primary p hd tp ts) (fun _ hd => nomatch hd) hC h

/-- **`Message::verify` / `verify_read` / `verify_nested`**, one-pass (`ops = some _`) and prefixed
(`ops = none`): the literal body, in whatever reads it was delivered, is what was signed -/
theorem verify_sound_inline (P : Prims) (L : List (Bytes × Bytes)) (S : List Signed) (k : VKey)
    (ops : Option Ops) (s : Sig) (chunks : List Bytes)
    (hU : Unforgeable P L) (hH : LogHonest P L S) (hS : HonestInputs S) (hv : s.cfg.ver ≠ .v3)
    (hC : ∀ a p, inlinePre P.hashKnown ops s chunks = .ok (some (a, p)) → CollisionFreeOn P S s.cfg.hash p)
    (h : verifyMessage P k ops s chunks = .ok) :
    ∃ e ∈ S, e.km = k.mat ∧ e.input = s.cfg.toInput (.document (docRep s.cfg.typ chunks.flatten)) := by
  obtain ⟨ft, hft, hp, hty, hc⟩ := verifyMessage_ok P k ops s chunks h
  obtain ⟨hE, hcl⟩ := inline_established s chunks ft hft hty
  exact sound_of_established P L S _ k s _ _ hU hH hS (established_docRep _ _ _ hE) hv hcl
    (docRep_canonical s.cfg.typ _) (hC _ _ hp) hc

/-! ### the mutation classes of the property, for a signer who signed one thing

`S = [⟨km₀, i₀⟩]`: the key holder made one signature.  Whatever is verified successfully is that
signature's subject, fields and key. -/

/-- content: another document (another canonical form, for text) is refused -/
theorem content_mutation_is_error (P : Prims) (L : List (Bytes × Bytes)) (km0 : Bytes) (i0 : Spec.Input)
    (k : VKey) (s : Sig) (d : Bytes)
    (hU : Unforgeable P L) (hH : LogHonest P L [⟨km0, i0⟩]) (hS : HonestInputs [⟨km0, i0⟩])
    (hv : s.cfg.ver ≠ .v3) (hty : s.cfg.typ = typBinary ∨ s.cfg.typ = typText)
    (hC : ∀ p, SigDigest.verifyData s.cfg k.ver d = some p → CollisionFreeOn P [⟨km0, i0⟩] s.cfg.hash p)
    (hne : i0.subject ≠ .document (docRep s.cfg.typ d)) :
    verifyData P k s d ≠ .ok := by
  intro h
  have hi := (single_signed (verify_sound_data P L _ k s d hU hH hS hv hty hC h)).2
  exact hne (by rw [hi, toInput_subject])

/-- hashed fields: another type, algorithm octet, hashed area or salt than the signed one is
refused -/
theorem hashed_field_mutation_is_error (P : Prims) (L : List (Bytes × Bytes)) (km0 : Bytes) (i0 : Spec.Input)
    (k : VKey) (s : Sig) (d : Bytes)
    (hU : Unforgeable P L) (hH : LogHonest P L [⟨km0, i0⟩]) (hS : HonestInputs [⟨km0, i0⟩])
    (hv : s.cfg.ver ≠ .v3) (hty : s.cfg.typ = typBinary ∨ s.cfg.typ = typText)
    (hC : ∀ p, SigDigest.verifyData s.cfg k.ver d = some p → CollisionFreeOn P [⟨km0, i0⟩] s.cfg.hash p)
    (hne : i0.ver ≠ s.cfg.ver ∨ i0.typ ≠ s.cfg.typ ∨ i0.pk ≠ s.cfg.pk ∨ i0.hash ≠ s.cfg.hash ∨
      i0.area ≠ s.cfg.area ∨ (s.cfg.ver = .v6 ∧ i0.salt ≠ s.cfg.salt)) :
    verifyData P k s d ≠ .ok := by
  intro h
  rw [(single_signed (verify_sound_data P L _ k s d hU hH hS hv hty hC h)).2] at hne
  cases hc : s.cfg.ver
  · exact hv hc
  · simp [Cfg.toInput, hc] at hne
  · simp [Cfg.toInput, hc] at hne

/-- key: another key material than the signer's is refused -/
theorem key_substitution_is_error (P : Prims) (L : List (Bytes × Bytes)) (km0 : Bytes) (i0 : Spec.Input)
    (k : VKey) (s : Sig) (d : Bytes)
    (hU : Unforgeable P L) (hH : LogHonest P L [⟨km0, i0⟩]) (hS : HonestInputs [⟨km0, i0⟩])
    (hv : s.cfg.ver ≠ .v3) (hty : s.cfg.typ = typBinary ∨ s.cfg.typ = typText)
    (hC : ∀ p, SigDigest.verifyData s.cfg k.ver d = some p → CollisionFreeOn P [⟨km0, i0⟩] s.cfg.hash p)
    (hne : k.mat ≠ km0) :
    verifyData P k s d ≠ .ok :=
  fun h => hne (single_signed (verify_sound_data P L _ k s d hU hH hS hv hty hC h)).1.symm

/-- certificate-forming kinds: another key body, identity kind or identity body than the signed
one is refused -/
theorem certified_object_mutation_is_error (P : Prims) (L : List (Bytes × Bytes)) (km0 : Bytes) (i0 : Spec.Input)
    (signer : VKey) (signee : Key) (s : Sig) (tag : Nat) (id : Ser)
    (hU : Unforgeable P L) (hH : LogHonest P L [⟨km0, i0⟩]) (hS : HonestInputs [⟨km0, i0⟩])
    (hv : s.cfg.ver ≠ .v3) (ht : signee.ser.truthful) (hi : id.truthful)
    (hC : ∀ p, verifyCertification s.cfg signer.ver signee tag id = some p → CollisionFreeOn P [⟨km0, i0⟩] s.cfg.hash p)
    (hne : i0.subject ≠ .certification signee.toSpec (tag == tagUserAttribute) id.bytes) :
    verifyCert P signer signee s tag id ≠ .ok := by
  intro h
  have hin := (single_signed (verify_sound_certification P L _ signer signee s tag id hU hH hS hv ht hi hC h)).2
  exact hne (by rw [hin, toInput_subject])

/-- signature value: under *strong* unforgeability (the log also records the signature values;
not every algorithm has it - ECDSA is malleable) another signature value is refused -/
theorem sigval_mutation_is_error (flag : Nat) (P : Prims) (L' : List (Bytes × Bytes × SigVal)) (k : VKey) (s : Sig)
    (d : Bytes) (hSU : ∀ km h d sv, P.pkVerify km h d sv = true → (km, d, sv) ∈ L')
    (hne : (k.mat, d, s.sigval) ∉ L') : check flag P k s d ≠ .ok := by
  intro h
  exact hne (hSU _ _ _ _ ((check_ok_iff flag P k s d).1 h).2)

/-- a version-3 signature never verifies against honest signers (who make v4 / v6 signatures
only): data signatures … -/
theorem v3_never_verifies_data (P : Prims) (L : List (Bytes × Bytes)) (S : List Signed) (k : VKey) (s : Sig) (d : Bytes)
    (hU : Unforgeable P L) (hH : LogHonest P L S) (hS : HonestInputs S) (hv : s.cfg.ver = .v3)
    (hC : ∀ p, SigDigest.verifyData s.cfg k.ver d = some p → CollisionFreeOn P S s.cfg.hash p) :
    verifyData P k s d ≠ .ok :=
  finish_v3_never P L S _ k s _ _ hU hH hS hv (fun p hp => (dataPre_ok _ k s d p hp).digest)
    (verifyData_tail s.cfg k.ver d) hC

/-- … and certifications -/
theorem v3_never_verifies_certification (P : Prims) (L : List (Bytes × Bytes)) (S : List Signed) (signer : VKey)
    (signee : Key) (s : Sig) (tag : Nat) (id : Ser)
    (hU : Unforgeable P L) (hH : LogHonest P L S) (hS : HonestInputs S) (hv : s.cfg.ver = .v3)
    (hC : ∀ p, verifyCertification s.cfg signer.ver signee tag id = some p → CollisionFreeOn P S s.cfg.hash p) :
    verifyCert P signer signee s tag id ≠ .ok :=
  finish_v3_never P L S _ signer s _ _ hU hH hS hv (fun p hp => (certPre_ok _ signer signee s tag id p hp).digest)
    (verifyCertification_tail s.cfg signer.ver signee tag id) hC

/-- … direct-key signatures and key revocations … -/
theorem v3_never_verifies_key (P : Prims) (L : List (Bytes × Bytes)) (S : List Signed) (signer : VKey) (signee : Key)
    (s : Sig) (hU : Unforgeable P L) (hH : LogHonest P L S) (hS : HonestInputs S) (hv : s.cfg.ver = .v3)
    (hC : ∀ p, SigDigest.verifyKey s.cfg signer.ver signee = some p → CollisionFreeOn P S s.cfg.hash p) :
    verifyKey P signer signee s ≠ .ok :=
  finish_v3_never P L S _ signer s _ _ hU hH hS hv (fun p hp => (keyPre_ok _ signer signee s p hp).digest)
    (verifyKey_tail s.cfg signer.ver signee) hC

/-- … subkey bindings and revocations … -/
theorem v3_never_verifies_subkey_binding (P : Prims) (L : List (Bytes × Bytes)) (S : List Signed) (primary : VKey)
    (sub : Key) (s : Sig) (hU : Unforgeable P L) (hH : LogHonest P L S) (hS : HonestInputs S) (hv : s.cfg.ver = .v3)
    (hC : ∀ p, SigDigest.verifySubkeyBinding s.cfg primary.toKey sub = some p → CollisionFreeOn P S s.cfg.hash p) :
    verifySubkeyBinding P primary sub s ≠ .ok :=
  finish_v3_never P L S _ primary s _ _ hU hH hS hv (fun p hp => (subkeyBindingPre_ok _ primary sub s p hp).digest)
    (verifySubkeyBinding_tail s.cfg primary.toKey sub) hC

/-- … primary key bindings … -/
theorem v3_never_verifies_primary_key_binding (P : Prims) (L : List (Bytes × Bytes)) (S : List Signed) (sub : VKey)
    (primary : Key) (s : Sig) (hU : Unforgeable P L) (hH : LogHonest P L S) (hS : HonestInputs S) (hv : s.cfg.ver = .v3)
    (hC : ∀ p, SigDigest.verifyPrimaryKeyBinding s.cfg sub.toKey primary = some p → CollisionFreeOn P S s.cfg.hash p) :
    verifyPrimaryKeyBinding P sub primary s ≠ .ok :=
  finish_v3_never P L S _ sub s _ _ hU hH hS hv (fun p hp => (primaryKeyBindingPre_ok _ sub primary s p hp).digest)
    (verifyPrimaryKeyBinding_tail s.cfg sub.toKey primary) hC

/-- … and signatures inside messages: with these five, the restriction `ver ≠ v3` of the
`verify_sound_*` theorems loses nothing -/
theorem v3_never_verifies_inline (P : Prims) (L : List (Bytes × Bytes)) (S : List Signed) (k : VKey)
    (ops : Option Ops) (s : Sig) (chunks : List Bytes)
    (hU : Unforgeable P L) (hH : LogHonest P L S) (hS : HonestInputs S) (hv : s.cfg.ver = .v3)
    (hC : ∀ a p, inlinePre P.hashKnown ops s chunks = .ok (some (a, p)) → CollisionFreeOn P S s.cfg.hash p) :
    verifyMessage P k ops s chunks ≠ .ok := by
  intro h
  obtain ⟨ft, hft, hp, hty, hc⟩ := verifyMessage_ok P k ops s chunks h
  exact check_v3_never P L S _ k s _ hU hH hS hv ⟨ne_ff_of_class (classOf_doc _ hty), _, ft, hft, rfl⟩ (hC _ _ hp) hc

/-- `Signature::verify` on a signature of a type outside the RFC's four subject classes (rpgp hashes
one octet of the data for Standalone 0x02 and Timestamp 0x40, refuses the rest) never verifies
against honest signers either: with this, `verify_sound_data` (types 0x00, 0x01) and
`verify_data_refuses_other_classes` every type octet is covered -/
theorem other_types_never_verify_data (P : Prims) (L : List (Bytes × Bytes)) (S : List Signed) (k : VKey) (s : Sig)
    (d : Bytes) (hU : Unforgeable P L) (hH : LogHonest P L S) (hS : HonestInputs S) (hv : s.cfg.ver ≠ .v3)
    (hty : Spec.classOf s.cfg.typ = none)
    (hC : ∀ p, SigDigest.verifyData s.cfg k.ver d = some p → CollisionFreeOn P S s.cfg.hash p) :
    verifyData P k s d ≠ .ok := by
  intro h
  obtain ⟨p, hp, hc⟩ := (finish_ok_iff _ P k s _).1 h
  have hd := (dataPre_ok _ k s d p hp).digest
  obtain ⟨e, he, _, hpe⟩ := sound_core P L S _ k s p hU hH (hC p hd) hc
  obtain ⟨_, x, ft, hft, rfl⟩ := verifyData_tail s.cfg k.ver d p hd
  -- the type octet is in the hashed tail, and an honest input carries a type of one of the classes
  rw [Spec.preimage_eq, fieldsAndTrailer_eq_spec s.cfg ft (.document []) hft] at hpe
  have ht := (tailBytes_append_inj e.input (s.cfg.toInput (.document [])) _ x (hS e he).2 hv
    (wf_of_ne_v3 _ (hS e he).1 (hS e he).2).1 (toInput_hashedFields_lt s.cfg _ ft hft hv) hpe).2.2.1
  have hcls := ((Spec.WF_iff _).1 (hS e he).1).1.2.1
  rw [ht, toInput_typ, hty] at hcls
  exact nomatch hcls

/-- the types `hash_data_to_sign` hashes anything for (0x00, 0x01, 0x02, 0x40) are of none of the
certificate-forming classes -/
theorem class_types_not_hashable (t : Byte)
    (h : Spec.classOf t = some .cert ∨ Spec.classOf t = some .bind ∨ Spec.classOf t = some .direct) :
    ¬ (t = typText ∨ t = typBinary) ∧
    ¬ (t = Gen.sdSigTypeTimestamp.toUInt8 ∨ t = Gen.sdSigTypeStandalone.toUInt8) := by
  refine ⟨?_, ?_⟩ <;> rintro (rfl | rfl) <;> revert h <;> decide +kernel

/-- a certification / binding / key signature is refused by `Signature::verify` (and hence by
`DetachedSignature::verify`, `CleartextSignedMessage::verify`) before anything is hashed -/
theorem verify_data_refuses_other_classes (P : Prims) (k : VKey) (s : Sig) (d : Bytes)
    (hty : Spec.classOf s.cfg.typ = some .cert ∨ Spec.classOf s.cfg.typ = some .bind ∨ Spec.classOf s.cfg.typ = some .direct) :
    verifyData P k s d ≠ .ok := by
  intro h
  obtain ⟨p, hp, _⟩ := (finish_ok_iff _ P k s _).1 h
  have hn := class_types_not_hashable s.cfg.typ hty
  rcases verifyData_hashable s.cfg k.ver d p (dataPre_ok _ k s d p hp).digest with h1 | h2
  · exact hn.1 h1
  · exact hn.2 h2

/-! ## 3. guards -/

/-- `Signature::verify` succeeds only for a known signature version, aligned key / signature
versions, a matching issuer (if any issuer subpacket is present, in either area), a supported
hash algorithm, the tabulated salt size, no unknown critical hashed subpacket, the stored two
octets equal to the digest's, and a yes of the primitive -/
theorem verify_guards_data (P : Prims) (k : VKey) (s : Sig) (d : Bytes) (h : verifyData P k s d = .ok) :
    s.known = true ∧ verifyAligned s.cfg k.ver = true ∧ matchIdentity s k = true ∧
    P.hashKnown s.cfg.hash = true ∧ saltSizeOk s.cfg = true ∧ areaScanOk s.cfg s.hashed = true ∧
    ∃ p, SigDigest.verifyData s.cfg k.ver d = some p ∧ s.left16 = (P.hash s.cfg.hash p).take 2 ∧
      P.pkVerify k.mat s.cfg.hash (P.hash s.cfg.hash p) s.sigval = true := by
  obtain ⟨p, hp, hc⟩ := (finish_ok_iff _ P k s _).1 h
  have g := dataPre_ok _ k s d p hp
  obtain ⟨hl, hpk⟩ := (check_ok_iff _ P k s _).1 hc
  exact ⟨g.known, g.aligned, g.identity (by decide), g.hash, g.salt (by decide), g.scan, p, g.digest,
    hl (by decide), hpk⟩

theorem verify_guards_certification (P : Prims) (signer : VKey) (signee : Key) (s : Sig) (tag : Nat) (id : Ser)
    (h : verifyCert P signer signee s tag id = .ok) :
    s.known = true ∧ Gen.sndCertTypes.contains s.cfg.typ.toNat = true ∧ verifyAligned s.cfg signer.ver = true ∧
    matchIdentity s signer = true ∧ P.hashKnown s.cfg.hash = true ∧ saltSizeOk s.cfg = true ∧
    areaScanOk s.cfg s.hashed = true ∧ (tag = tagUserId ∨ tag = tagUserAttribute ∨ s.cfg.ver = .v3) := by
  obtain ⟨p, hp, _⟩ := (finish_ok_iff _ P signer s _).1 h
  have g := certPre_ok _ signer signee s tag id p hp
  have hd := g.digest
  obtain ⟨_, _, ft, hft, _⟩ := verifyCertification_tail s.cfg signer.ver signee tag id p hd
  have htag : tag = tagUserId ∨ tag = tagUserAttribute ∨ s.cfg.ver = .v3 := by
    -- otherwise `idPrefix` has no prefix octet for the identity packet
    apply Decidable.byContradiction
    intro hn
    simp only [not_or] at hn
    have hpre : idPrefix s.cfg.ver Gen.sdVerUidPrefix Gen.sdVerAttrPrefix Gen.sdVerIdLenOctets tag id.writeLen = none := by
      unfold idPrefix
      cases hv : s.cfg.ver
      · exact absurd hv hn.2.2
      all_goals simp only [if_neg hn.1, if_neg hn.2.1]
    simp only [verifyCertification, guard_eq_some, hpre] at hd
    obtain ⟨_, _, hd⟩ := hd
    split at hd <;> cases hd
  refine ⟨g.known, ?_, g.aligned, g.identity (by decide), g.hash, fieldsAndTrailer_saltSizeOk s.cfg ft hft,
    g.scan, htag⟩
  rw [← (verify_site_types_are_model s.cfg.typ).1]
  exact g.typ

theorem verify_guards_subkey_binding (P : Prims) (primary : VKey) (sub : Key) (s : Sig)
    (h : verifySubkeyBinding P primary sub s = .ok) :
    s.known = true ∧ Gen.sndSubkeyBindingTypes.contains s.cfg.typ.toNat = true ∧
    verifyAligned s.cfg primary.ver = true ∧ P.hashKnown s.cfg.hash = true ∧ areaScanOk s.cfg s.hashed = true := by
  obtain ⟨p, hp, _⟩ := (finish_ok_iff _ P primary s _).1 h
  have g := subkeyBindingPre_ok _ primary sub s p hp
  exact ⟨g.known, (verify_site_types_are_model s.cfg.typ).2.1 ▸ g.typ, g.aligned, g.hash, g.scan⟩

theorem verify_guards_primary_key_binding (P : Prims) (sub : VKey) (primary : Key) (s : Sig)
    (h : verifyPrimaryKeyBinding P sub primary s = .ok) :
    s.known = true ∧ Gen.sndPrimaryKeyBindingTypes.contains s.cfg.typ.toNat = true ∧
    verifyAligned s.cfg sub.ver = true ∧ P.hashKnown s.cfg.hash = true ∧ areaScanOk s.cfg s.hashed = true := by
  obtain ⟨p, hp, _⟩ := (finish_ok_iff _ P sub s _).1 h
  have g := primaryKeyBindingPre_ok _ sub primary s p hp
  exact ⟨g.known, (verify_site_types_are_model s.cfg.typ).2.2.1 ▸ g.typ, g.aligned, g.hash, g.scan⟩

theorem verify_guards_key (P : Prims) (signer : VKey) (signee : Key) (s : Sig)
    (h : verifyKey P signer signee s = .ok) :
    s.known = true ∧ Gen.sndKeyTypes.contains s.cfg.typ.toNat = true ∧ verifyAligned s.cfg signer.ver = true ∧
    matchIdentity s signer = true ∧ P.hashKnown s.cfg.hash = true ∧ areaScanOk s.cfg s.hashed = true := by
  obtain ⟨p, hp, _⟩ := (finish_ok_iff _ P signer s _).1 h
  have g := keyPre_ok _ signer signee s p hp
  exact ⟨g.known, (verify_site_types_are_model s.cfg.typ).2.2.2.1 ▸ g.typ, g.aligned, g.identity (by decide), g.hash,
    g.scan⟩

/-- inline: a filled slot, a document type, aligned versions, a matching issuer -/
theorem verify_guards_inline (P : Prims) (k : VKey) (s : Sig) (slot : Option Bytes)
    (h : verifyInline P k s slot = .ok) :
    ∃ d, slot = some d ∧ s.known = true ∧ Gen.sndInlineTypes.contains s.cfg.typ.toNat = true ∧
      verifyAligned s.cfg k.ver = true ∧ matchIdentity s k = true ∧ s.left16 = d.take 2 ∧
      P.pkVerify k.mat s.cfg.hash d s.sigval = true := by
  cases slot with
  | none => rw [none_slot_is_error] at h; cases h
  | some d =>
    obtain ⟨h1, h2, h3, _, h5, hc⟩ := verifyInline_some_ok P k s d h
    obtain ⟨hl, hpk⟩ := (check_ok_iff _ P k s d).1 hc
    exact ⟨d, rfl, h1, (verify_site_types_are_model s.cfg.typ).2.2.2.2 ▸ h2, h3, h5, hl (by decide), hpk⟩

/-- no unknown critical subpacket and only version-matching issuer fingerprints in the hashed area
of a signature that passes the scan of `hash_signature_data` -/
theorem area_scan_ok_iff (c : Cfg) (hs : List HSub) (hv : c.ver ≠ .v3) :
    areaScanOk c hs = true ↔ ∀ h ∈ hs, hsubOk c.ver h = true := by
  unfold areaScanOk
  cases hc : c.ver with
  | v3 => exact absurd hc hv
  | v4 => simp [List.all_eq_true]
  | v6 => simp [List.all_eq_true]

theorem unknown_critical_refused (c : Cfg) (hs : List HSub) (h : HSub) (hv : c.ver ≠ .v3) (hm : h ∈ hs)
    (hc : h.critical = true) (ho : subTypeOther h.typ = true) : areaScanOk c hs = false := by
  cases hok : areaScanOk c hs with
  | false => rfl
  | true =>
    have := (area_scan_ok_iff c hs hv).1 hok h hm
    have hg : Gen.hashSigDataChecksCritical = 1 := by decide
    simp [hsubOk, hg, hc, ho] at this

/-- **left-16 is checked by every entry point**, and on its own: with a primitive that accepts
everything, a signature whose stored two octets differ from the digest's is refused with the
left-16 error whenever the guards before it pass -/
theorem left16_checked (flag : Nat) (hf : flag = 1) (P : Prims) (k : VKey) (s : Sig) (p : Bytes)
    (hyes : ∀ km h d sv, P.pkVerify km h d sv = true)
    (hne : s.left16 ≠ (P.hash s.cfg.hash p).take 2) :
    finish flag P k s (.ok p) = .err .left16 := by
  subst hf
  exact check_left16 P k s _ hne

/-- instances: the six call sites -/
theorem left16_checked_sites (P : Prims) (k : VKey) (s : Sig) (p d : Bytes)
    (hne : s.left16 ≠ (P.hash s.cfg.hash p).take 2) (hne' : s.left16 ≠ d.take 2) :
    finish Gen.sndLeft16Data P k s (.ok p) = .err .left16 ∧
    finish Gen.sndLeft16Cert P k s (.ok p) = .err .left16 ∧
    finish Gen.sndLeft16SubkeyBinding P k s (.ok p) = .err .left16 ∧
    finish Gen.sndLeft16PrimaryKeyBinding P k s (.ok p) = .err .left16 ∧
    finish Gen.sndLeft16Key P k s (.ok p) = .err .left16 ∧
    check Gen.sndLeft16Inline P k s d = .err .left16 :=
  ⟨check_left16 P k s _ hne, check_left16 P k s _ hne, check_left16 P k s _ hne, check_left16 P k s _ hne,
    check_left16 P k s _ hne, check_left16 P k s _ hne'⟩

/-- **a `None` hash slot is an error** -/
theorem inline_none_slot_is_error (P : Prims) (k : VKey) (s : Sig) : verifyInline P k s none = .err .noneSlot :=
  none_slot_is_error P k s

/-- **a one-pass header that does not match its trailing signature never yields a successful
verification**: the slot is `None` (or the reader fails) … -/
theorem ops_mismatch_slot_is_none_or_error (hk : Byte → Bool) (o : Ops) (s : Sig) (chunks : List Bytes)
    (hm : opsMatches o s = false) :
    inlinePre hk (some o) s chunks = .ok none ∨ ∃ g, inlinePre hk (some o) s chunks = .error g := by
  unfold inlinePre
  simp only
  by_cases h1 : (!hk o.hash) = true
  · left; rw [if_pos h1]
  by_cases h2 : (o.ver == Gen.sndOpsV6 && Gen.sdSaltLenOf o.hash.toNat != some o.salt.length) = true
  · right; exact ⟨.salt, by rw [if_neg h1, if_pos h2]⟩
  · left
    rw [if_neg h1, if_neg h2, if_pos ⟨by decide, by rw [hm]; rfl⟩]

/-- … for every key and every primitive -/
theorem ops_mismatch_never_verifies (P : Prims) (k : VKey) (o : Ops) (s : Sig) (chunks : List Bytes)
    (hm : opsMatches o s = false) : verifyMessage P k (some o) s chunks ≠ .ok := by
  unfold verifyMessage inlineSlot
  rcases ops_mismatch_slot_is_none_or_error P.hashKnown o s chunks hm with h | ⟨g, h⟩ <;> rw [h]
  · exact fun h' => nomatch (none_slot_is_error P k s).symm.trans h'
  · nofun

/-- what `matches` compares: type, hash and public-key algorithm octets, the version pairing
(v3 OPS ↔ v4 signature, v6 ↔ v6) and the v6 salt -/
theorem ops_matches_iff (o : Ops) (s : Sig) :
    opsMatches o s = true ↔
      s.known = true ∧ o.typ = s.cfg.typ ∧ o.hash = s.cfg.hash ∧ o.pk = s.cfg.pk ∧
      ((o.ver = 3 ∧ s.cfg.ver = .v4) ∨ (o.ver = 6 ∧ s.cfg.ver = .v6 ∧ o.salt = s.cfg.salt)) :=
  opsMatches_iff o s

/-- the inline digest does not depend on how the literal body was delivered -/
theorem inline_chunk_indep (hk : Byte → Bool) (ops : Option Ops) (s : Sig) (c c' : List Bytes)
    (h : c.flatten = c'.flatten) : inlinePre hk ops s c = inlinePre hk ops s c' := by
  unfold inlinePre
  simp only [inlineBody_eq, h]

/-! ### messages with several signatures: one hashing mode per signature -/

/-- **the hashing mode is per signature**: in a message with any number of signatures (prefixed,
one-pass, mixed), the digest input of signature `i` is its own salt, the literal body in the mode
of ITS OWN type (`canon` of the body iff the signature is a text signature, the body itself
otherwise) and its own hashed fields and trailer; hash algorithm its own -/
theorem inline_mode_is_per_signature (hk : Byte → Bool) (sigs : List MsgSig) (chunks : List Bytes)
    (slots : List (Option (Byte × Bytes))) (h : inlineSlotsPre hk sigs chunks = .ok slots)
    (i : Nat) (m : MsgSig) (a : Byte) (p : Bytes) (hm : sigs[i]? = some m) (hx : slots[i]? = some (some (a, p))) :
    a = m.sig.cfg.hash ∧ ∃ ft, fieldsAndTrailer m.sig.cfg = some ft ∧
      p = saltBytes m.sig.cfg ++ (if m.sig.cfg.typ = typText then canon chunks.flatten else chunks.flatten) ++ ft := by
  have hp := inlineSlotsPre_get hk sigs chunks slots h i m _ hm hx
  obtain ⟨ha, _, _, _, ft, hft, hpe⟩ := inlinePre_some hk m.ops m.sig chunks a p hp
  refine ⟨ha, ft, hft, ?_⟩
  rw [hpe, inlineBody_eq]
  simp only [beq_iff_eq]

/-- … and it does not depend on the other signatures of the message: two messages that carry the same
signature (with the same header) at position `i` give it the same slot -/
theorem inline_slot_indep_of_other_signatures (hk : Byte → Bool) (sigs sigs' : List MsgSig) (chunks : List Bytes)
    (slots slots' : List (Option (Byte × Bytes)))
    (h : inlineSlotsPre hk sigs chunks = .ok slots) (h' : inlineSlotsPre hk sigs' chunks = .ok slots')
    (i : Nat) (m : MsgSig) (hm : sigs[i]? = some m) (hm' : sigs'[i]? = some m)
    (x x' : Option (Byte × Bytes)) (hx : slots[i]? = some x) (hx' : slots'[i]? = some x') : x = x' := by
  have a := inlineSlotsPre_get hk sigs chunks slots h i m x hm hx
  have b := inlineSlotsPre_get hk sigs' chunks slots' h' i m x' hm' hx'
  rw [a] at b
  cases b
  rfl

/-- `verify_nested_explicit(i, key)` on a message with several signatures: success means signature `i`
was honestly made, by this key material, over the literal body (canonical form iff signature `i`
is a text signature) with its hashed fields -/
theorem verify_sound_message_at (P : Prims) (L : List (Bytes × Bytes)) (S : List Signed) (k : VKey)
    (sigs : List MsgSig) (chunks : List Bytes) (i : Nat)
    (hU : Unforgeable P L) (hH : LogHonest P L S) (hS : HonestInputs S)
    (hv : ∀ m, sigs[i]? = some m → m.sig.cfg.ver ≠ .v3)
    (hC : ∀ h p, CollisionFreeOn P S h p)
    (h : verifyMessageAt P k sigs chunks i = .ok) :
    ∃ m, sigs[i]? = some m ∧ ∃ e ∈ S, e.km = k.mat ∧
      e.input = m.sig.cfg.toInput (.document (docRep m.sig.cfg.typ chunks.flatten)) := by
  obtain ⟨m, hm, hok⟩ := verifyMessageAt_ok P k sigs chunks i h
  exact ⟨m, hm, verify_sound_inline P L S k m.ops m.sig chunks hU hH hS (hv m hm) (fun _ p _ => hC _ p) hok⟩

/-! ### One-Pass headers are paired with the trailing signatures by position -/

/-- **the pairing is positional**: in a message with `n` One-Pass Signature packets (prefixed
signatures may be interleaved) the One-Pass packet at head position `i`, `j` One-Pass packets
(with a supported hash algorithm) before it, is judged against exactly the trailing Signature
packet at wire position `n - 1 - j` - whatever the other trailing signatures are, and whether or
not one of them would match the header -/
theorem ops_pairing_is_positional (hk : Byte → Bool) (heads : List MsgHead) (trailing : List Sig)
    (l : List (Option MsgSig)) (h : pairMessage hk heads trailing = some l)
    (i : Nat) (o : Ops) (hi : heads[i]? = some (.onePass o)) (ho : hk o.hash = true) :
    ∃ s, (trailing.take (nOnePass heads))[nOnePass heads - 1 - popsBefore hk heads i]? = some s ∧
      l[i]? = some (some { ops := some o, sig := s }) := by
  unfold pairMessage at h
  split at h
  · cases h
  · rename_i hlen
    obtain ⟨s, hs, hr⟩ := pairHeads_onePass hk heads _ l h i o hi ho
    refine ⟨s, ?_, hr⟩
    have hn : (trailing.take (nOnePass heads)).length = nOnePass heads := by
      simp only [List.length_take]; omega
    have hlt : popsBefore hk heads i < (trailing.take (nOnePass heads)).reverse.length :=
      (List.getElem?_eq_some_iff.1 hs).1
    rw [List.length_reverse] at hlt
    rw [List.getElem?_reverse hlt, hn] at hs
    exact hs

/-- fewer trailing signatures than One-Pass headers: the reader fails ("missing signature packet") -/
theorem missing_trailing_signature_is_error (P : Prims) (k : VKey) (heads : List MsgHead) (trailing : List Sig)
    (chunks : List Bytes) (i : Nat) (h : trailing.length < nOnePass heads) :
    verifyMessageWire P k heads trailing chunks i ≠ .ok := by
  intro hok
  obtain ⟨entries, hp, _⟩ := verifyMessageWire_ok P k heads trailing chunks i hok
  rw [pairMessage, if_pos h] at hp
  cases hp

/-- a header whose positional trailing signature disagrees with it never verifies at its index,
even if another trailing signature of the same message agrees with it (exchanged trailing
signatures are all invalid) -/
theorem misplaced_trailer_never_verifies (P : Prims) (k : VKey) (heads : List MsgHead) (trailing : List Sig)
    (chunks : List Bytes) (i : Nat) (o : Ops) (t : Sig)
    (hi : heads[i]? = some (.onePass o)) (ho : P.hashKnown o.hash = true)
    (ht : (trailing.take (nOnePass heads))[nOnePass heads - 1 - popsBefore P.hashKnown heads i]? = some t)
    (hm : opsMatches o t = false) :
    verifyMessageWire P k heads trailing chunks i ≠ .ok := by
  intro h
  obtain ⟨entries, hp, m, ap, hm', hpre⟩ := verifyMessageWire_ok P k heads trailing chunks i h
  obtain ⟨s, hs, he⟩ := ops_pairing_is_positional P.hashKnown heads trailing entries hp i o hi ho
  -- the entry at `i` is the header with the trailing signature `t`, and a filled slot means they matched
  cases ht.symm.trans hs
  cases he.symm.trans hm'
  obtain ⟨_, _, _, hmatch, _⟩ := inlinePre_some _ _ _ chunks _ _ hpre
  exact Bool.false_ne_true (hm.symm.trans (hmatch o rfl))

/-- evaluated: two one-pass signatures (SHA-256 and SHA-512 headers) with their trailing signatures
in nesting order pair header 0 with the LAST trailing signature; with the trailing signatures
exchanged each header meets the other's signature and both slots are empty -/
theorem exchanged_trailers_witness :
    let s8 : Sig := Toy.sig0
    let s10 : Sig := { Toy.sig0 with cfg := { Toy.cfg0 with hash := 10 } }
    let o8 : Ops := { ver := 3, typ := 0, hash := 8, pk := 1 }
    let o10 : Ops := { ver := 3, typ := 0, hash := 10, pk := 1 }
    pairMessage (fun _ => true) [.onePass o8, .onePass o10] [s10, s8] =
      some [some { ops := some o8, sig := s8 }, some { ops := some o10, sig := s10 }] ∧
    pairMessage (fun _ => true) [.onePass o8, .onePass o10] [s8, s10] =
      some [some { ops := some o8, sig := s10 }, some { ops := some o10, sig := s8 }] ∧
    opsMatches o8 s10 = false ∧ opsMatches o10 s8 = false := by decide +kernel

/-! ### certificates -/

/-- **back-signature required**: a binding signature whose hashed key flags say "signing" passes
`Signed{Public,Secret}SubKey::verify_bindings` only with an embedded signature that verifies as
a primary key binding made by the subkey -/
theorem backsig_required (P : Prims) (primary sub : VKey) (b : BindSig)
    (h : verifyOneBinding P primary sub b = .ok) (hf : b.signFlag = true) :
    ∃ e, b.embedded = some e ∧ verifyPrimaryKeyBinding P sub primary.toKey e = .ok :=
  (verifyOneBinding_ok P primary sub b h).2 hf

/-- every binding signature of a subkey is verified, and there is at least one -/
theorem subkey_bindings_all_verified (P : Prims) (primary sub : VKey) (sigs : List BindSig)
    (h : verifySubkeyBindings P primary sub sigs = .ok) :
    sigs ≠ [] ∧ ∀ b ∈ sigs, verifySubkeyBinding P primary sub.toKey b.sig = .ok :=
  ⟨(verifySubkeyBindings_ok P primary sub sigs h).1,
    fun b hb => (verifyOneBinding_ok P primary sub b ((verifySubkeyBindings_ok P primary sub sigs h).2 b hb)).1⟩

/-- every certification of a User ID / User Attribute is verified, and there is at least one -/
theorem user_bindings_all_verified (P : Prims) (k : VKey) (tag : Nat) (id : Ser) (sigs : List Sig)
    (h : verifyUser P k tag id sigs = .ok) : sigs ≠ [] ∧ ∀ s ∈ sigs, verifyCertSelf P k s tag id = .ok :=
  nonempty_all_ok _ sigs h

/-- `Signed{Public,Secret}Key::verify_bindings`: every component is verified -/
theorem certificate_all_verified (P : Prims) (primary : VKey) (d : Details) (subkeys : List (VKey × List BindSig))
    (h : verifyCertificate P primary d subkeys = .ok) :
    (∀ u ∈ d.users, verifyUser P primary tagUserId u.1 u.2 = .ok) ∧
    (∀ u ∈ d.attrs, verifyUser P primary tagUserAttribute u.1 u.2 = .ok) ∧
    (∀ s ∈ d.revocations, verifyKeySelf P primary s = .ok) ∧ (∀ s ∈ d.directs, verifyKeySelf P primary s = .ok) ∧
    ∀ sk ∈ subkeys, verifySubkeyBindings P primary sk.1 sk.2 = .ok := by
  have hall := (firstErr_ok_iff _).1 h
  obtain ⟨a, b, c, e⟩ := verifyDetails_ok P primary d (hall _ List.mem_cons_self)
  exact ⟨a, b, c, e, fun sk hsk => hall _ (List.mem_cons_of_mem _ (List.mem_map_of_mem hsk))⟩

/-- **certificate soundness**: in a certificate that passes `verify_bindings`, every certification of
every User ID was made by the holder of the primary key material over exactly (primary key body,
that User ID) with exactly the hashed fields of the signature packet -/
theorem certificate_users_sound (P : Prims) (L : List (Bytes × Bytes)) (S : List Signed) (primary : VKey)
    (d : Details) (subkeys : List (VKey × List BindSig))
    (hU : Unforgeable P L) (hH : LogHonest P L S) (hS : HonestInputs S)
    (htp : primary.ser.truthful) (hti : ∀ u ∈ d.users, u.1.truthful)
    (hv : ∀ u ∈ d.users, ∀ s ∈ u.2, s.cfg.ver ≠ .v3)
    (hC : ∀ u ∈ d.users, ∀ s ∈ u.2, ∀ p,
      verifyCertification s.cfg primary.ver primary.toKey tagUserId u.1 = some p → CollisionFreeOn P S s.cfg.hash p)
    (h : verifyCertificate P primary d subkeys = .ok) :
    ∀ u ∈ d.users, u.2 ≠ [] ∧ ∀ s ∈ u.2, ∃ e ∈ S, e.km = primary.mat ∧
      e.input = s.cfg.toInput (.certification primary.toKey.toSpec false u.1.bytes) := by
  intro u hu
  obtain ⟨hus, _, _, _, _⟩ := certificate_all_verified P primary d subkeys h
  obtain ⟨hne, hall⟩ := user_bindings_all_verified P primary tagUserId u.1 u.2 (hus u hu)
  exact ⟨hne, fun s hs => verify_sound_certification P L S primary primary.toKey s tagUserId u.1 hU hH hS
    (hv u hu s hs) htp (hti u hu) (hC u hu s hs) (hall s hs)⟩

/-- … and every binding of every subkey was made by the holder of the primary key material over
(primary key body, subkey body); a signing-capable subkey moreover signed (primary, subkey) itself -/
theorem certificate_subkeys_sound (P : Prims) (L : List (Bytes × Bytes)) (S : List Signed) (primary : VKey)
    (d : Details) (subkeys : List (VKey × List BindSig))
    (hU : Unforgeable P L) (hH : LogHonest P L S) (hS : HonestInputs S)
    (htp : primary.ser.truthful) (hts : ∀ sk ∈ subkeys, sk.1.ser.truthful)
    (hv : ∀ sk ∈ subkeys, ∀ b ∈ sk.2, b.sig.cfg.ver ≠ .v3 ∧ ∀ e, b.embedded = some e → e.cfg.ver ≠ .v3)
    (hC : ∀ h p, CollisionFreeOn P S h p)
    (h : verifyCertificate P primary d subkeys = .ok) :
    ∀ sk ∈ subkeys, sk.2 ≠ [] ∧ ∀ b ∈ sk.2,
      (∃ e ∈ S, e.km = primary.mat ∧
        e.input = b.sig.cfg.toInput (.binding primary.toKey.toSpec sk.1.toKey.toSpec)) ∧
      (b.signFlag = true → ∃ bs, b.embedded = some bs ∧ ∃ e ∈ S, e.km = sk.1.mat ∧
        e.input = bs.cfg.toInput (.binding primary.toKey.toSpec sk.1.toKey.toSpec)) := by
  intro sk hsk
  obtain ⟨_, _, _, _, hsub⟩ := certificate_all_verified P primary d subkeys h
  obtain ⟨hne, hall⟩ := verifySubkeyBindings_ok P primary sk.1 sk.2 (hsub sk hsk)
  refine ⟨hne, ?_⟩
  intro b hb
  obtain ⟨hb1, hb2⟩ := verifyOneBinding_ok P primary sk.1 b (hall b hb)
  refine ⟨verify_sound_subkey_binding P L S primary sk.1.toKey b.sig hU hH hS (hv sk hsk b hb).1 htp (hts sk hsk)
    (fun p _ => hC _ p) hb1, ?_⟩
  intro hf
  obtain ⟨bs, hbs, hok⟩ := hb2 hf
  exact ⟨bs, hbs, verify_sound_primary_key_binding P L S sk.1 primary.toKey bs hU hH hS
    ((hv sk hsk b hb).2 bs hbs) htp (hts sk hsk) (fun p _ => hC _ p) hok⟩

/-! ## 4. what is not bound (the exception list of the property, explicit) -/

/-- **unhashed area**: parsed packets that differ only in their unhashed areas are read identically
by the `Signature::verify*` functions if those areas carry the same issuer subpackets -/
theorem unbound_unhashed_area (v6 : Bool) (typ pk hash : Byte) (hashed u1 u2 : List Wire.Subpacket)
    (left salt : Bytes) (sb : Wire.SigBytes)
    (h16 : bodiesOf Gen.spRdIssuerKeyId u1 = bodiesOf Gen.spRdIssuerKeyId u2)
    (h33 : bodiesOf Gen.spRdIssuerFingerprint u1 = bodiesOf Gen.spRdIssuerFingerprint u2) :
    ofWire (.v4 v6 typ pk hash hashed u1 left salt sb) = ofWire (.v4 v6 typ pk hash hashed u2 left salt sb) := by
  simp [ofWire, bodiesOf_append, h16, h33]

/-- … and the issuer subpackets (of either area) matter only through `match_identity` -/
theorem unbound_issuer_subpackets (P : Prims) (k : VKey) (s : Sig) (ids fps : List Bytes) (d : Bytes)
    (h : matchIdentity { s with issuerIds := ids, issuerFps := fps } k = matchIdentity s k) :
    verifyData P k { s with issuerIds := ids, issuerFps := fps } d = verifyData P k s d := by
  have e : dataPre P.hashKnown k { s with issuerIds := ids, issuerFps := fps } d = dataPre P.hashKnown k s d := by
    unfold dataPre
    simp only [h]
  unfold Sound.verifyData
  rw [e]
  cases dataPre P.hashKnown k s d <;> rfl

/-- the binding verifiers ignore issuer subpackets altogether -/
theorem unbound_issuer_subpackets_bindings (P : Prims) (primary : VKey) (sub : Key) (s : Sig) (ids fps : List Bytes) :
    verifySubkeyBinding P primary sub { s with issuerIds := ids, issuerFps := fps } =
      verifySubkeyBinding P primary sub s := by
  have hg : ¬ (Gen.sndIdentitySubkeyBinding = 1) := by decide
  have e : subkeyBindingPre P.hashKnown primary sub { s with issuerIds := ids, issuerFps := fps } =
      subkeyBindingPre P.hashKnown primary sub s := by
    unfold subkeyBindingPre
    simp only [hg, false_and, if_false]
  unfold Sound.verifySubkeyBinding
  rw [e]
  cases subkeyBindingPre P.hashKnown primary sub s <;> rfl

/-- concrete: a subpacket of the private type 100 added to the unhashed area changes nothing; the two
packet bodies differ -/
theorem unbound_unhashed_witness : Toy.bodyA ≠ Toy.bodyB ∧ parseSig Toy.bodyA = parseSig Toy.bodyB ∧
    (parseSig Toy.bodyA).isSome = true := by decide +kernel

/-- an unhashed issuer subpacket *can* make a verification fail (never succeed on its own):
adding the Key ID of another key to a signature without issuer information -/
theorem unhashed_issuer_can_refuse :
    verifyData Toy.P Toy.key0 Toy.sig0 Toy.data0 = .ok ∧
    verifyData Toy.P Toy.key0 { Toy.sig0 with issuerIds := [Toy.key1.keyId] } Toy.data0 = .err .issuer := by
  decide +kernel

/-- **MPI bit count**: the two bit-count octets of an MPI are not bound beyond the number of octets
they imply -/
theorem unbound_mpi_bitcount (n n' : Nat) (b : Bytes) (hn : n < 65536) (hn' : n' < 65536)
    (h1 : n ≤ Gen.mpiMaxBits) (h2 : n' ≤ Gen.mpiMaxBits) (h : (n + 7) / 8 = (n' + 7) / 8) :
    Wire.mpiParse (be16 n ++ b) = Wire.mpiParse (be16 n' ++ b) := by
  unfold Wire.mpiParse
  rw [Wire.take_append' 2 _ b (be16_length n), Wire.take_append' 2 _ b (be16_length n')]
  simp only [beNat_be16 n hn, beNat_be16 n' hn']
  rw [if_neg (Nat.not_lt.2 h1), if_neg (Nat.not_lt.2 h2), h]

theorem unbound_mpi_bitcount_witness : Toy.bodyA ≠ Toy.bodyC ∧ parseSig Toy.bodyC = parseSig Toy.bodyA := by
  decide +kernel

/-- **One-Pass issuer**: the Key ID / fingerprint and the nesting flag of a One-Pass Signature
packet are not compared with anything -/
theorem unbound_ops_issuer (typ hash pk : Byte) (id id' : Bytes) (l l' : Byte) (salt fp fp' : Bytes) :
    ofWireOps (.v3 typ hash pk id l) = ofWireOps (.v3 typ hash pk id' l') ∧
    ofWireOps (.v6 typ hash pk salt fp l) = ofWireOps (.v6 typ hash pk salt fp' l') := ⟨rfl, rfl⟩

/-- **packet framing**: the verification functions are functions of the packet *body*; header
format and length encoding never reach them (`parseSig` takes the body) -/
theorem unbound_packet_framing (body : Bytes) (h h' : Rpgp.Hdr) :
    (fun (_ : Rpgp.Hdr) => parseSig body) h = (fun (_ : Rpgp.Hdr) => parseSig body) h' := rfl

/-! ### the hashed area and the prefixed packet are bound (since the D2a / D2b repairs)

Before c2573e8 the digest covered `areaSer (areaParse raw)` while the parser accepted any `raw`
that parses (Revocable 00 → 02 still verified); before 11d69e3 the message parser dropped trailing
octets of a prefixed Signature packet. -/

/-- a parsed v4 / v6 packet: the hashed area that enters the digest is the hashed area as received -/
theorem hashed_area_is_raw (body : Bytes) (s : Sig) (h : parseSig body = some s)
    (hk : s.known = true) (hv : s.cfg.ver ≠ .v3) : s.cfg.area = Wire.rawHashedArea body := by
  unfold parseSig at h
  cases hw : Wire.sigParse (Wire.embFor body) body with
  | none => simp [hw] at h
  | some w =>
    simp only [hw, Option.map_some, Option.some.injEq] at h
    subst h
    cases w with
    | v3 ver typ created issuer pk hash left sb => simp [ofWire] at hv
    | unknown ver data => simp [ofWire] at hk
    | v4 v6 typ pk hash hashed unhashed left salt sb =>
      have := Wire.sig_parse_hashed_canonical _ body v6 typ pk hash hashed unhashed left salt sb hw
      simp [ofWire, this]

/-- everything the parser accepts has a hashed area that writes back to itself -/
theorem parsed_area_canonical (body : Bytes) (s : Sig) (h : parseSig body = some s) :
    ∃ w, Wire.sigParse (Wire.embFor body) body = some w ∧ s = ofWire w ∧
      ∀ v6 typ pk hash hashed unhashed left salt sb, w = .v4 v6 typ pk hash hashed unhashed left salt sb →
        Wire.areaSer hashed = some (Wire.rawHashedArea body) := by
  unfold parseSig at h
  cases hw : Wire.sigParse (Wire.embFor body) body with
  | none => simp [hw] at h
  | some w =>
    simp only [hw, Option.map_some, Option.some.injEq] at h
    refine ⟨w, rfl, h.symm, ?_⟩
    intro v6 typ pk hash hashed unhashed left salt sb he
    subst he
    exact Wire.sig_parse_hashed_canonical _ body v6 typ pk hash hashed unhashed left salt sb hw

/-- two parsed packets with the same hashed area in the digest have the same hashed-area octets on
the wire -/
theorem hashed_area_octets_bound (b1 b2 : Bytes) (s1 s2 : Sig) (h1 : parseSig b1 = some s1) (h2 : parseSig b2 = some s2)
    (k1 : s1.known = true) (k2 : s2.known = true) (v1 : s1.cfg.ver ≠ .v3) (v2 : s2.cfg.ver ≠ .v3)
    (h : s1.cfg.area = s2.cfg.area) : Wire.rawHashedArea b1 = Wire.rawHashedArea b2 := by
  rw [← hashed_area_is_raw b1 s1 h1 k1 v1, ← hashed_area_is_raw b2 s2 h2 k2 v2]
  exact h

/-- **the full statement that D2a violated**: two signature packets that both verify under the same
key over the same document, against a signer who signed one thing, have the same hashed-area
octets on the wire (and the same type, algorithm octets and salt) -/
theorem hashed_area_octets_bound_by_signature (P : Prims) (L : List (Bytes × Bytes)) (km0 : Bytes) (i0 : Spec.Input)
    (k : VKey) (b1 b2 : Bytes) (s1 s2 : Sig) (d : Bytes)
    (hU : Unforgeable P L) (hH : LogHonest P L [⟨km0, i0⟩]) (hS : HonestInputs [⟨km0, i0⟩])
    (p1 : parseSig b1 = some s1) (p2 : parseSig b2 = some s2)
    (v1 : s1.cfg.ver ≠ .v3) (v2 : s2.cfg.ver ≠ .v3)
    (t1 : s1.cfg.typ = typBinary ∨ s1.cfg.typ = typText) (t2 : s2.cfg.typ = typBinary ∨ s2.cfg.typ = typText)
    (hC : ∀ h p, CollisionFreeOn P [⟨km0, i0⟩] h p)
    (ok1 : verifyData P k s1 d = .ok) (ok2 : verifyData P k s2 d = .ok) :
    Wire.rawHashedArea b1 = Wire.rawHashedArea b2 ∧ s1.cfg.typ = s2.cfg.typ ∧ s1.cfg.pk = s2.cfg.pk ∧
      s1.cfg.hash = s2.cfg.hash := by
  have hi1 := (single_signed (verify_sound_data P L _ k s1 d hU hH hS v1 t1 (fun p _ => hC _ p) ok1)).2
  have hi2 := (single_signed (verify_sound_data P L _ k s2 d hU hH hS v2 t2 (fun p _ => hC _ p) ok2)).2
  have hk1 := (verify_guards_data P k s1 d ok1).1
  have hk2 := (verify_guards_data P k s2 d ok2).1
  have e : s1.cfg.toInput (.document (docRep s1.cfg.typ d)) = s2.cfg.toInput (.document (docRep s2.cfg.typ d)) :=
    hi1.symm.trans hi2
  have harea : s1.cfg.area = s2.cfg.area := by
    rw [← toInput_area s1.cfg _ v1, e, toInput_area s2.cfg _ v2]
  exact ⟨hashed_area_octets_bound b1 b2 s1 s2 p1 p2 hk1 hk2 v1 v2 harea, congrArg Spec.Input.typ e,
    congrArg Spec.Input.pk e, congrArg Spec.Input.hash e⟩

/-- regression (the former D2a witnesses): Revocable = 0x00 in the hashed area parses, the same
packet with 0x02 is refused; an embedded signature with such a hashed area is refused wherever it
sits - in the UNHASHED area of the outer signature too; an embedded signature in the hashed area
whose MPI bit count is not the canonical one is refused -/
theorem hashed_area_noncanonical_refused_witness :
    (parseSig Toy.bodyR0).isSome = true ∧ parseSig Toy.bodyR2 = none ∧
    (parseSig Toy.bodyE0).isSome = true ∧ parseSig Toy.bodyE2 = none ∧
    (parseSig Toy.bodyH1).isSome = true ∧ parseSig Toy.bodyH8 = none := by decide +kernel

/-- the subpacket parser itself still normalises (it does so for the unhashed area, which is not
hashed): `Revocable 02` is read as `false` and would be written back as `00` -/
theorem subpacket_parser_still_normalises_witness :
    (Wire.areaParse (fun _ => none) 4 [2, 7, 2]).bind Wire.areaSer = some [2, 7, 0] ∧
    Wire.areaParseCanon (fun _ => none) [2, 7, 2] = none ∧
    (Wire.areaParseCanon (fun _ => none) [2, 7, 0]).isSome = true := by decide +kernel

/-- **the full statement that D2b violated**: the message parser accepts a prefixed Signature packet
exactly when the packet parser accepts it as a standalone packet … -/
theorem prefixed_sig_exact (body : Bytes) : parseSigPrefix body = parseSig body := by
  unfold parseSigPrefix
  rw [if_pos (by decide)]

/-- … and likewise a One-Pass Signature packet -/
theorem prefixed_ops_exact (body : Bytes) : parseOpsPrefix body = Wire.opsParse body := by
  unfold parseOpsPrefix
  rw [if_pos (by decide)]

/-- regression (the former D2b witness): a stray octet after the signature value is refused by both
parsers; the pre-fix message parser (`parseSigPrefixPreFix`) accepted it as the signature without
the octet -/
theorem prefixed_sig_trailing_octet_refused_witness :
    parseSig Toy.bodyT = none ∧ parseSigPrefix Toy.bodyT = none ∧
    parseSigPrefixPreFix Toy.bodyT = parseSig Toy.bodyA ∧ (parseSig Toy.bodyA).isSome = true := by
  decide +kernel

/-! ## non-vacuity: the hypotheses are satisfiable together with a successful verification -/

example : Unforgeable Toy.P Toy.L ∧ LogHonest Toy.P Toy.L Toy.S ∧ HonestInputs Toy.S ∧
    (∀ h p, CollisionFreeOn Toy.P Toy.S h p) :=
  ⟨Toy.unforgeable, Toy.logHonest, Toy.honestInputs, Toy.collisionFree⟩

example : verifyData Toy.P Toy.key0 Toy.sig0 Toy.data0 = .ok := by decide +kernel

/-- the conclusion of `verify_sound_data` on the toy instance is the logged entry -/
example : ∃ e ∈ Toy.S, e.km = Toy.key0.mat ∧
    e.input = Toy.sig0.cfg.toInput (.document (docRep Toy.sig0.cfg.typ Toy.data0)) :=
  verify_sound_data Toy.P Toy.L Toy.S Toy.key0 Toy.sig0 Toy.data0 Toy.unforgeable Toy.logHonest
    Toy.honestInputs (by decide) (Or.inl (by decide)) (fun p _ => Toy.collisionFree _ p) (by decide)

/-- another document, another key, a wrong left-16 (even with a primitive that accepts everything),
another signature type: refused, each by the guard the theorems name -/
example : verifyData Toy.P Toy.key0 Toy.sig0 [0x62] = .err .left16 ∧
    verifyData Toy.P Toy.key1 Toy.sig0 Toy.data0 = .err .pk ∧
    verifyData Toy.Pyes Toy.key1 { Toy.sig0 with left16 := [0, 0] } Toy.data0 = .err .left16 ∧
    verifyData Toy.P Toy.key0 { Toy.sig0 with cfg := { Toy.cfg0 with typ := 0x10 } } Toy.data0 = .err .input ∧
    verifyData Toy.P { Toy.key0 with ver := 6 } Toy.sig0 Toy.data0 = .err .align := by decide +kernel

/-- one-pass: matching header, mismatching header, prefixed form -/
example :
    verifyMessage Toy.P Toy.key0 (some { ver := 3, typ := 0, hash := 8, pk := 1 }) Toy.sig0 [Toy.data0] = .ok ∧
    verifyMessage Toy.P Toy.key0 (some { ver := 3, typ := 1, hash := 8, pk := 1 }) Toy.sig0 [Toy.data0] = .err .noneSlot ∧
    verifyMessage Toy.P Toy.key0 none Toy.sig0 [Toy.data0] = .ok := by decide +kernel

example : opsMatches { ver := 3, typ := 1, hash := 8, pk := 1 } Toy.sig0 = false := by decide +kernel

end Rpgp.C02
