import RpgpProofs.Panics
/-!
# C04 — hostile input never panics: every processing entry point returns Ok or Err  (PARTIAL)

Property text: *no byte sequence presented to the library — including messages that are
cryptographically well-formed for a key or password the recipient holds but whose decrypted or
declared contents are attacker-chosen — makes parsing, dearmoring, decrypting, … panic, abort,
overflow the stack or loop forever; the call returns a value or an error.*

What is proved here: for each modelled decision / slicing region of `RpgpModel/Panics.lean`
(every Rust index, range, `copy_from_slice`, `expect`, `unreachable!`, unsigned subtraction and
checked arithmetic written as a checked operation) the theorem `region_total : ∀ input, region
input ≠ panic`, for ALL inputs.  Every model function is a total Lean function (structural
recursion on the input list / an explicit fuel that the code's own loop bound provides), which is
the "does not loop forever" half for the modelled loops.

Where the code as it stands violates the property the full statement is kept in a comment, the
provable `…_partial` theorem carries the explicit guard, the negation is proved on a concrete
witness, and the repaired form (`…Fixed`, the candidate patch) is proved total:

* D4a  `PlainSecretParams::decrypt` V3_4 arm indexes `decrypted_key[0]` on an empty RSA plaintext
* D4c1 `SymKeyEncryptedSessionKey::decrypt` V4 arm indexes `[0]` on an empty encrypted key
* D4c2 `EncryptedSecretParams::checksum` slices `len-2` / `len-20` on shorter data
* D4c3 `Base64Reader::read` writes `into[0]` for an empty output buffer
* D4f  `aes_kw::unwrap` computes `data.len() - 8` before any check (ECDH / X25519 / X448 PKESK
       whose wrapped key is shorter than 8 octets)  — new
* D4g  `Dearmor::read` polled again after it returned an error reaches `panic!("invalid state")`  — new
* D4h  `LiteralDataReader::fill_inner` polled again after an error calls `is_done`, which panics in
       the `Error` state
* D4i  `LiteralDataReader::is_done` itself still panics in the `Error` state (open finding; witness
       only)

NOT proved (carried only by the harness runs under `catch_unwind` + watchdog + child process):
third-party crates, stack depth, allocation, and all rpgp code outside the regions below.
-/
namespace Rpgp.C04
open Rpgp Rpgp.Panics Rpgp.Panics.Out

/-! ## constants the safety arguments depend on (re-extracted from the source on every run) -/

/-- every cipher's key fits the 42-octet HKDF output together with the longest nonce prefix -/
theorem sym_key_sizes_le_32 : ∀ e ∈ Gen.symKeySizeTable, e.2 ≤ 32 := by decide
theorem aead_nonce_ge_counter : ∀ e ∈ Gen.aeadTable, Gen.aeadSetupNonceCounter ≤ e.2.1 := by decide
theorem aead_okm_fits : ∀ e ∈ Gen.aeadTable, 32 + (e.2.1 - Gen.aeadSetupNonceCounter) ≤ Gen.aeadSetupOkmLen := by decide
theorem aead_iv_is_nonce : ∀ e ∈ Gen.aeadTable, e.2.2.1 = e.2.1 := by decide
theorem partial_mask_lt_32 : Gen.rdPartialMask + 1 ≤ 32 := by decide
theorem mpi_bits_no_u16_overflow : Gen.mpiMaxBits + Gen.mpiRound < 65536 := by decide
theorem subpacket_two_octet_no_u16_overflow :
    (Gen.spTwoOctetMax - Gen.spTwoOctetSub) * 2 ^ Gen.spTwoOctetShift + Gen.spTwoOctetAdd + 255 < 65536 := by decide
theorem pkesk_v6_min_len_covers_checksum : Gen.pkeskV6CkLen ≤ Gen.pkeskV6MinLen := by decide
theorem argon2_m_enc_no_u32_overflow : 2 ^ Gen.argon2MaxMEnc < 4294967296 := by decide
theorem armor_checksum_fits_buffer : 3 * ((Gen.armorCrcChars + 3) / 4) < Gen.armorCrcBufLen := by decide
theorem aes_kw_iv_len_is_rfc : Gen.aesKwIvLen = 8 := by decide

/-! ## regions -/

theorem pkesk_v6_total (dk : Bytes) : pkeskDecodeV6 dk ≠ .panic := by
  unfold pkeskDecodeV6
  simp only [out_simp, checksumSimple]
  have := pkesk_v6_min_len_covers_checksum
  have e : Gen.pkeskV6CkLen = 2 := rfl
  omega

theorem pkesk_v3_total_partial (dk : Bytes) (h : dk ≠ []) : pkeskDecodeV3 dk ≠ .panic := by
  unfold pkeskDecodeV3
  simp only [out_simp, checksumSimple]
  refine ⟨List.length_pos_iff.mpr h, fun a _ _ hlen => ?_⟩
  have e : Gen.pkeskV3Overhead = 3 := rfl
  omega

theorem skesk_v4_total_partial (dk : Bytes) (h : dk ≠ []) : skeskV4Decode dk ≠ .panic := by
  unfold skeskV4Decode
  have hl : 0 < dk.length := List.length_pos_iff.mpr h
  simp only [out_simp]
  exact ⟨hl, fun _ _ => hl⟩

theorem aead_decrypt_in_place_total (sym aead keyLen : Nat) (opened : Option Bytes)
    (hk : symKeySize sym ≤ keyLen) :
    aeadDecryptInPlace sym aead keyLen (aeadNonceSize aead) opened ≠ .panic := by
  unfold aeadDecryptInPlace
  cases aeadTagSize aead <;> cases opened <;> simp only [out_simp, hk]

theorem aes_kw_unwrap_total_partial (keyLen dataLen : Nat) (h : Gen.aesKwIvLen ≤ dataLen) :
    aesKwUnwrapLen keyLen dataLen ≠ .panic := by
  unfold aesKwUnwrapLen
  simp only [out_simp, h]

theorem aes_kw_unwrap_panics_when_short : aesKwUnwrapLen 16 7 = .panic := by decide

theorem aes_kw_unwrap_fixed_total (keyLen dataLen : Nat) : aesKwUnwrapLenFixed keyLen dataLen ≠ .panic := by
  unfold aesKwUnwrapLenFixed
  simp only [out_simp]
  exact aes_kw_unwrap_total_partial _ _

theorem ecdh_unpad_total (padded : Bytes) : ecdhUnpad padded ≠ .panic := by
  unfold ecdhUnpad
  simp only [out_simp]
  intro _ hne
  cases hl : padded.getLast? with
  | none =>
    rw [List.getLast?_eq_none_iff.mp hl] at hne
    cases hne
  | some p =>
    simp only [out_simp]
    omega

theorem ecdh_derive_total_partial (ek n kekLen : Nat) (u : Option Bytes) (hle : n ≤ ek)
    (h : Gen.aesKwIvLen ≤ ek) : ecdhDerive ek n kekLen u ≠ .panic := by
  unfold ecdhDerive
  cases u <;> simp only [out_simp, hle, Nat.sub_sub_self hle]
  · exact aes_kw_unwrap_total_partial _ _ h
  · exact ⟨aes_kw_unwrap_total_partial _ _ h, fun _ _ => ecdh_unpad_total _⟩

theorem ecdh_derive_panics_on_short_key : ecdhDerive 7 7 16 none = .panic := by decide

theorem ecdh_derive_panics_on_len_mismatch : ecdhDerive 8 16 16 none = .panic := by decide

theorem stream_decryptor_new_total (sym aead : Nat) : streamDecryptorNew sym aead ≠ .panic := by
  unfold streamDecryptorNew
  cases h : aeadTagSize aead with
  | none => exact nofun
  | some n => exact aead_setup_total_of_tag sym aead n h

theorem stream_decryptor_prefix_panicked : streamDecryptorNewPreFix 9 0 = .panic := by decide

theorem seipd2_admit_total (sym aead cs keyLen : Nat) : seipd2Admit sym aead cs keyLen ≠ .panic := by
  unfold seipd2Admit
  simp only [out_simp]
  exact fun _ _ => stream_decryptor_new_total sym aead

theorem skesk_v6_total (sym aead : Nat) (o : Option Bytes) : skeskV6Decode sym aead o ≠ .panic := by
  unfold skeskV6Decode
  simp only [out_simp, aeadIv_eq_nonce]
  exact aead_decrypt_in_place_total _ _ _ _ (symKeySize_le_okm sym)

theorem skesk_v5_total (sym aead keyLen : Nat) (o : Option Bytes) (h : symKeySize sym ≤ keyLen) :
    skeskV5Decode sym aead keyLen o ≠ .panic := by
  unfold skeskV5Decode
  simp only [out_simp, aeadIv_eq_nonce]
  exact aead_decrypt_in_place_total _ _ _ _ h

theorem skesk_v5_short_key_panics : skeskV5Decode 9 2 16 none = .panic := by decide

theorem decode_new_len_total (inp : Bytes) : decodeNewLenC inp ≠ .panic := by
  rw [decodeNewLenC_eq]
  cases decodeNewLen inp <;> exact nofun

theorem parse_header_total (inp : Bytes) : parseHeaderC inp ≠ .panic := by
  rw [parseHeaderC_eq]
  cases parseHeader inp <;> exact nofun

theorem enc_secret_checksum_total_partial (usage : Nat) (data : Bytes)
    (h : encSecretChecksumLen usage ≤ data.length) : encSecretChecksum usage data ≠ .panic := by
  unfold encSecretChecksum
  simp only [out_simp, h]

theorem enc_secret_checksum_panics_when_short : encSecretChecksum 254 (List.replicate 19 0) = .panic := by decide

theorem enc_secret_checksum_panics_when_short2 : encSecretChecksum 255 [0] = .panic := by decide

theorem enc_secret_checksum_fixed_total (usage : Nat) (data : Bytes) :
    encSecretChecksumFixed usage data ≠ .panic := by
  unfold encSecretChecksumFixed
  simp only [out_simp]

theorem mpi_decode_total (inp : Bytes) : mpiDecode inp ≠ .panic := by
  unfold mpiDecode
  simp only [out_simp]
  have := mpi_bits_no_u16_overflow
  omega

theorem subpacket_len_total (inp : Bytes) : subpacketLenC inp ≠ .panic := by
  unfold subpacketLenC
  simp only [out_simp]
  intro o _ _ h1 h2 a _ _
  have key := Nat.lt_of_le_of_lt (Nat.le_trans
    (Nat.add_le_add_right (Nat.add_le_add_right (Nat.mod_le _ 65536) _) _) (two_octet_le h2 a.toNat_lt))
    subpacket_two_octet_no_u16_overflow
  exact ⟨Nat.le_trans (by decide) h1, by decide, Nat.lt_of_le_of_lt (Nat.le_add_right _ _) key, key⟩

theorem subpacket_head_total (inp : Bytes) : subpacketHeadC inp ≠ .panic := by
  unfold subpacketHeadC
  simp only [out_simp]
  exact ⟨subpacket_len_total inp, fun _ _ h _ _ _ => Nat.pos_of_ne_zero h⟩

theorem argon2_admit_total (t p m ks : Nat) : argon2Admit t p m ks ≠ .panic := by
  unfold argon2Admit
  simp only [out_simp]
  exact fun _ h => Nat.lt_of_le_of_lt (Nat.pow_le_pow_right (by decide) h.2) argon2_m_enc_no_u32_overflow

theorem argon2_admit_bounds (t p m ks : Nat) (h : argon2Admit t p m ks = .ok ()) :
    t ≤ 32 ∧ p ≤ 32 ∧ 2 ^ m ≤ 2097152 ∧ 1 ≤ t ∧ 1 ≤ p := by
  unfold argon2Admit at h
  simp only [out_simp] at h
  have e1 : Gen.argon2MaxT = 32 := rfl
  have e2 : Gen.argon2MaxP = 32 := rfl
  have e3 : Gen.argon2MemLimitKib = 2097152 := rfl
  omega

theorem read_checksum_total (dec : Bytes) (h : dec.length < Gen.armorCrcBufLen) : readChecksum dec ≠ .panic := by
  unfold readChecksum
  simp only [out_simp]
  exact read_checksum_loop_total _ _ _ List.length_reverse.symm
    (by rw [List.length_reverse, List.length_replicate]; exact h)

theorem read_checksum_panics_on_4 : readChecksum [1, 2, 3, 4] = .panic := by decide

theorem nr_cleanup_total (repl inBuf w : Bytes) (hW : 0 < inBuf.length) (hw : w.length ≤ inBuf.length) :
    nrCleanupC repl inBuf w ≠ .panic := by
  have hlen : (w ++ inBuf.drop w.length).length = inBuf.length := by
    rw [List.length_append, List.length_drop, Nat.add_sub_of_le hw]
  unfold nrCleanupC
  simp only [out_simp, Nat.add_sub_of_le hw, hw, Nat.sub_lt hW Nat.one_pos]
  generalize w ++ inBuf.drop w.length = b at hlen
  refine ⟨hW, fun lastChar _ c hc => ⟨fun hcr => ⟨hcr.1 ▸ hW, ?_⟩, fun _ => ?_⟩⟩
  · refine nr_tail_total _ _ _ _ _ (hlen ▸ hW) (by omega) fun _ h0 => ?_
    -- in_buffer[0] = LF and in_buffer[W-1] = CR, so W ≥ 2
    have : inBuf.length - 1 ≠ 0 := fun e => by
      rw [e, h0, hcr.2] at hc
      cases hc
    omega
  · exact nr_tail_total _ _ _ _ _ (hlen ▸ hW) (hlen ▸ hw) fun h _ => h

theorem nr_cleanup_panics_on_empty_window : nrCleanupC [13, 10] [] [] = .panic := by decide

theorem lw_write_total (N : Nat) (lb : Bytes) (st : LwState) (input : Bytes)
    (hf : st.finished = false) (hlb : lb.length ≤ 2) (hinv : st.extra.length < N ∨ st.extra = []) :
    lwWrite N lb st input ≠ .panic := by
  have hinv' : st.extra.length < N ∨ st.extra.length = 0 := hinv.imp_right fun h => by rw [h]; rfl
  unfold lwWrite
  simp only [out_simp, hf]
  exact fun _ => ⟨fun _ => by omega, fun _ =>
    ⟨fun _ => ⟨by omega, lw_fill_total _ _ _ _ _ _ hlb (by omega)⟩, fun _ => lw_fill_total _ _ _ _ _ _ hlb (Nat.zero_le _)⟩⟩

theorem lw_write_inv (N : Nat) (lb : Bytes) (st : LwState) (input : Bytes) (r : Nat × Bytes × LwState)
    (hinv : st.extra.length < N ∨ st.extra = [])
    (h : lwWrite N lb st input = .ok r) :
    (r.2.2.extra.length < N ∨ r.2.2.extra = []) ∧ r.2.2.finished = st.finished := by
  unfold lwWrite at h
  simp only [out_simp] at h
  obtain ⟨_, ⟨_, rfl⟩ | ⟨_, ⟨hlt, _, rfl⟩ | ⟨_, ⟨_, _, h⟩ | ⟨_, h⟩⟩⟩⟩ := h
  · exact ⟨hinv, rfl⟩
  · exact ⟨Or.inl (by rw [List.length_append]; exact hlt), rfl⟩
  all_goals exact (lw_fill_state _ _ _ _ _ _ _ h).imp_left Or.inr

theorem lw_write_all_total (N : Nat) (lb : Bytes) (hlb : lb.length ≤ 2) :
    ∀ (fuel : Nat) (st : LwState) (input : Bytes), st.finished = false →
      (st.extra.length < N ∨ st.extra = []) → lwWriteAll N lb fuel st input ≠ .panic := by
  intro fuel
  induction fuel with
  | zero => intro st input _ _; exact nofun
  | succ f ih =>
    intro st input hf hinv
    unfold lwWriteAll
    simp only [out_simp]
    refine fun _ => ⟨lw_write_total N lb st input hf hlb hinv, fun r hw _ => ?_⟩
    have hi := lw_write_inv N lb st input _ hinv hw
    exact ih _ _ (hi.2.trans hf) hi.1

theorem s2k_iter_tail_total (pwLen coded : Nat) : s2kIterTail pwLen coded ≠ .panic := by
  unfold s2kIterTail
  simp only [out_simp]
  generalize (if s2kDecodeCount coded < 8 + pwLen then 8 + pwLen else s2kDecodeCount coded) = c1
  have := s2kReduce_le (8 + pwLen) (by omega) c1 c1 (Nat.le_refl _)
  omega

theorem s2k_rounds_total (dsz ksz pwLen : Nat) (coded : Option Nat) (hd : 0 < dsz) :
    ∀ (todo round : Nat), round + todo = (ksz + dsz - 1) / dsz → s2kRounds dsz ksz pwLen coded todo round ≠ .panic := by
  intro todo
  induction todo with
  | zero => intro round _; exact nofun
  | succ t ih =>
    intro round hsum
    unfold s2kRounds
    simp only [out_simp]
    generalize he : (if round = (ksz + dsz - 1) / dsz - 1 then ksz else (round + 1) * dsz) = e
    obtain ⟨h1, h2, h3⟩ := s2k_round_window dsz ksz round t e hd hsum he.symm
    refine ⟨by omega, ?_, fun _ _ => ⟨by omega, ⟨h1, h2⟩, h1, Nat.sub_le_iff_le_add'.mpr h3, ih _ (by omega)⟩⟩
    cases coded with
    | none => exact nofun
    | some c => exact s2k_iter_tail_total pwLen c

theorem s2k_derive_hashed_total (dsz : Option Nat) (ksz pwLen : Nat) (coded : Option Nat) :
    s2kDeriveHashed dsz ksz pwLen coded ≠ .panic := by
  unfold s2kDeriveHashed
  match dsz with
  | none => exact nofun
  | some 0 => exact nofun
  | some (d + 1) => exact s2k_rounds_total _ ksz pwLen coded (Nat.succ_pos d) _ 0 (Nat.zero_add _)

theorem b64_read_total_partial (intoLen : Nat) (src : List Bytes) (h : 0 < intoLen) :
    b64Read intoLen src ≠ .panic := by
  unfold b64Read
  match src with
  | [] => exact nofun
  | [] :: _ => exact nofun
  | (c :: cs) :: rest => exact b64_loop_total intoLen _ _ _ 0 [] (Nat.succ_pos _) h

theorem b64_read_panics_on_empty_buffer : b64Read 0 [[65]] = .panic := by decide

theorem b64_read_fixed_total (intoLen : Nat) (src : List Bytes) : b64ReadFixed intoLen src ≠ .panic := by
  unfold b64ReadFixed
  simp only [out_simp]
  exact fun h => b64_read_total_partial _ _ (Nat.pos_of_ne_zero h)

theorem read_cleartext_body_total (text : Bytes) : readCleartextBody text ≠ .panic :=
  clear_body_loop_total _ _

/-- admission + first AEAD call of an SEIPDv2 container: every cipher / AEAD / chunk-size octet,
every session-key length, whatever the primitive answers -/
theorem seipd2_open_total (sym aead cs keyLen : Nat) (o : Option Bytes) :
    seipd2Open sym aead cs keyLen o ≠ .panic := by
  unfold seipd2Open
  simp only [out_simp]
  refine ⟨seipd2_admit_total _ _ _ _, fun r h => ?_⟩
  rw [seipd2Admit_eq_ok _ _ _ _ r h]
  exact aead_decrypt_in_place_total _ _ _ _ (Nat.le_refl _)

/-! ## witnesses of the violations on the unrepaired tree, and the repaired forms -/

/-- FULL STATEMENT (false on the unrepaired tree): `∀ dk, pkeskDecodeV3 dk ≠ panic`.
D4a: an RSA PKESK whose PKCS#1 plaintext is empty panics at `decrypted_key[0]`. -/
theorem pkesk_v3_panics_on_empty : pkeskDecodeV3 [] = .panic := by decide

theorem pkesk_v3_fixed_total (dk : Bytes) : pkeskDecodeV3Fixed dk ≠ .panic := by
  unfold pkeskDecodeV3Fixed
  simp only [out_simp, List.isEmpty_eq_false_iff]
  exact pkesk_v3_total_partial dk

theorem pkesk_x_total (v6 : Bool) (sym : Option Nat) (key : Bytes) : pkeskDecodeX v6 sym key ≠ .panic := by
  unfold pkeskDecodeX
  split <;> exact nofun

/-- the decoded v3/v4 session key has exactly the cipher's key length (so the CFB key slicing
downstream is in range) -/
theorem pkesk_v3_key_len (dk : Bytes) (a : Nat) (k : Bytes) (h : pkeskDecodeV3 dk = .ok (.v34 a k)) :
    k.length = symKeySize a := by
  unfold pkeskDecodeV3 at h
  simp only [out_simp, checksumSimple, SessionKey.v34.injEq] at h
  obtain ⟨_, -, -, -, h1, -, -, -, rfl, rfl⟩ := h
  rw [List.length_drop, List.length_take]
  omega

/-- FULL STATEMENT (false on the unrepaired tree): `∀ dk, skeskV4Decode dk ≠ panic` (D4c1). -/
theorem skesk_v4_panics_on_empty : skeskV4Decode [] = .panic := by decide

theorem skesk_v4_fixed_total (dk : Bytes) : skeskV4DecodeFixed dk ≠ .panic := by
  unfold skeskV4DecodeFixed
  simp only [out_simp, List.isEmpty_eq_false_iff]
  exact skesk_v4_total_partial dk

/-- the pre-repair `new_rfc9580` panicked for *every* AEAD octet without a row in the table
(D4b, repaired in the tree: regression) and the repaired one does not -/
theorem stream_decryptor_prefix_panicked_all (sym aead : Nat) (h : aeadRow aead = none) :
    streamDecryptorNewPreFix sym aead = .panic := by
  unfold streamDecryptorNewPreFix aeadSetup
  have hn : aeadNonceSize aead = 0 := by simp only [aeadNonceSize, h]
  have hc : ¬Gen.aeadSetupNonceCounter ≤ 0 := by decide
  simp only [out_simp, hn, hc, symKeySize_le_okm]

/-! ## `Dearmor::read` polled again after an error (D4g, new) -/

/-- FULL STATEMENT (false on the unrepaired tree): `∀ steps, dearmorCalls dearmorCall .header steps ≠ panic`.
Guarded form: as long as no step has failed the reader never panics. -/
theorem dearmor_calls_total_partial (steps : List (Bool × Bool)) (h : ∀ s ∈ steps, s.1 = true) :
    ∀ st, st ≠ .temp → dearmorCalls dearmorCall st steps ≠ .panic := by
  refine fun st hst => dearmorCalls_total dearmorCall (· ≠ .temp) (·.1 = true) ?_ steps st hst h
  rintro st ⟨_, m⟩ hst rfl
  cases st with
  | temp => exact absurd rfl hst
  | _ => cases m <;> exact ⟨nofun, nofun⟩

/-- one failed step, then any further poll: `panic!("invalid state")` -/
theorem dearmor_panics_when_polled_after_error :
    dearmorCalls dearmorCall .header [(false, false), (true, false)] = .panic := by decide

theorem dearmor_calls_fixed_total (steps : List (Bool × Bool)) :
    ∀ st, dearmorCalls dearmorCallFixed st steps ≠ .panic := by
  refine fun st => dearmorCalls_total dearmorCallFixed (fun _ => True) (fun _ => True) ?_ steps st trivial
    fun _ _ => trivial
  rintro st ⟨o, m⟩ - -
  cases st <;> cases o <;> cases m <;> exact ⟨nofun, trivial⟩

/-! ## whole sessions, and agreement with the framing model of C17 -/

theorem lw_write_all_inv (N : Nat) (lb : Bytes) :
    ∀ (fuel : Nat) (st : LwState) (input : Bytes) (r : Bytes × LwState),
      (st.extra.length < N ∨ st.extra = []) → lwWriteAll N lb fuel st input = .ok r →
      (r.2.extra.length < N ∨ r.2.extra = []) ∧ r.2.finished = st.finished := by
  intro fuel
  induction fuel with
  | zero => intro st input r hinv h; cases h; exact ⟨hinv, rfl⟩
  | succ f ih =>
    intro st input r hinv h
    unfold lwWriteAll at h
    simp only [out_simp] at h
    obtain ⟨_, rfl⟩ | ⟨_, _, hw, _, _, hrec, rfl⟩ := h
    · exact ⟨hinv, rfl⟩
    · have hi := lw_write_inv N lb st input _ hinv hw
      have := ih _ _ _ hi.1 hrec
      exact ⟨this.1, this.2.trans hi.2⟩

theorem nr_blocks_total (repl : Bytes) (W : Nat) (hW : 0 < W) :
    ∀ (fuel : Nat) (inBuf inp : Bytes), inBuf.length = W → nrBlocksC repl W fuel inBuf inp ≠ .panic := by
  intro fuel
  induction fuel with
  | zero => intro _ _ _; exact nofun
  | succ f ih =>
    intro inBuf inp hb
    have hw : (inp.take W).length ≤ inBuf.length := by rw [List.length_take, hb]; exact Nat.min_le_left _ _
    unfold nrBlocksC
    simp only [out_simp]
    exact ⟨nr_cleanup_total repl inBuf _ (by omega) hw, fun r hr _ =>
      ih _ _ ((nr_cleanup_buf_len repl inBuf _ hw _ hr).trans hb)⟩

theorem normalized_read_total (repl inp : Bytes) :
    normalizedReadC repl Gen.normalizedReaderWindow inp ≠ .panic :=
  nr_blocks_total repl _ (by decide) _ _ _ List.length_replicate

theorem lw_session_total (N : Nat) (lb : Bytes) (hlb : lb.length ≤ 2) :
    ∀ (chunks : List Bytes) (st : LwState), st.finished = false → (st.extra.length < N ∨ st.extra = []) →
      lwSession N lb chunks st ≠ .panic := by
  intro chunks
  induction chunks with
  | nil => intro st _ _; exact nofun
  | cons c cs ih =>
    intro st hf hinv
    unfold lwSession
    simp only [out_simp]
    refine ⟨lw_write_all_total N lb hlb _ st c hf hinv, fun r hw => ?_⟩
    have hi := lw_write_all_inv N lb _ st c _ hinv hw
    exact ih _ (hi.2.trans hf) hi.1

theorem decode_new_len_agrees (inp : Bytes) (x : Len × Bytes) :
    decodeNewLenC inp = .ok x ↔ decodeNewLen inp = some x := by
  rw [decodeNewLenC_eq]
  cases decodeNewLen inp <;> simp [Option.elim]

theorem parse_header_agrees (inp : Bytes) (x : Hdr × Bytes) :
    parseHeaderC inp = .ok x ↔ parseHeader inp = .ok x := by
  rw [parseHeaderC_eq]
  cases parseHeader inp <;> simp [Option.elim, Except.toOption]

/-! ## the tree being checked (`…Cur`): total once the repair is present, guarded otherwise -/

theorem pkesk_v3_cur_total (dk : Bytes) (h : Gen.fixD4a = 1 ∨ dk ≠ []) : pkeskDecodeV3Cur dk ≠ .panic := by
  unfold pkeskDecodeV3Cur
  simp only [out_simp]
  exact ⟨fun _ => pkesk_v3_fixed_total dk, fun hf => pkesk_v3_total_partial dk (h.resolve_left hf)⟩

/-- `derive_session_key` never hands an empty key on -/
theorem ecdh_unpad_nonempty (padded dk : Bytes) (hdk : ecdhUnpad padded = .ok dk) : dk ≠ [] := by
  unfold ecdhUnpad at hdk
  simp only [out_simp] at hdk
  obtain ⟨-, -, hdk⟩ := hdk
  cases hl : padded.getLast? <;> simp only [hl, out_simp] at hdk
  obtain ⟨-, -, -, hne, rfl⟩ := hdk
  exact List.isEmpty_eq_false_iff.mp hne

theorem pkesk_via_ecdh_cur_total (v6 : Bool) (padded : Bytes) : pkeskDecodeViaEcdhCur v6 padded ≠ .panic := by
  unfold pkeskDecodeViaEcdhCur
  simp only [out_simp]
  -- `ecdhUnpad` only returns non-empty keys
  exact ⟨ecdh_unpad_total padded, fun dk hdk =>
    ⟨fun _ => pkesk_v6_total dk, fun _ => pkesk_v3_cur_total dk (Or.inr (ecdh_unpad_nonempty padded dk hdk))⟩⟩

theorem skesk_v4_cur_total (dk : Bytes) (h : Gen.fixD4c1 = 1 ∨ dk ≠ []) : skeskV4DecodeCur dk ≠ .panic := by
  unfold skeskV4DecodeCur
  simp only [out_simp]
  exact ⟨fun _ => skesk_v4_fixed_total dk, fun hf => skesk_v4_total_partial dk (h.resolve_left hf)⟩

theorem enc_secret_checksum_cur_total (usage : Nat) (data : Bytes)
    (h : Gen.fixD4c2 = 1 ∨ encSecretChecksumLen usage ≤ data.length) : encSecretChecksumCur usage data ≠ .panic := by
  unfold encSecretChecksumCur
  simp only [out_simp]
  exact ⟨fun _ => enc_secret_checksum_fixed_total _ _, fun hf =>
    enc_secret_checksum_total_partial _ _ (h.resolve_left hf)⟩

theorem b64_read_cur_total (intoLen : Nat) (src : List Bytes) (h : Gen.fixD4c3 = 1 ∨ 0 < intoLen) :
    b64ReadCur intoLen src ≠ .panic := by
  unfold b64ReadCur
  simp only [out_simp]
  exact ⟨fun _ => b64_read_fixed_total _ _, fun hf => b64_read_total_partial _ _ (h.resolve_left hf)⟩

theorem aes_kw_unwrap_cur_total (keyLen dataLen : Nat) (prim : Option Bytes)
    (h : Gen.fixD4f = 1 ∨ Gen.aesKwIvLen ≤ dataLen) : aesKwUnwrapCur keyLen dataLen prim ≠ .panic := by
  unfold aesKwUnwrapCur aesKwUnwrap
  cases prim <;> simp only [out_simp]
  all_goals exact fun hc => aes_kw_unwrap_total_partial _ _ (by omega)

/-- the PKESK path (`encrypted_key_len = esk.len()`): any wrapped-key length -/
theorem ecdh_derive_cur_total (n kekLen : Nat) (u : Option Bytes) (h : Gen.fixD4f = 1 ∨ Gen.aesKwIvLen ≤ n) :
    ecdhDeriveCur n n kekLen u ≠ .panic := by
  unfold ecdhDeriveCur
  simp only [out_simp]
  exact fun _ hc => ecdh_derive_total_partial n n kekLen u (Nat.le_refl n) (by omega)

/-- the public function with any caller-supplied length -/
theorem ecdh_derive_cur_total_any_len (ek n kekLen : Nat) (u : Option Bytes)
    (h1 : Gen.fixEcdhLen = 1) (h2 : Gen.fixD4f = 1) : ecdhDeriveCur ek n kekLen u ≠ .panic := by
  unfold ecdhDeriveCur
  simp only [out_simp, h1, h2]
  exact fun hle hc => ecdh_derive_total_partial ek n kekLen u hle (by omega)

theorem dearmor_calls_cur_total (steps : List (Bool × Bool)) (h : Gen.fixD4g = 1 ∨ ∀ s ∈ steps, s.1 = true) :
    dearmorCalls dearmorCallCur .header steps ≠ .panic := by
  have hfun : dearmorCallCur = if Gen.fixD4g = 1 then dearmorCallFixed else dearmorCall := by
    funext st a b; unfold dearmorCallCur; split <;> rfl
  rw [hfun]
  split
  · exact dearmor_calls_fixed_total steps _
  · next hf => exact dearmor_calls_total_partial steps (h.resolve_left hf) _ nofun

/-! ## every encrypted container × every session key (kind, algorithm octet, length) -/

theorem cfb_new_total (sym keyLen : Nat) : cfbNew sym keyLen ≠ .panic := by
  unfold cfbNew cfbNewFixed cfbNewPreFix
  simp only [out_simp]

theorem sed_admit_total (legacy : Bool) (sk : SkKind) (keyLen : Nat) : sedAdmit legacy sk keyLen ≠ .panic := by
  unfold sedAdmit
  cases sk <;> simp only [out_simp]
  exact fun _ => cfb_new_total _ _

theorem seipd1_admit_total (sk : SkKind) (keyLen : Nat) : seipd1Admit sk keyLen ≠ .panic := by
  unfold seipd1Admit
  cases sk with
  | v34 alg => exact cfb_new_total _ _
  | _ => exact nofun

theorem seipd2_admit_sk_total (sym aead cs : Nat) (sk : SkKind) (keyLen : Nat) :
    seipd2AdmitSk sym aead cs sk keyLen ≠ .panic := by
  unfold seipd2AdmitSk
  cases sk with
  | v6 => exact seipd2_admit_total _ _ _ _
  | _ => exact nofun

/-- what an admitted GnuPG-AEAD key looks like: it has the cipher's key size, and the nonce is the
packet's IV size -/
theorem gnupg_admit_ok (optIn : Bool) (sym aead : Nat) (sk : SkKind) (keyLen k n : Nat)
    (h : gnupgAdmit optIn sym aead sk keyLen = .ok (k, n)) :
    k = symKeySize sym ∧ n = aeadIvSize aead := by
  unfold gnupgAdmit gnupgNew at h
  cases ht : aeadTagSize aead <;> simp only [ht, out_simp, Prod.mk.injEq] at h
  obtain ⟨-, _, -, rfl, rfl, rfl⟩ := h
  exact ⟨rfl, rfl⟩

theorem gnupg_admit_total (optIn : Bool) (sym aead : Nat) (sk : SkKind) (keyLen : Nat) :
    gnupgAdmit optIn sym aead sk keyLen ≠ .panic := by
  unfold gnupgAdmit gnupgNew gnupgSkCheck
  cases sk <;> cases aeadTagSize aead <;> simp only [out_simp]

/-- GnuPG AEAD (tag 20): opt-in or not, every cipher and AEAD octet, every kind and length of
session key, whatever the primitive answers -/
theorem gnupg_open_total (optIn : Bool) (sym aead : Nat) (sk : SkKind) (keyLen : Nat) (o : Option Bytes) :
    gnupgOpen optIn sym aead sk keyLen o ≠ .panic := by
  unfold gnupgOpen gnupgOpenWith
  simp only [out_simp]
  refine ⟨gnupg_admit_total _ _ _ _ _, ?_⟩
  rintro ⟨k, n⟩ h
  obtain ⟨rfl, rfl⟩ := gnupg_admit_ok _ _ _ _ _ _ _ h
  rw [aeadIv_eq_nonce]
  exact aead_decrypt_in_place_total _ _ _ _ (Nat.le_refl _)

/-- regression witness: trusting the ESK layer for a v3/v4 key's length panics for AES-256 named
next to a 16-octet key (X25519 v3 PKESK) -/
theorem gnupg_open_trusting_esk_panics :
    gnupgOpenWith gnupgAdmitTrustingEsk true 9 2 (.v34 9) 16 none = .panic := by decide

/-! ## RSA signature value of any length against a modulus of any size -/

theorem rsa_verify_pad_total (keySize sigLen : Nat) : rsaVerifyPad keySize sigLen ≠ .panic := by
  unfold rsaVerifyPad
  simp only [out_simp]
  omega

theorem rsa_verify_total (keySize sigLen : Nat) (valid : Bool) : rsaVerify keySize sigLen valid ≠ .panic := by
  unfold rsaVerify
  simp only [out_simp]
  exact rsa_verify_pad_total _ _

/-- regression witness: unconditional padding panics for a value one octet longer than the modulus -/
theorem rsa_verify_pad_always_panics : rsaVerifyPadAlways 256 257 = .panic := by decide

/-- … and for every longer one -/
theorem rsa_verify_pad_always_panics_all (keySize sigLen : Nat) (h : keySize < sigLen) :
    rsaVerifyPadAlways keySize sigLen = .panic := by
  unfold rsaVerifyPadAlways
  have h0 : keySize - sigLen = 0 := by omega
  have h1 : ¬ (keySize = sigLen) := by omega
  simp only [out_simp, h0, h1]

/-! ## `LiteralDataReader` polled again after an error (D4h, repaired in the tree) -/

/-- guarded form for the pre-repair definition: as long as no fill has failed it never panics -/
theorem lit_calls_prefix_total_partial (steps : List (Bool × Bool × Bool)) (h : ∀ s ∈ steps, s.2.1 = true) :
    ∀ st, st ≠ .error → litCalls litFillInnerPreFix st steps ≠ .panic := by
  refine fun st hst => litCalls_total litFillInnerPreFix (· ≠ .error) (·.2.1 = true) ?_ steps st hst h
  rintro st ⟨e, _, sh⟩ hst rfl
  cases st with
  | error => exact absurd rfl hst
  | _ => cases e <;> cases sh <;> exact ⟨nofun, nofun⟩

/-- regression witness (the replay `cb 64 62 00 00 00 00 00 'abcd'`: first read fails, second panics) -/
theorem lit_prefix_panics_when_polled_after_error :
    litCalls litFillInnerPreFix .body [(true, false, false), (true, true, false)] = .panic := by decide

/-- the repaired `fill_inner`: every sequence of calls, every outcome of every fill -/
theorem lit_calls_total (steps : List (Bool × Bool × Bool)) :
    ∀ st, litCalls litFillInner st steps ≠ .panic := by
  refine fun st => litCalls_total litFillInner (fun _ => True) (fun _ => True) ?_ steps st trivial fun _ _ => trivial
  rintro st ⟨e, f, sh⟩ - -
  cases st <;> cases e <;> cases f <;> cases sh <;> exact ⟨nofun, trivial⟩

theorem lit_calls_cur_total (steps : List (Bool × Bool × Bool))
    (h : Gen.fixD4h = 1 ∨ ∀ s ∈ steps, s.2.1 = true) :
    litCalls litFillInnerCur .body steps ≠ .panic := by
  have hfun : litFillInnerCur = if Gen.fixD4h = 1 then litFillInner else litFillInnerPreFix := by
    funext st a b c; unfold litFillInnerCur; split <;> rfl
  rw [hfun]
  split
  · exact lit_calls_total steps _
  · next hf => exact lit_calls_prefix_total_partial steps (h.resolve_left hf) _ nofun

/-- the accessor still panics in the `Error` state (open finding D4i) -/
theorem lit_is_done_panics_in_error_state : litIsDone .error true = .panic := by decide

/-! ## signature values of any shape in front of the public-key primitive -/

theorem field_pad2_total (flen rLen sLen : Nat) : fieldPad2 flen rLen sLen ≠ .panic := by
  unfold fieldPad2
  simp only [out_simp]
  omega

/-- regression witness: without the length guards a 33-octet `r` against a 32-octet field panics -/
theorem field_pad2_unguarded_panics : fieldPad2Unguarded 32 33 32 = .panic := by decide

/-- every algorithm family, every representation, every number and length of MPIs / blob length -/
theorem sig_shape_total (alg : SigAlg) (unit : Nat) (native : Bool) (lens : List Nat) (valid : Bool) :
    sigShape alg unit native lens valid ≠ .panic := by
  unfold sigShape
  split
  · exact rsa_verify_total _ _ _
  · simp only [out_simp]
    exact field_pad2_total _ _ _
  · exact ensure_ne_panic _
  · simp only [out_simp]
  · exact nofun

end Rpgp.C04
