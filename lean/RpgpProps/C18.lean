import RpgpProofs.Ring
import RpgpProofs.Bytes
import RpgpModel.Panics
/-!
# C18 — recipients: every intended recipient can decrypt, nobody else gets plaintext

Model: `RpgpModel/Ring.lean` (`findSessionKey` = `TheRing::find_session_key`, `decryptTheRing` =
`Message::decrypt_the_ring` + reading the result).  Primitives (`Prims`: unlocking of secret key
material, public-key decryption incl. its plausibility tail, password decryption of an SKESK) and the
opening of the encrypted data (`openEd`, C03's subject) are parameters; every assumption about them
is a hypothesis of the theorem that uses it.

One clause of the property is NOT true of the code as it stands (reproduced on the real crate by
`harness/src/props/c18.rs`, known finding D18b); it is stated here at full strength in a comment,
proved in a guarded `_partial` form, and refuted on a concrete witness:

* each password recipient alone (SEIPDv1 messages with two or more v4 SKESKs): the v4 plausibility
  check accepts garbage from a *foreign* SKESK for about one password in 64; the consistency check
  then reports a conflict and the legitimate recipient gets an error.

(D18c — the SKESK loop stopping at the first password even with `abort_early = false` — has been
repaired in the tree: the loop now `break`s only under `abort_early`, the model follows, and
`crosscheck_conflict` holds at full strength for every kind of secret.)
-/
namespace Rpgp.C18
open Rpgp Rpgp.Ring

variable {PLAIN ENC PW CT SCT ED PT : Type}

/-! ## constants the model is parametric in are the RFC's (re-extracted from the source on every run) -/

theorem sym_alg_ids_rfc :
    Gen.symIdPlaintext = 0 ∧ Gen.symIdIDEA = 1 ∧ Gen.symIdTripleDES = 2 ∧ Gen.symIdCAST5 = 3 ∧
    Gen.symIdBlowfish = 4 ∧ Gen.symIdAES128 = 7 ∧ Gen.symIdAES192 = 8 ∧ Gen.symIdAES256 = 9 ∧
    Gen.symIdTwofish = 10 ∧ Gen.symIdCamellia128 = 11 ∧ Gen.symIdCamellia192 = 12 ∧
    Gen.symIdCamellia256 = 13 := by decide

theorem sym_key_sizes_rfc :
    Gen.symKeySize 0 = 0 ∧ Gen.symKeySize 1 = 16 ∧ Gen.symKeySize 2 = 24 ∧ Gen.symKeySize 3 = 16 ∧
    Gen.symKeySize 7 = 16 ∧ Gen.symKeySize 8 = 24 ∧ Gen.symKeySize 9 = 32 ∧ Gen.symKeySize 10 = 32 ∧
    Gen.symKeySize 11 = 16 ∧ Gen.symKeySize 12 = 24 ∧ Gen.symKeySize 13 = 32 ∧
    Gen.symKeySize 5 = 0 ∧ Gen.symKeySize 6 = 0 ∧ Gen.symKeySize 110 = 0 ∧ Gen.symKeySize 255 = 0 := by decide

theorem plausibility_layout_rfc :
    Gen.pkV3Overhead = 3 ∧ Gen.pkV3ChecksumEndOffset = Gen.pkV3Overhead ∧ Gen.pkV6MinLen = 2 ∧
    Gen.pkV6ChecksumLen = 2 ∧ Gen.checksumMask = 65535 := by decide

theorem esk_versions_rfc :
    Gen.pkeskVersionA = 3 ∧ Gen.pkeskVersionB = 6 ∧ Gen.skeskVersionA = 4 ∧ Gen.skeskVersionB = 5 ∧
    Gen.skeskVersionC = 6 := by decide

theorem wildcard_key_id_rfc : wildcardKeyId = [0, 0, 0, 0, 0, 0, 0, 0] := by decide

/-! ## recipient field: addressed and anonymous recipients match, nothing else does -/

theorem match_v3_iff (id : Bytes) (ct : CT) (k : Ident) :
    (Pkesk.v3 id ct).matchIdentity k = true ↔ id = wildcardKeyId ∨ id = k.keyId := by
  simp [Pkesk.matchIdentity]

theorem match_v6_iff (f : Option Fingerprint) (ct : CT) (k : Ident) :
    (Pkesk.v6 f ct).matchIdentity k = true ↔ f = none ∨ f = some k.fp := by
  cases f <;> simp [Pkesk.matchIdentity]

theorem match_other_never (v : Nat) (k : Ident) : (Pkesk.other v : Pkesk CT).matchIdentity k = false := rfl

/-! ## clause 1 — each recipient alone -/

/-- **each key recipient alone** (any `abort_early`): a key one of whose components matches the
recipient field of an ESK of the message (addressed or anonymous: `match_v3_iff`/`match_v6_iff`) and
opens it to `sk` — unlocked, or locked and unlockable by a presented key password:
`tryDecrypt_unlocked`/`tryDecrypt_locked` — obtains `sk`, provided no ESK of the message decrypts
under this key's material to a *different* session key (`hsound`: robustness of the public-key
primitive + checksum, an explicit hypothesis). -/
theorem each_key_recipient_alone (P : Prims PLAIN ENC PW CT SCT) (kpws : List PW) (K : SecKey PLAIN ENC)
    (esks : List (Esk CT SCT)) (ae ga : Bool) (sk : SessionKey)
    (hplain : ∀ ver ct, Esk.sk (.known ver Gen.symIdPlaintext ct) ∉ esks)
    (e : Pkesk CT) (he : Esk.pk e ∈ esks) (ct : CT) (v6 : Bool) (hp : e.payload = some (ct, v6))
    (c : Comp PLAIN ENC) (hc : c ∈ K.comps) (hm : e.matchIdentity c.ident = true)
    (hopen : (tryDecrypt P kpws c ct v6).2 = some sk)
    (hsound : ∀ e', Esk.pk e' ∈ esks → ∀ c' ∈ K.comps, ∀ k, CompYields P kpws e' c' k → k = sk) :
    ∃ rr, findSessionKey P
      { secretKeys := [K], keyPasswords := kpws, messagePasswords := [], sessionKeys := [], gnupgAead := ga }
      esks ae = .ok (some sk, rr) := by
  obtain ⟨pk, sks, hg⟩ := groupEsks_ok_of_no_plaintext esks hplain
  have hmem := groupEsks_mem hg
  refine find_unique P (Or.inr rfl) hg ?_ ?_
  · intro k' hk'
    rw [mem_foundKeys] at hk'
    rcases hk' with ⟨e', he', K', hK', hk'⟩ | ⟨e', _, _, h⟩ | h
    · cases List.mem_singleton.1 hK'
      obtain ⟨c', hc', hy⟩ := tryKey_sound P hk'
      exact hsound e' ((hmem.1 e').1 he') c' hc' k' hy
    · obtain ⟨pw, hm, _⟩ := mem_skOpen_sound P h
      cases hm
    · cases h
  · obtain ⟨a, ha⟩ := List.exists_mem_of_ne_nil _ (tryKey_nonempty P hp hc hm hopen)
    exact List.ne_nil_of_mem ((mem_foundKeys ..).2 (.inl ⟨e, (hmem.1 e).2 he, K, List.mem_singleton.2 rfl, ha⟩))

/-- … and therefore `Message::decrypt(key_pw, key)` returns the plaintext the data opens to -/
theorem each_key_recipient_decrypts (P : Prims PLAIN ENC PW CT SCT) (openEd : ED → SessionKey → Option PT)
    (kpw : PW) (K : SecKey PLAIN ENC) (esks : List (Esk CT SCT)) (ed : ED) (sk : SessionKey) (pt : PT)
    (hplain : ∀ ver ct, Esk.sk (.known ver Gen.symIdPlaintext ct) ∉ esks)
    (e : Pkesk CT) (he : Esk.pk e ∈ esks) (ct : CT) (v6 : Bool) (hp : e.payload = some (ct, v6))
    (c : Comp PLAIN ENC) (hc : c ∈ K.comps) (hm : e.matchIdentity c.ident = true)
    (hopen : (tryDecrypt P [kpw] c ct v6).2 = some sk)
    (hsound : ∀ e', Esk.pk e' ∈ esks → ∀ c' ∈ K.comps, ∀ k, CompYields P [kpw] e' c' k → k = sk)
    (hed : openEd ed sk = some pt) :
    decrypt P openEd kpw K (.encrypted esks ed) = .ok pt := by
  obtain ⟨rr, h⟩ := each_key_recipient_alone P [kpw] K esks true false sk hplain e he ct v6 hp c hc hm hopen hsound
  simp [decrypt, decryptWithKeys, decryptTheRing, h, hed, Except.map]

/-- unlocked component: it opens the ESK iff the primitive decrypts it -/
theorem unlocked_opens (P : Prims PLAIN ENC PW CT SCT) (kpws : List PW) (c : Comp PLAIN ENC) (ct : CT)
    (v6 : Bool) (p : PLAIN) (hs : c.secret = .plain p) (sk : SessionKey) (hd : P.pkDec p ct v6 = some sk) :
    (tryDecrypt P kpws c ct v6).2 = some sk := by
  rw [tryDecrypt_unlocked P hs, hd]

/-- locked component: some presented key password unlocks it (others may fail, in any order), and the
unlocked material decrypts the ESK -/
theorem locked_opens (P : Prims PLAIN ENC PW CT SCT) (kpws : List PW) (c : Comp PLAIN ENC) (ct : CT)
    (v6 : Bool) (e : ENC) (hs : c.secret = .encrypted e) (sk : SessionKey)
    (hex : ∃ pw ∈ kpws, (P.unlock e pw).isSome = true)
    (hall : ∀ pw ∈ kpws, ∀ p, P.unlock e pw = some p → P.pkDec p ct v6 = some sk) :
    (tryDecrypt P kpws c ct v6).2 = some sk :=
  tryDecrypt_locked P hs hex hall

/-
FULL STATEMENT (false of the code as it stands, see `password_alone_false_positive_witness`):
  each_password_recipient_alone : a password that opens one SKESK of the message to `k` obtains `k`
  when presented alone — *without* the guard `hguard` below.
-/
/-- **each password recipient alone**, guarded: … provided the password does not "open" another SKESK
of the message to a different key.  For v6 (AEAD) SKESKs the guard follows from ciphertext integrity;
for v4 SKESKs it fails for about one foreign packet in 64 (`skesk_v4_no_integrity`). -/
theorem each_password_recipient_alone_partial (P : Prims PLAIN ENC PW CT SCT) (pw : PW)
    (esks : List (Esk CT SCT)) (ae ga : Bool) (k : SessionKey)
    (hplain : ∀ ver ct, Esk.sk (.known ver Gen.symIdPlaintext ct) ∉ esks)
    (ver alg : Nat) (ct : SCT) (he : Esk.sk (.known ver alg ct) ∈ esks) (hskip : skSkip ga ver = false)
    (hopen : P.skDec ct pw = some k)
    (hguard : ∀ ver' alg' ct', Esk.sk (.known ver' alg' ct') ∈ esks → ∀ k', P.skDec ct' pw = some k' → k' = k) :
    ∃ rr, findSessionKey P
      ({ secretKeys := [], keyPasswords := [], messagePasswords := [pw], sessionKeys := [], gnupgAead := ga } :
        Ring PLAIN ENC PW) esks ae = .ok (some k, rr) := by
  obtain ⟨pk, sks, hg⟩ := groupEsks_ok_of_no_plaintext esks hplain
  have hmem := groupEsks_mem hg
  refine find_unique P (Or.inr rfl) hg ?_ ?_
  · intro k' hk'
    rw [mem_foundKeys] at hk'
    rcases hk' with ⟨_, _, K', hK', _⟩ | ⟨e', he', _, h⟩ | h
    · cases hK'
    · obtain ⟨alg', hm'⟩ := (hmem.2 e'.1 e'.2).1 he'
      obtain ⟨pw', hpw', hd⟩ := mem_skOpen_sound P h
      cases List.mem_singleton.1 hpw'
      exact hguard e'.1 alg' e'.2 hm' k' hd
    · cases h
  · refine List.ne_nil_of_mem (a := k)
      ((mem_foundKeys ..).2 (.inr (.inl ⟨(ver, ct), (hmem.2 ver ct).2 ⟨alg, he⟩, hskip, ?_⟩)))
    cases ae <;> simp [skOpen, hopen]

/-- negation of the unguarded statement on a concrete instance: two v4 SKESKs, password 1 opens its
own packet (SKESK 1) to `kA` and passes the plausibility check on SKESK 0 with `kB`: the legitimate
recipient gets `inconsistent session keys detected`, with `abort_early` on or off -/
theorem password_alone_false_positive_witness :
    Witness.falsePositive.skDec 1 1 = some Witness.kA ∧
    findSessionKey Witness.falsePositive (Witness.ringPw [1]) Witness.twoSkesks true = .error .inconsistent ∧
    findSessionKey Witness.falsePositive (Witness.ringPw [1]) Witness.twoSkesks false = .error .inconsistent :=
  ⟨rfl, rfl, rfl⟩

/-- since every password is tried on every SKESK when `abort_early` is off (D18c repaired), the false positive
also bites when both legitimate passwords are presented together: with `abort_early` password 0
opens SKESK 0 first and password 1's garbage is never produced; without, it is, and conflicts -/
theorem false_positive_more_often_without_abort_early :
    (∃ rr, findSessionKey Witness.falsePositive (Witness.ringPw [0, 1]) Witness.twoSkesks true =
      .ok (some Witness.kA, rr)) ∧
    findSessionKey Witness.falsePositive (Witness.ringPw [0, 1]) Witness.twoSkesks false = .error .inconsistent :=
  ⟨⟨_, rfl⟩, rfl⟩

/-- the session key itself, presented to `decrypt_with_session_key`, opens the data -/
theorem session_key_alone (P : Prims PLAIN ENC PW CT SCT) (openEd : ED → SessionKey → Option PT)
    (esks : List (Esk CT SCT)) (ed : ED) (sk : SessionKey) (pt : PT) (hed : openEd ed sk = some pt) :
    decryptWithSessionKey P openEd sk (.encrypted esks ed) = .ok pt := by
  simp [decryptWithSessionKey, decryptTheRing, findSessionKey, hed, Except.map]

/-! ## clause 2 — unrelated secrets presented alongside do not change the result -/

/-- **with unrelated keys**: keys that obtain nothing from any PKESK of the message (decoys — named
in a recipient field or matched by a wildcard, locked or not) can be added anywhere in the ring, in
any number and order, without changing the outcome (session key or error) -/
theorem with_unrelated_keys (P : Prims PLAIN ENC PW CT SCT) (ring : Ring PLAIN ENC PW)
    (esks : List (Esk CT SCT)) (ae : Bool) (isDecoy : SecKey PLAIN ENC → Bool)
    (hdec : ∀ d ∈ ring.secretKeys, isDecoy d = true →
      ∀ e, Esk.pk e ∈ esks → (tryKey P ring.keyPasswords e d).2 = []) :
    (findSessionKey P ring esks ae).map Prod.fst =
      (findSessionKey P { ring with secretKeys := ring.secretKeys.filter (fun k => !isDecoy k) } esks ae).map
        Prod.fst := by
  refine find_outcome_congr P rfl ?_
  intro pk sk hg
  have hmem := groupEsks_mem hg
  simp only [foundKeys, pkFound]
  congr 1
  apply flatMap_congr_mem
  intro e he
  apply flatMap_filter_of_nil
  intro d hd hdc
  exact hdec d hd (by simpa using hdc) e ((hmem.1 e).1 he)

/-- a key none of whose reachable secrets decrypts anything is such a decoy -/
theorem decoy_of_prims (P : Prims PLAIN ENC PW CT SCT) (kpws : List PW) (d : SecKey PLAIN ENC)
    (h : ∀ c ∈ d.comps, ∀ p, Reach P kpws c p → ∀ ct v6, P.pkDec p ct v6 = none) (e : Pkesk CT) :
    (tryKey P kpws e d).2 = [] := by
  refine List.eq_nil_iff_forall_not_mem.2 fun a ha => ?_
  obtain ⟨c, hc, ct, v6, p, _, _, hr, hd⟩ := tryKey_sound P ha
  rw [h c hc p hr ct v6] at hd
  cases hd

/-- **with unrelated passwords** (integrity-protected password packets): message passwords that open
no SKESK of the message — what AEAD integrity gives for v6 SKESKs — can be added anywhere -/
theorem with_unrelated_passwords (P : Prims PLAIN ENC PW CT SCT) (ring : Ring PLAIN ENC PW)
    (esks : List (Esk CT SCT)) (ae : Bool) (isDecoy : PW → Bool)
    (hdec : ∀ q ∈ ring.messagePasswords, isDecoy q = true →
      ∀ ver alg ct, Esk.sk (.known ver alg ct) ∈ esks → P.skDec ct q = none) :
    (findSessionKey P ring esks ae).map Prod.fst =
      (findSessionKey P { ring with messagePasswords := ring.messagePasswords.filter (fun q => !isDecoy q) }
        esks ae).map Prod.fst := by
  refine find_outcome_congr P rfl ?_
  intro pk sk hg
  have hmem := groupEsks_mem hg
  simp only [foundKeys, skFound]
  congr 2
  apply flatMap_congr_mem
  intro e he
  obtain ⟨alg, hm⟩ := (hmem.2 e.1 e.2).1 he
  rw [← skOpen_filter_of_none P ae ring.messagePasswords e.2 (fun q => !isDecoy q)]
  intro q hq hqc
  exact hdec q hq (by simpa using hqc) e.1 alg e.2 hm

/-- **with unrelated key passwords**: key passwords that unlock none of the presented key material can
be added anywhere in the list (a locked recipient key is tried with each password in turn; the
failures are skipped) -/
theorem with_unrelated_key_passwords (P : Prims PLAIN ENC PW CT SCT) (ring : Ring PLAIN ENC PW)
    (esks : List (Esk CT SCT)) (ae : Bool) (isDecoy : PW → Bool)
    (hdec : ∀ q ∈ ring.keyPasswords, isDecoy q = true → ∀ e, P.unlock e q = none) :
    (findSessionKey P ring esks ae).map Prod.fst =
      (findSessionKey P { ring with keyPasswords := ring.keyPasswords.filter (fun q => !isDecoy q) }
        esks ae).map Prod.fst := by
  refine find_outcome_congr P rfl ?_
  intro pk sk _
  simp only [foundKeys, pkFound]
  congr 1
  apply flatMap_congr_mem
  intro e _
  apply flatMap_congr_mem
  intro K _
  exact tryKey_filter P ring.keyPasswords (fun q => !isDecoy q)
    (fun q hq hk => hdec q hq (by simpa using hk)) e K

/-! ## clause 3 — non-recipients get an error, never a session key, never plaintext -/

/-- **non-recipient errors**: when no presented key obtains anything from any PKESK, no presented
password opens any SKESK and no session key is presented, the search finds no key (or rejects the
message for a Plaintext-algorithm SKESK) -/
theorem non_recipient_errors (P : Prims PLAIN ENC PW CT SCT) (ring : Ring PLAIN ENC PW)
    (esks : List (Esk CT SCT)) (ae : Bool)
    (hk : ∀ K ∈ ring.secretKeys, ∀ e, Esk.pk e ∈ esks → (tryKey P ring.keyPasswords e K).2 = [])
    (hp : ∀ pw ∈ ring.messagePasswords, ∀ ver alg ct, Esk.sk (.known ver alg ct) ∈ esks → P.skDec ct pw = none)
    (hs : ring.sessionKeys = []) :
    (∃ rr, findSessionKey P ring esks ae = .ok (none, rr)) ∨
      findSessionKey P ring esks ae = .error .plaintextSkesk := by
  cases hg : groupEsks esks with
  | error e =>
    right
    rw [find_group_error P (Or.inr hs) hg, groupEsks_error hg]
  | ok v =>
    obtain ⟨pk, sk⟩ := v
    left
    have hmem := groupEsks_mem hg
    refine find_none P (Or.inr hs) hg (List.eq_nil_iff_forall_not_mem.2 fun a ha => ?_)
    rcases (mem_foundKeys ..).1 ha with ⟨e, he, K, hK, h⟩ | ⟨e, he, _, h⟩ | h
    · rw [hk K hK e ((hmem.1 e).1 he)] at h
      cases h
    · obtain ⟨alg, hm⟩ := (hmem.2 e.1 e.2).1 he
      obtain ⟨pw, hpw, hd⟩ := mem_skOpen_sound P h
      rw [hp pw hpw e.1 alg e.2 hm] at hd
      cases hd
    · rw [hs] at h
      cases h

/-- … hence `decrypt_the_ring` returns an error (`MissingKey`, or the Plaintext-SKESK rejection) and
never plaintext, right or wrong, whatever the encrypted data would open to -/
theorem non_recipient_never_plaintext (P : Prims PLAIN ENC PW CT SCT) (openEd : ED → SessionKey → Option PT)
    (ring : Ring PLAIN ENC PW) (esks : List (Esk CT SCT)) (ed : ED) (ae : Bool)
    (hk : ∀ K ∈ ring.secretKeys, ∀ e, Esk.pk e ∈ esks → (tryKey P ring.keyPasswords e K).2 = [])
    (hp : ∀ pw ∈ ring.messagePasswords, ∀ ver alg ct, Esk.sk (.known ver alg ct) ∈ esks → P.skDec ct pw = none)
    (hs : ring.sessionKeys = []) :
    decryptTheRing P openEd ring (.encrypted esks ed) ae = .error .missingKey ∨
      decryptTheRing P openEd ring (.encrypted esks ed) ae = .error (.find .plaintextSkesk) := by
  rcases non_recipient_errors P ring esks ae hk hp hs with ⟨rr, h⟩ | h
  · left; simp [decryptTheRing, h]
  · right; simp [decryptTheRing, h]

/-- primitive-level form of the key hypothesis: no reachable secret of any presented key decrypts anything -/
theorem non_recipient_keys_of_prims (P : Prims PLAIN ENC PW CT SCT) (ring : Ring PLAIN ENC PW)
    (h : ∀ K ∈ ring.secretKeys, ∀ c ∈ K.comps, ∀ p, Reach P ring.keyPasswords c p →
      ∀ ct v6, P.pkDec p ct v6 = none) :
    ∀ K ∈ ring.secretKeys, ∀ e : Pkesk CT, (tryKey P ring.keyPasswords e K).2 = [] :=
  fun K hK e => decoy_of_prims P ring.keyPasswords K (h K hK) e

/-- a recipient key whose encryption component is locked, presented without any password that unlocks
it, is a non-recipient: a locked component contributes only through `unlock` -/
theorem locked_without_password (P : Prims PLAIN ENC PW CT SCT) (kpws : List PW) (c : Comp PLAIN ENC)
    (e : ENC) (hs : c.secret = .encrypted e) (hno : ∀ pw ∈ kpws, P.unlock e pw = none) (p : PLAIN) :
    ¬ Reach P kpws c p := by
  rintro (h | ⟨e', pw, hm, he, hu⟩)
  · rw [hs] at h; cases h
  · rw [hs] at he
    cases he
    rw [hno pw hm] at hu
    cases hu

/-- **wrong session key**: `decrypt_with_session_key` hands the key to the data packet unexamined; if
the data does not open under it (C03) the result is an error, never plaintext -/
theorem wrong_session_key_errors (P : Prims PLAIN ENC PW CT SCT) (openEd : ED → SessionKey → Option PT)
    (esks : List (Esk CT SCT)) (ed : ED) (sk' : SessionKey) (h : openEd ed sk' = none) :
    decryptWithSessionKey P openEd sk' (.encrypted esks ed) = .error .edata := by
  simp [decryptWithSessionKey, decryptTheRing, findSessionKey, h, Except.map]

/-- the same through `decrypt_the_ring(abort_early = true)` with any other secrets in the ring: the
first explicit session key is used without looking at anything else -/
theorem wrong_session_key_first_errors (P : Prims PLAIN ENC PW CT SCT) (openEd : ED → SessionKey → Option PT)
    (ring : Ring PLAIN ENC PW) (esks : List (Esk CT SCT)) (ed : ED) (sk' : SessionKey) (rest : List SessionKey)
    (hr : ring.sessionKeys = sk' :: rest) (h : openEd ed sk' = none) :
    decryptTheRing P openEd ring (.encrypted esks ed) true = .error .edata := by
  obtain ⟨rr, hf⟩ := find_shortcut P esks hr
  simp [decryptTheRing, hf, h]

/-- whatever is returned opens the data: plaintext is only ever produced by `openEd` under the chosen key -/
theorem plaintext_only_from_open (P : Prims PLAIN ENC PW CT SCT) (openEd : ED → SessionKey → Option PT)
    (ring : Ring PLAIN ENC PW) (esks : List (Esk CT SCT)) (ed : ED) (ae : Bool) (pt : PT) (rr : RingResult)
    (h : decryptTheRing P openEd ring (.encrypted esks ed) ae = .ok (pt, rr)) :
    ∃ k, findSessionKey P ring esks ae = .ok (some k, rr) ∧ openEd ed k = some pt := by
  simp only [decryptTheRing] at h
  split at h
  · cases h
  · cases h
  · rename_i k rr' hf
    split at h
    · cases h
    · rename_i ho
      cases h
      exact ⟨k, hf, ho⟩

/-! ## clause 4 — cross-checking -/

/-- whenever the comparison is reached (`abort_early` off, or no explicit session key), two collected
session keys that differ — from PKESKs, SKESKs or explicit keys, in any combination of groups, D18
being fixed — make the search fail -/
theorem crosscheck_conflict_found (P : Prims PLAIN ENC PW CT SCT) (ring : Ring PLAIN ENC PW)
    (esks : List (Esk CT SCT)) (ae : Bool) (hn : NoShortcut ring ae) (pk : List (Pkesk CT))
    (sk : List (Nat × SCT)) (hg : groupEsks esks = .ok (pk, sk)) (a b : SessionKey)
    (ha : a ∈ foundKeys P ring ae pk sk) (hb : b ∈ foundKeys P ring ae pk sk) (hne : a ≠ b) :
    findSessionKey P ring esks ae = .error .inconsistent :=
  find_conflict P hn hg ha hb hne

/-- conversely a successful search returns a collected key with which every collected key agrees -/
theorem success_all_agree (P : Prims PLAIN ENC PW CT SCT) (ring : Ring PLAIN ENC PW)
    (esks : List (Esk CT SCT)) (ae : Bool) (hn : NoShortcut ring ae) (pk : List (Pkesk CT))
    (sk : List (Nat × SCT)) (hg : groupEsks esks = .ok (pk, sk)) (k : SessionKey) (rr : RingResult)
    (h : findSessionKey P ring esks ae = .ok (some k, rr)) :
    k ∈ foundKeys P ring ae pk sk ∧ ∀ k' ∈ foundKeys P ring ae pk sk, k' = k :=
  find_ok_inv P hn hg h

/-- with `abort_early` off every presented message password is tried on every (non-skipped) SKESK and
every session key so obtained takes part in the comparison (D18c repaired) -/
theorem every_password_cross_checked (P : Prims PLAIN ENC PW CT SCT) (ring : Ring PLAIN ENC PW)
    (pk : List (Pkesk CT)) (sk : List (Nat × SCT)) (ver : Nat) (ct : SCT) (he : (ver, ct) ∈ sk)
    (hskip : skSkip ring.gnupgAead ver = false) (pw : PW) (hpw : pw ∈ ring.messagePasswords) (k : SessionKey)
    (hk : P.skDec ct pw = some k) : k ∈ foundKeys P ring false pk sk := by
  rw [mem_foundKeys]
  exact Or.inr (Or.inl ⟨(ver, ct), he, hskip, (mem_skOpen_false P).2 ⟨pw, hpw, hk⟩⟩)

/-- **crosscheck conflict**, with the error named (`crosscheck_conflict` below keeps only that the
search fails): with `abort_early` off, two presented secrets — keys,
message passwords, explicit session keys, in any combination, anywhere in the ring — that each
alone yield a session key, the two being different, make the search fail with the conflict itself
(a Plaintext-algorithm SKESK would have made each of them fail alone): none is silently chosen. -/
theorem crosscheck_conflict_class (P : Prims PLAIN ENC PW CT SCT) (ring : Ring PLAIN ENC PW)
    (esks : List (Esk CT SCT)) (s1 s2 : Sec PLAIN ENC PW) (h1 : ring.Presents s1) (h2 : ring.Presents s2)
    (k1 k2 : SessionKey) (y1 : Yields P ring esks s1 k1) (y2 : Yields P ring esks s2 k2) (hne : k1 ≠ k2) :
    findSessionKey P ring esks false = .error .inconsistent := by
  obtain ⟨pk, sk, hg, m1⟩ := yields_found P h1 y1
  obtain ⟨pk', sk', hg', m2⟩ := yields_found P h2 y2
  cases hg.symm.trans hg'
  exact crosscheck_conflict_found P ring esks false (Or.inl rfl) pk sk hg k1 k2 m1 m2 hne

theorem crosscheck_conflict (P : Prims PLAIN ENC PW CT SCT) (ring : Ring PLAIN ENC PW)
    (esks : List (Esk CT SCT)) (s1 s2 : Sec PLAIN ENC PW) (h1 : ring.Presents s1) (h2 : ring.Presents s2)
    (k1 k2 : SessionKey) (y1 : Yields P ring esks s1 k1) (y2 : Yields P ring esks s2 k2) (hne : k1 ≠ k2) :
    ∃ err, findSessionKey P ring esks false = .error err :=
  ⟨_, crosscheck_conflict_class P ring esks s1 s2 h1 h2 k1 k2 y1 y2 hne⟩

/-- the conflict surfaces as an error of `decrypt_the_ring`, never as plaintext -/
theorem crosscheck_conflict_no_plaintext (P : Prims PLAIN ENC PW CT SCT) (openEd : ED → SessionKey → Option PT)
    (ring : Ring PLAIN ENC PW) (esks : List (Esk CT SCT)) (ed : ED) (err : FindErr)
    (h : findSessionKey P ring esks false = .error err) :
    decryptTheRing P openEd ring (.encrypted esks ed) false = .error (.find err) := by
  simp [decryptTheRing, h]

/-- the D18c witness: one SKESK that every password opens to its own key (v4 SKESK without
encrypted session key), passwords 0 and 1 presented with `abort_early = false` — a conflict (before
the repair the loop stopped at password 0); with `abort_early = true` the first password is used, as
documented ("the first available session key will be used") -/
theorem crosscheck_direct_skesk_now_conflict :
    findSessionKey Witness.direct (Witness.ringPw [0, 1]) Witness.oneSkesk false = .error .inconsistent ∧
    findSessionKey Witness.direct (Witness.ringPw [0, 1]) Witness.oneSkesk true =
      .ok (some (.v3_4 7 [0]), ⟨[], [.ok, .unchecked], []⟩) :=
  ⟨rfl, rfl⟩

/-! ## `abort_early` -/

/-- with `abort_early` the first explicit session key is returned at once: nothing else is examined,
every other entry of the `RingResult` stays `Unchecked` -/
theorem abort_early_explicit_key (P : Prims PLAIN ENC PW CT SCT) (ring : Ring PLAIN ENC PW)
    (esks : List (Esk CT SCT)) (sk : SessionKey) (rest : List SessionKey) (h : ring.sessionKeys = sk :: rest) :
    findSessionKey P ring esks true = .ok (some sk,
      ⟨List.replicate ring.secretKeys.length .unchecked, List.replicate ring.messagePasswords.length .unchecked,
        .ok :: List.replicate rest.length .unchecked⟩) := by
  simp [findSessionKey, h, List.replicate_succ]

/-- without explicit session keys and with at most one message password `abort_early` changes nothing
(with several passwords it decides whether the SKESK loop stops at the first that opens a packet) -/
theorem abort_early_irrelevant (P : Prims PLAIN ENC PW CT SCT) (ring : Ring PLAIN ENC PW)
    (esks : List (Esk CT SCT)) (h : ring.sessionKeys = []) (hp : ring.messagePasswords.length ≤ 1) :
    findSessionKey P ring esks true = findSessionKey P ring esks false := by
  simp only [findSessionKey, h]
  cases groupEsks esks with
  | error e => rfl
  | ok v =>
    simp only [findCore, skeskPhase_ae_short P ring.gnupgAead hp]

/-! ## what the `RingResult` reports (observation, not a clause of the property) -/

/-- every PKESK resets and overwrites every entry of `secret_keys`: the vector that is returned
describes the *last* PKESK of the message only -/
theorem ring_result_reports_last_pkesk (P : Prims PLAIN ENC PW CT SCT) (kpws : List PW)
    (keys : List (SecKey PLAIN ENC)) (es : List (Pkesk CT)) (e : Pkesk CT) (res : List InnerRes)
    (found : List SessionKey) :
    (pkeskPhase P kpws keys (es ++ [e]) res found).1 = keys.map (fun k => (tryKey P kpws e k).1) :=
  pkeskPhase_res_last P kpws keys es e res found

/-- so a key that obtained the session key from an earlier PKESK is reported `NoMatch`: message to
keys 0 and 1, key 0 presented alone — the search succeeds, the report says "no matching ESK" -/
theorem ring_result_nomatch_although_used :
    findSessionKey Witness.twoKeys
      { secretKeys := [Witness.keyN 0], keyPasswords := [], messagePasswords := [], sessionKeys := [] }
      Witness.twoPkesks false = .ok (some Witness.kA, ⟨[.noMatch], [], []⟩) := rfl

/-! ## the plausibility checks behind the primitives -/

theorem be16_length (n : Nat) : (be16 n).length = 2 := Rpgp.be16_length n

/-- v6 PKESK payload written by `prepare_session_key_for_encryption` decodes to the session key -/
theorem prepare_decode_v6 (key : Bytes) :
    decodePkSessionKey true (prepareSessionKey none key false) = some (.v6 key) := by
  have hl : (key ++ be16 (checksum16 key)).length - Gen.pkV6ChecksumLen = key.length := by
    rw [List.length_append, be16_length]; exact Nat.add_sub_cancel ..
  have hlt : ¬ (key ++ be16 (checksum16 key)).length < Gen.pkV6MinLen := by
    rw [List.length_append, be16_length]; exact Nat.not_lt.2 (Nat.le_add_left ..)
  simp only [decodePkSessionKey, prepareSessionKey, List.nil_append, if_true, Bool.false_eq_true, if_false, hl, hlt,
    List.take_left', List.drop_left']

/-- v3 PKESK payload (algorithm octet, key, checksum) decodes to algorithm + key, for every
algorithm whose key size is the key's length -/
theorem prepare_decode_v3 (alg : Nat) (key : Bytes) (hlt : alg < 256) (h0 : alg ≠ Gen.symIdPlaintext)
    (hks : Gen.symKeySize alg = key.length) :
    decodePkSessionKey false (prepareSessionKey (some alg) key false) = some (.v3_4 alg key) := by
  have hl : ¬ (alg.toUInt8 :: (key ++ be16 (checksum16 key))).length ≠ key.length + Gen.pkV3Overhead := by
    rw [List.length_cons, List.length_append, be16_length]; exact fun h => h rfl
  have t2 : List.take (Gen.pkV3ChecksumEndOffset - 1) (be16 (checksum16 key)) = be16 (checksum16 key) := rfl
  simp only [decodePkSessionKey, prepareSessionKey, Bool.false_eq_true, if_false, List.cons_append,
    List.nil_append, toUInt8_toNat_of_lt alg hlt, h0, hks, hl, List.drop_succ_cons,
    List.drop_zero, List.take_left', List.drop_left', t2, if_true]

/-- what the v3 tail accepts: never the Plaintext algorithm, key length = the algorithm's key size -/
theorem decode_v3_guarantees (d : Bytes) (alg : Nat) (key : Bytes)
    (h : decodePkSessionKey false d = some (.v3_4 alg key)) :
    alg ≠ Gen.symIdPlaintext ∧ d.length = Gen.symKeySize alg + 3 ∧ key = (d.drop 1).take (Gen.symKeySize alg) := by
  have h3 : Gen.pkV3Overhead = 3 := rfl
  cases d with
  | nil => simp [decodePkSessionKey] at h
  | cons a t =>
    by_cases c0 : a.toNat = Gen.symIdPlaintext
    · simp [decodePkSessionKey, c0] at h
    · simp [decodePkSessionKey, c0, h3] at h
      obtain ⟨hl, _, rfl, rfl⟩ := h
      exact ⟨c0, by simp [hl], by simp⟩

/-- SKESK v4 plausibility: accepted iff the first octet is a known algorithm whose key size is the
number of remaining octets — nothing ties the octets to the password -/
theorem skesk_v4_plausible_iff (a : Byte) (key : Bytes) (s : SessionKey) :
    decodeSkeskV4 (a :: key) = some s ↔
      Gen.symKeySize a.toNat ≠ 0 ∧ Gen.symKeySize a.toNat = key.length ∧ s = .v3_4 a.toNat key := by
  simp only [decodeSkeskV4]
  by_cases c0 : Gen.symKeySize a.toNat = 0
  · simp [c0]
  · by_cases c1 : Gen.symKeySize a.toNat ≠ key.length
    · simp [c0, c1]
    · simp only [c0, c1, if_false, Option.some.injEq]
      constructor
      · intro h; exact ⟨c0, by simpa using c1, h.symm⟩
      · rintro ⟨_, _, h⟩; exact h.symm

/-- hence *any* 16 octets behind an octet 1, 3, 4, 7 or 11 pass (and 24 behind 2, 8, 12; 32 behind
9, 10, 13): a wrong password passes for 5 (resp. 3) of the 256 values of the first octet -/
theorem skesk_v4_no_integrity (key : Bytes) (h : key.length = 16) :
    decodeSkeskV4 (11 :: key) = some (.v3_4 11 key) ∧ decodeSkeskV4 (7 :: key) = some (.v3_4 7 key) ∧
    decodeSkeskV4 (1 :: key) = some (.v3_4 1 key) ∧ decodeSkeskV4 (3 :: key) = some (.v3_4 3 key) ∧
    decodeSkeskV4 (4 :: key) = some (.v3_4 4 key) := by
  have key16 : ∀ a : Byte, Gen.symKeySize a.toNat = 16 → decodeSkeskV4 (a :: key) = some (.v3_4 a.toNat key) :=
    fun a ha => (skesk_v4_plausible_iff a key _).2 ⟨by rw [ha]; decide, by rw [ha, h], rfl⟩
  exact ⟨key16 11 rfl, key16 7 rfl, key16 1 rfl, key16 3 rfl, key16 4 rfl⟩

/-! ## "a wrong session key … never plaintext", session keys of every cipher: octet strings of another
length than the cipher's key size are never handed to the cipher (repair D18d).  The ciphers themselves
are outside the model; what is proved is that the CFB containers (SEIPDv1, SED) admit a v3/v4 session
key only at exactly the key size of the cipher it names, so that the variable-length key schedules of
Blowfish and CAST5 (which map `K ‖ K`, resp. `K` without trailing zero octets, to the schedule of `K`)
are out of reach. -/

theorem d18d_repaired : Gen.fixD18dCfbSessionKeyLenChecked = 1 := by decide

theorem cfb_admits_only_the_key_size (sym keyLen : Nat) (h : Panics.cfbNew sym keyLen = .ok ()) :
    keyLen = Panics.symKeySize sym ∧ Panics.symKeySize sym ≠ 0 := by
  unfold Panics.cfbNew at h
  rw [if_pos d18d_repaired] at h
  unfold Panics.cfbNewFixed Panics.cfbNewPreFix at h
  split at h
  · cases h
  · rename_i hk
    split at h
    · cases h
    · rename_i h0
      exact ⟨by simpa using hk, h0⟩

theorem seipd1_session_key_has_the_key_size (alg keyLen : Nat)
    (h : Panics.seipd1Admit (.v34 alg) keyLen = .ok ()) : keyLen = Panics.symKeySize alg :=
  (cfb_admits_only_the_key_size alg keyLen (by simpa [Panics.seipd1Admit] using h)).1

theorem sed_session_key_has_the_key_size (legacy : Bool) (alg keyLen : Nat)
    (h : Panics.sedAdmit legacy (.v34 alg) keyLen = .ok ()) : keyLen = Panics.symKeySize alg := by
  unfold Panics.sedAdmit at h
  split at h
  · cases h
  · exact (cfb_admits_only_the_key_size alg keyLen h).1

/-- regression witness: before the repair a 32-octet key was admitted for Blowfish (key size 16) and a
15-octet key for CAST5 (key size 16); the repaired admission refuses both and still takes 16 octets -/
theorem d18d_witness :
    Panics.cfbNewPreFix Gen.symIdBlowfish 32 = .ok () ∧ Panics.cfbNewFixed Gen.symIdBlowfish 32 = .err ∧
    Panics.cfbNewPreFix Gen.symIdCAST5 15 = .ok () ∧ Panics.cfbNewFixed Gen.symIdCAST5 15 = .err ∧
    Panics.cfbNewFixed Gen.symIdBlowfish 16 = .ok () ∧ Panics.cfbNewFixed Gen.symIdCAST5 16 = .ok () := by decide

/-! ## non-vacuity and concrete evaluations -/

example : decodePkSessionKey false [9, 1, 2, 0, 3] = none := by decide
example : decodePkSessionKey true [1, 2, 0, 3] = some (.v6 [1, 2]) := by decide
example : decodePkSessionKey true [1, 2, 0, 4] = none := by decide
example : prepareSessionKey (some 7) [1, 255] false = [7, 1, 255, 1, 0] := by decide
example : decodeX25519SessionKey false none [1] = none ∧ decodeX25519SessionKey true none [1] = some (.v6 [1]) := by
  decide
example : (Pkesk.v3 wildcardKeyId (0 : Nat)).matchIdentity ⟨[1, 2, 3, 4, 5, 6, 7, 8], ⟨4, []⟩⟩ = true := by decide
example : (Pkesk.v6 (some ⟨4, [1]⟩) (0 : Nat)).matchIdentity ⟨[], ⟨6, [1]⟩⟩ = false := by decide
/-- the hypotheses of `each_password_recipient_alone_partial` are satisfiable (password 0 of the
false-positive instance opens only its own packet) -/
example : ∃ rr, findSessionKey Witness.falsePositive (Witness.ringPw [0]) Witness.twoSkesks true
    = .ok (some Witness.kA, rr) := ⟨_, rfl⟩
/-- D18 (fixed): a bogus explicit session key next to a password that opens the SKESK is a conflict -/
example : findSessionKey Witness.direct
    { Witness.ringPw [0] with sessionKeys := [.v3_4 7 [9]] } Witness.oneSkesk false = .error .inconsistent := rfl

end Rpgp.C18
