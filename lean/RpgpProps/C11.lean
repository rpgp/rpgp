import RpgpProofs.SigDigest
/-!
# C11 — signed digests are exactly those RFC 9580 §5.2.4 prescribes

Model: `RpgpModel/SigDigest.lean`.  It has two layers: `SigDigest.Spec.preimage`, the RFC's pre-image
typed in as data, and one definition per hashing routine of rpgp (`SigDigest.signData`, …,
`SigDigest.verifyInline`), each returning the octets it feeds its hasher (`none` = the routine errors
before the public-key primitive is called).  The hash function is not modelled: "the digest is
the RFC's" is "the hashed octets are `Spec.preimage …`", for every hash function.

Sections: constants = RFC and sites agree · shape (trailer length, salt first, key framing) ·
every routine hashes the RFC pre-image (refinement) · the pre-image determines what was signed
(injectivity; shared with C02) · signing and verifying routines hash the same octets.

What is *not* a theorem here and is carried by the correspondence run only: that the real
routines compute what the model routines compute (hand transcription), that
`write_len()` = length of `to_writer()` for the real key / id types (`Ser.truthful` is a
hypothesis), that the hashed-area octets (`Cfg.area`) are what `Signature::to_writer` puts on the
wire, and the hash functions themselves.
-/
namespace Rpgp.C11
open Rpgp Rpgp.SigDigest

/-! ## constants: the RFC's values, and all use sites agree -/

/-- key framing 0x99 / 0x9B, identity prefixes 0xB4 / 0xD1, trailer marker 0xFF -/
theorem prefix_octets_rfc :
    Gen.sdSfhLegacyPrefix = 0x99 ∧ Gen.sdSfhV6Prefix = 0x9B ∧ Gen.sdSignUidPrefix = 0xB4 ∧
    Gen.sdSignAttrPrefix = 0xD1 ∧ Gen.sdTrailerMarker = 0xFF := by decide

/-- two-octet key length for v4 keys, four-octet for v6; four-octet identity length; two / four
octet hashed-area length; four-octet trailer length; five octets of v3 material -/
theorem length_widths_rfc :
    Gen.sdSfhLegacyLenBits = 16 ∧ Gen.sdSfhV6LenBits = 32 ∧ Gen.sdSignIdLenBits = 32 ∧
    Gen.sdHsdV4AreaLenBits = 16 ∧ Gen.sdHsdV6AreaLenBits = 32 ∧ Gen.sdTrailerLenBits = 32 ∧
    Gen.sdHsdV3Len = 5 := by decide

/-- the signing side (config.rs) and the verifying side (types.rs) carry the same identity
prefixes and widths; the fingerprint framing (key/public.rs `imprint`) uses the same key prefix
octets as the signature framing -/
theorem sign_verify_sites_agree :
    Gen.sdVerUidPrefix = Gen.sdSignUidPrefix ∧ Gen.sdVerAttrPrefix = Gen.sdSignAttrPrefix ∧
    Gen.sdVerIdLenBits = Gen.sdSignIdLenBits ∧
    Gen.sdImprintV4Prefix = Gen.sdSfhLegacyPrefix ∧ Gen.sdImprintV6Prefix = Gen.sdSfhV6Prefix := by decide

theorem version_octets_rfc : Gen.sdSigVerV3 = 3 ∧ Gen.sdSigVerV4 = 4 ∧ Gen.sdSigVerV6 = 6 := by decide

theorem type_octets_rfc :
    Gen.sdSigTypeBinary = 0x00 ∧ Gen.sdSigTypeText = 0x01 ∧ Gen.sdSigTypeStandalone = 0x02 ∧
    Gen.sdSigTypeCertGeneric = 0x10 ∧ Gen.sdSigTypeCertPersona = 0x11 ∧ Gen.sdSigTypeCertCasual = 0x12 ∧
    Gen.sdSigTypeCertPositive = 0x13 ∧ Gen.sdSigTypeSubkeyBinding = 0x18 ∧ Gen.sdSigTypeKeyBinding = 0x19 ∧
    Gen.sdSigTypeKey = 0x1F ∧ Gen.sdSigTypeKeyRevocation = 0x20 ∧ Gen.sdSigTypeSubkeyRevocation = 0x28 ∧
    Gen.sdSigTypeCertRevocation = 0x30 ∧ Gen.sdSigTypeTimestamp = 0x40 := by decide

/-- `HashAlgorithm::salt_len` (hash.rs, re-extracted) is RFC 9580 table 23, for every algorithm
octet -/
theorem salt_table_is_rfc (h : Byte) : Gen.sdSaltLenOf h.toNat = Spec.saltSize h :=
  saltLenOf_eq_spec h

/-! ## shape -/

/-- **the trailer length counts exactly the hashed fields**: `hash_signature_data` returns the
number of octets it fed to the hasher, those octets are version, type, public-key algorithm, hash
algorithm, the two- (v4) / four-octet (v6) area length and the area — 4 + 2|4 + |area| octets —
and `trailer(len)` is version, 0xFF, that number on four octets. -/
theorem trailer_len_counts (c : Cfg) (f t : Bytes) (len : Nat) (hv : c.ver ≠ .v3)
    (h : hashSignatureData c = some (f, len)) (ht : trailer c len = some t) :
    len = f.length ∧
    f = [c.ver.octet, c.typ, c.pk, c.hash] ++
          (if c.ver = .v4 then be16 c.area.length else be32 c.area.length) ++ c.area ∧
    f.length = 4 + (if c.ver = .v4 then 2 else 4) + c.area.length ∧
    t = [c.ver.octet, 0xFF] ++ be32 f.length ∧ beNat (t.drop 2) = f.length := by
  rw [trailer_of_ne_v3 c len hv] at ht
  split at ht
  · rename_i h5
    obtain rfl := Option.some.inj ht
    cases hver : c.ver
    · exact absurd hver hv
    · rw [hashSignatureData_v4 c hver] at h
      split at h
      · obtain ⟨rfl, rfl⟩ := Prod.mk.inj (Option.some.inj h)
        rw [fields_length, be16_length]
        exact ⟨rfl, rfl, rfl, rfl, beNat_be32 _ h5⟩
      · cases h
    · rw [hashSignatureData_v6 c hver] at h
      split at h
      · obtain ⟨rfl, rfl⟩ := Prod.mk.inj (Option.some.inj h)
        rw [fields_length, be32_length]
        exact ⟨rfl, rfl, rfl, rfl, beNat_be32 _ h5⟩
      · cases h
  · cases ht

/-- the same fact about the specification: the trailer's number is the length of the hashed
fields, 6 + |area| (v4) / 8 + |area| (v6) -/
theorem spec_trailer_len_counts (i : Spec.Input) (hv : i.ver ≠ .v3) :
    Spec.trailerBytes i = [if i.ver = .v4 then 0x04 else 0x06, 0xFF] ++ be32 (Spec.hashedFields i).length ∧
    (Spec.hashedFields i).length = (if i.ver = .v4 then 6 else 8) + i.area.length := by
  refine ⟨?_, hashedFields_length i hv⟩
  unfold Spec.trailerBytes
  cases h : i.ver
  · exact absurd h hv
  · rfl
  · rfl

/-- a v4 signature cannot carry more than 65535 octets of hashed subpackets, a v6 signature can
(up to the four-octet trailer count, and with a salt of the tabulated size): exactly then the
routines get past `hash_signature_data` -/
theorem hashed_area_limits (c : Cfg) :
    (c.ver = .v4 → ((fieldsAndTrailer c).isSome = true ↔ c.area.length < 65536)) ∧
    (c.ver = .v6 → ((fieldsAndTrailer c).isSome = true ↔
      (saltSizeOk c = true ∧ c.area.length + 8 < 4294967296))) := by
  constructor
  · intro h
    rw [fieldsAndTrailer_v4 c h]
    split <;> simp only [*, Option.isSome_some, Option.isSome_none, Bool.false_eq_true]
  · intro h
    rw [fieldsAndTrailer_v6 c h]
    split <;> simp only [*, Option.isSome_some, Option.isSome_none, Bool.false_eq_true, and_self]

/-- v3 signatures hash type and creation time after the subject, and nothing else -/
theorem v3_tail (c : Cfg) (h : c.ver = .v3) : fieldsAndTrailer c = some (c.typ :: be32 c.created) :=
  fieldsAndTrailer_v3 c h

/-- the pre-image ends with hashed fields ++ trailer -/
theorem preimage_ends_with_trailer (i : Spec.Input) (hv : i.ver ≠ .v3) :
    (Spec.hashedFields i ++ Spec.trailerBytes i) <:+ Spec.preimage i := by
  cases h : i.ver
  · exact absurd h hv
  · simp only [Spec.preimage, h, List.append_assoc]
    exact List.suffix_append _ _
  · simp only [Spec.preimage, h, List.append_assoc]
    rw [← List.append_assoc]
    exact List.suffix_append _ _

/-- key framing of a version 4 key: 0x99, two-octet length, body (refused above 65535 octets); key
versions 2 and 3 take the same branch of `serialize_for_hashing` -/
theorem key_framing_v4 (k : Key) (h : k.ver = 4) :
    serializeForHashing k =
      if k.ser.writeLen < 65536 then some (0x99 :: (be16 k.ser.writeLen ++ k.ser.bytes)) else none := by
  simp [serializeForHashing, h, Gen.sdSfhLegacyLenOctets, Gen.sdSfhLegacyLenBits, Gen.sdSfhLegacyPrefix, lenField_two]

/-- key framing: 0x9B, four-octet length, body for version 6 keys -/
theorem key_framing_v6 (k : Key) (h : k.ver = 6) :
    serializeForHashing k =
      if k.ser.writeLen < 4294967296 then some (0x9B :: (be32 k.ser.writeLen ++ k.ser.bytes)) else none := by
  simp [serializeForHashing, h, Gen.sdSfhV6LenOctets, Gen.sdSfhV6LenBits, Gen.sdSfhV6Prefix, lenField_four]

/-- no other key version is hashed at all -/
theorem key_framing_other_refused (k : Key) (h : k.ver ∉ [2, 3, 4, 6]) : serializeForHashing k = none := by
  simp at h
  simp [serializeForHashing, h]

/-- **salt first**: whatever a routine hashed starts with the salt octets — the configured salt
for a v6 signature, nothing for v3 / v4 -/
theorem salt_first (c : Cfg) (s : Spec.Subject) (p : Bytes) (h : Established c s p) :
    saltBytes c <+: p ∧ (c.ver = .v6 → saltBytes c = c.salt) ∧ (c.ver ≠ .v6 → saltBytes c = []) := by
  refine ⟨?_, ?_, ?_⟩
  · rw [h.1, Spec.preimage_eq, ← saltBytes_eq_spec, List.append_assoc]
    exact List.prefix_append _ _
  · intro hv; simp [saltBytes, hv]
  · intro hv; cases hc : c.ver <;> simp_all [saltBytes]

/-- salt size, the two early checks: `Signature::verify` and the inline reader
(`SignaturePacket::new_hasher`) compare the v6 salt size with the table before they hash anything
(the general statement, for every routine, is `salt_len_by_hash` below) -/
theorem salt_len_by_hash_verify (c : Cfg) (sv : Nat) (d p : Bytes) (h : verifyData c sv d = some p)
    (hv : c.ver = .v6) : Spec.saltSize c.hash = some c.salt.length := by
  simp only [verifyData, guard_eq_some] at h
  exact (saltSizeOk_v6 c hv).1 h.2.1

theorem salt_len_by_hash_inline (c : Cfg) (sv : Nat) (chunks : List Bytes) (p : Bytes)
    (h : verifyInline c sv chunks = some p) (hv : c.ver = .v6) :
    Spec.saltSize c.hash = some c.salt.length :=
  (saltSizeOk_v6 c hv).1 ((verifyInline_eq_some c sv chunks p).1 h).1

/-! ## every routine hashes the RFC pre-image of the subject its signature type calls for

`Ser.truthful` (`write_len()` is the length of what `to_writer` writes) is the only hypothesis
about the hashed objects; whenever a routine returns `some p`, `p` is `Spec.preimage` of the
corresponding input and the type octet belongs to the class of that subject. -/

theorem sign_data_is_rfc (c : Cfg) (sv : Nat) (chunks : List Bytes) (p : Bytes)
    (h : signData c sv chunks = some p) :
    p = Spec.preimage (c.toInput (.document chunks.flatten)) ∧ Spec.classOf c.typ = some .doc :=
  (signData_eq_spec c sv chunks p h).imp And.left id

/-- … for every way the document is delivered to the hasher -/
theorem sign_data_chunk_indep (c : Cfg) (sv : Nat) (chunks chunks' : List Bytes)
    (hfl : chunks.flatten = chunks'.flatten) : signData c sv chunks = signData c sv chunks' := by
  simp only [signData, hashedText_eq_canon, hfl]

theorem verify_data_is_rfc (c : Cfg) (sv : Nat) (d p : Bytes) (hty : c.typ = typBinary ∨ c.typ = typText)
    (h : verifyData c sv d = some p) : p = Spec.preimage (c.toInput (.document d)) :=
  (verifyData_eq_spec c sv d p hty h).1

theorem sign_certification_is_rfc (c : Cfg) (sv : Nat) (k : Key) (tag : Nat) (id : Ser) (p : Bytes)
    (h : signCertification c sv k tag id = some p) (ht : k.ser.truthful) :
    p = Spec.preimage (c.toInput (.certification k.toSpec (tag == tagUserAttribute) id.bytes)) ∧
    Spec.classOf c.typ = some .cert :=
  (signCertification_eq_spec c sv k tag id p h ht).imp And.left _root_.id

theorem verify_certification_is_rfc (c : Cfg) (sv : Nat) (k : Key) (tag : Nat) (id : Ser) (p : Bytes)
    (h : verifyCertification c sv k tag id = some p) (ht : k.ser.truthful) (hi : id.truthful) :
    p = Spec.preimage (c.toInput (.certification k.toSpec (tag == tagUserAttribute) id.bytes)) ∧
    Spec.classOf c.typ = some .cert :=
  (verifyCertification_eq_spec c sv k tag id p h ht hi).imp And.left _root_.id

theorem sign_key_is_rfc (c : Cfg) (sv : Nat) (k : Key) (p : Bytes) (h : signKey c sv k = some p)
    (ht : k.ser.truthful) :
    p = Spec.preimage (c.toInput (.directKey k.toSpec)) ∧ Spec.classOf c.typ = some .direct :=
  (signKey_eq_spec c sv k p h ht).imp And.left id

theorem verify_key_is_rfc (c : Cfg) (sv : Nat) (k : Key) (p : Bytes) (h : verifyKey c sv k = some p)
    (ht : k.ser.truthful) :
    p = Spec.preimage (c.toInput (.directKey k.toSpec)) ∧ Spec.classOf c.typ = some .direct :=
  (verifyKey_eq_spec c sv k p h ht).imp And.left id

theorem verify_subkey_binding_is_rfc (c : Cfg) (pk sk : Key) (p : Bytes)
    (h : verifySubkeyBinding c pk sk = some p) (tp : pk.ser.truthful) (ts : sk.ser.truthful) :
    p = Spec.preimage (c.toInput (.binding pk.toSpec sk.toSpec)) ∧ Spec.classOf c.typ = some .bind :=
  (verifySubkeyBinding_eq_spec c pk sk p h tp ts).imp And.left id

theorem verify_primary_key_binding_is_rfc (c : Cfg) (sk pk : Key) (p : Bytes)
    (h : verifyPrimaryKeyBinding c sk pk = some p) (tp : pk.ser.truthful) (ts : sk.ser.truthful) :
    p = Spec.preimage (c.toInput (.binding pk.toSpec sk.toSpec)) ∧ Spec.classOf c.typ = some .bind :=
  (verifyPrimaryKeyBinding_eq_spec c sk pk p h tp ts).imp And.left id

/-! ### binding signers, inline signatures, salt size

The guards these statements rest on are those of the `fix:` commits for D11a / D11b / D11c: the
binding signers and the inline reader look at the signature type, and `hash_signature_data`
compares the salt size with the table (without that fix only `Signature::verify` and the inline
reader compare it). -/

theorem sign_subkey_binding_is_rfc (c : Cfg) (sv : Nat) (pk sk : Key) (p : Bytes)
    (h : signSubkeyBinding c sv pk sk = some p) (tp : pk.ser.truthful) (ts : sk.ser.truthful) :
    p = Spec.preimage (c.toInput (.binding pk.toSpec sk.toSpec)) ∧ Spec.classOf c.typ = some .bind :=
  (signSubkeyBinding_eq_spec c sv pk sk p h tp ts).imp And.left id

theorem sign_primary_key_binding_is_rfc (c : Cfg) (sv : Nat) (pk sk : Key) (p : Bytes)
    (h : signPrimaryKeyBinding c sv pk sk = some p) (tp : pk.ser.truthful) (ts : sk.ser.truthful) :
    p = Spec.preimage (c.toInput (.binding pk.toSpec sk.toSpec)) ∧ Spec.classOf c.typ = some .bind :=
  (signPrimaryKeyBinding_eq_spec c sv pk sk p h tp ts).imp And.left id

/-- the binding signers refuse every type outside their class: a 0x1F configuration through
`sign_subkey_binding`, a 0x18 one through `sign_primary_key_binding` -/
theorem sign_subkey_binding_refuses_other_types :
    signSubkeyBinding { ver := .v4, typ := 0x1F, pk := 1, hash := 8, area := [] } 4
      { ver := 4, ser := { writeLen := 1, bytes := [4] } } { ver := 4, ser := { writeLen := 1, bytes := [4] } } = none ∧
    signPrimaryKeyBinding { ver := .v4, typ := 0x18, pk := 1, hash := 8, area := [] } 4
      { ver := 4, ser := { writeLen := 1, bytes := [4] } } { ver := 4, ser := { writeLen := 1, bytes := [4] } } = none := by
  decide

/-- inline signatures (`Message::verify*`): the digest is the RFC's document digest, and a digest
is produced for the two document types only -/
theorem verify_inline_is_rfc (c : Cfg) (sv : Nat) (chunks : List Bytes) (p : Bytes)
    (h : verifyInline c sv chunks = some p) :
    p = Spec.preimage (c.toInput (.document chunks.flatten)) ∧ Spec.classOf c.typ = some .doc :=
  (verifyInline_eq_spec c sv chunks p h).imp And.left id

/-- … for every chunking of the literal data -/
theorem verify_inline_chunk_indep (c : Cfg) (sv : Nat) (chunks chunks' : List Bytes)
    (hfl : chunks.flatten = chunks'.flatten) : verifyInline c sv chunks = verifyInline c sv chunks' := by
  simp only [verifyInline, hashedText_eq_canon, hfl]

/-- a signature of any other type found in a message never reaches the primitive
(`check_inline_verification_preconditions`; this closes the confusion between a certification and
a "document" that spells out the framed key and User ID) -/
theorem verify_inline_refuses_non_document (c : Cfg) (sv : Nat) (chunks : List Bytes)
    (hty : (c.typ == typBinary || c.typ == typText) = false) : verifyInline c sv chunks = none := by
  cases hr : verifyInline c sv chunks with
  | none => rfl
  | some p => exact absurd ((verifyInline_eq_some c sv chunks p).1 hr).2.1 (by simp [hty])

/-- **salt size tied to the hash algorithm, on every path**: whatever routine produced a digest
for a v6 signature, the salt it hashed has the size RFC 9580 table 23 gives for the hash
algorithm (`hash_signature_data` compares it) -/
theorem salt_len_by_hash (c : Cfg) (s : Spec.Subject) (p : Bytes) (h : Established c s p)
    (hv : c.ver = .v6) : Spec.saltSize c.hash = some c.salt.length := by
  obtain ⟨ft, hft⟩ := Option.isSome_iff_exists.1 h.2.2
  exact (saltSizeOk_v6 c hv).1 (fieldsAndTrailer_saltSizeOk c ft hft)

/-- a v6 configuration with a salt of another size is refused by `hash_signature_data`, hence by
every signing and verifying routine (examples below: SHA2-256 with a 3-octet salt) -/
theorem wrong_salt_size_refused (c : Cfg) (hv : c.ver = .v6) (hs : saltSizeOk c = false) :
    fieldsAndTrailer c = none := by
  rw [fieldsAndTrailer_v6 c hv]
  simp [hs]

theorem wrong_salt_size_refused_examples :
    signData { ver := .v6, typ := 0x00, pk := 27, hash := 8, area := [], salt := [1, 2, 3] } 6 [[7]] = none ∧
    verifyKey { ver := .v6, typ := 0x1F, pk := 27, hash := 8, area := [], salt := [1, 2, 3] } 6
      { ver := 6, ser := { writeLen := 1, bytes := [6] } } = none := by
  decide

/-! ## the pre-image determines what was signed (shared with C02) -/

/-- for version 4: salt-free pre-images of well-formed inputs are equal only if type, both
algorithm octets, hashed area and subject (document / key / key + identity / key pair) are equal —
parse back from the trailer -/
theorem preimage_injective_v4 (a b : Spec.Input) (ha : a.ver = .v4) (hb : b.ver = .v4)
    (wa : Spec.WF a = true) (wb : Spec.WF b = true) (h : Spec.preimage a = Spec.preimage b) : a = b :=
  SigDigest.preimage_injective_v4 a b ha hb wa wb h

/-- for version 6, including the salt (its size is fixed by the recovered hash algorithm) -/
theorem preimage_injective_v6 (a b : Spec.Input) (ha : a.ver = .v6) (hb : b.ver = .v6)
    (wa : Spec.WF a = true) (wb : Spec.WF b = true) (h : Spec.preimage a = Spec.preimage b) : a = b :=
  SigDigest.preimage_injective_v6 a b ha hb wa wb h

/-- for version 3: type, creation time and the subject octets -/
theorem preimage_injective_v3 (a b : Spec.Input) (ha : a.ver = .v3) (hb : b.ver = .v3)
    (wa : Spec.WF a = true) (wb : Spec.WF b = true) (h : Spec.preimage a = Spec.preimage b) :
    a.typ = b.typ ∧ a.created = b.created ∧
      Spec.subjectBytes .v3 a.typ a.subject = Spec.subjectBytes .v3 b.typ b.subject :=
  SigDigest.preimage_injective_v3 a b ha hb wa wb h

/-- the framed key determines the key, and says where it ends -/
theorem key_framing_injective (k k' : Spec.Key) (r r' : Bytes)
    (hk : Spec.keyWF k = true) (hk' : Spec.keyWF k' = true)
    (h : Spec.keyBytes k ++ r = Spec.keyBytes k' ++ r') : k = k' ∧ r = r' :=
  keyBytes_append_inj k k' r r' hk hk' h

/-- text documents: equal pre-images ⇔ equal canonical forms (the documented equivalence) -/
theorem doc_text_equiv (i : Spec.Input) (d d' : Bytes) (ht : i.typ = 0x01) :
    Spec.preimage { i with subject := .document d } = Spec.preimage { i with subject := .document d' } ↔
      canon d = canon d' :=
  doc_text_iff i d d' ht

/-- binary documents: equal pre-images ⇔ equal documents -/
theorem doc_binary_equiv (i : Spec.Input) (d d' : Bytes) (ht : i.typ ≠ 0x01) :
    Spec.preimage { i with subject := .document d } = Spec.preimage { i with subject := .document d' } ↔
      d = d' :=
  doc_binary_iff i d d' ht

/-- **the serializer establishes the well-formedness predicate**: whenever a routine produced a
digest (`Established`), all lengths fitted their fields; with the type in the subject's class,
text given canonically and a 32-bit creation time, `Spec.WF` holds — so the
injectivity theorems apply to everything the code hashes -/
theorem serializer_establishes_wf (c : Cfg) (s : Spec.Subject) (p : Bytes) (h : Established c s p)
    (hcls : Spec.classOf c.typ = some s.cls)
    (hcan : ∀ d, s = .document d → c.typ = 0x01 → canon d = d)
    (hcr : c.created < 4294967296) :
    Spec.WF (c.toInput s) = true :=
  h.wf hcls hcan fun _ => hcr

/-- two successful hashing routines (any two, signing or verifying) for v4 / v6 signatures of the
same version that fed the same octets to their hashers were given the same signature fields and the
same subject -/
theorem hashed_octets_determine_input (c c' : Cfg) (s s' : Spec.Subject) (p : Bytes)
    (h : Established c s p) (h' : Established c' s' p)
    (hv : c.ver = c'.ver) (hv3 : c.ver ≠ .v3)
    (hcls : Spec.classOf c.typ = some s.cls) (hcls' : Spec.classOf c'.typ = some s'.cls)
    (hcan : ∀ d, s = .document d → c.typ = 0x01 → canon d = d)
    (hcan' : ∀ d, s' = .document d → c'.typ = 0x01 → canon d = d) :
    c.toInput s = c'.toInput s' :=
  established_inj c c' s s' p h h' hv3 (hv ▸ hv3) hcls hcls' hcan hcan'

/-- instance: everything `Signature::verify_key` hashes is well-formed -/
theorem verify_key_establishes_wf (c : Cfg) (sv : Nat) (k : Key) (p : Bytes)
    (h : verifyKey c sv k = some p) (ht : k.ser.truthful) (hcr : c.created < 4294967296) :
    Spec.WF (c.toInput (.directKey k.toSpec)) = true := by
  obtain ⟨he, hc⟩ := verifyKey_eq_spec c sv k p h ht
  exact he.wf hc nofun fun _ => hcr

/-- instance: everything `Signature::verify_third_party_certification` hashes is well-formed -/
theorem verify_certification_establishes_wf (c : Cfg) (sv : Nat) (k : Key) (tag : Nat) (id : Ser) (p : Bytes)
    (h : verifyCertification c sv k tag id = some p) (ht : k.ser.truthful) (hi : id.truthful)
    (hcr : c.created < 4294967296) :
    Spec.WF (c.toInput (.certification k.toSpec (tag == tagUserAttribute) id.bytes)) = true := by
  obtain ⟨he, hc⟩ := verifyCertification_eq_spec c sv k tag id p h ht hi
  exact he.wf hc nofun fun _ => hcr

/-! ## what is signed is what is verified (same octets on both sides) -/

theorem sign_then_verify_data (c : Cfg) (sv sv' : Nat) (chunks : List Bytes) (p : Bytes)
    (h : signData c sv chunks = some p) (hs : saltSizeOk c = true)
    (hal : verifyAligned c sv' = true) : verifyData c sv' chunks.flatten = some p := by
  simp only [signData, guard_eq_some, hashedText_eq_canon, Bool.or_eq_true, beq_iff_eq] at h
  simp only [verifyData, guard_eq_some, normalizedRead_eq_canon _ (by decide : 0 < Gen.normalizedReaderWindow),
    hashDataToSign_doc c _ h.2.1]
  exact ⟨hal, hs, h.2.2⟩

theorem sign_then_verify_inline (c : Cfg) (sv sv' : Nat) (chunks chunks' : List Bytes) (p : Bytes)
    (h : signData c sv chunks = some p) (hs : saltSizeOk c = true) (hfl : chunks'.flatten = chunks.flatten)
    (hal : verifyAligned c sv' = true) : verifyInline c sv' chunks' = some p := by
  simp only [signData, guard_eq_some, hashedText_eq_canon] at h
  rw [verifyInline_eq_some, hfl]
  exact ⟨hs, h.2.1, hal, h.2.2⟩

/-- needs `write_len()` of the identity to be truthful: the signer announces the length of what
it serialized, the verifier announces `write_len()` -/
theorem sign_then_verify_certification (c : Cfg) (sv sv' : Nat) (k : Key) (tag : Nat) (id : Ser) (p : Bytes)
    (h : signCertification c sv k tag id = some p) (hi : id.truthful)
    (hal : verifyAligned c sv' = true) : verifyCertification c sv' k tag id = some p := by
  simp only [signCertification, guard_eq_some] at h
  simp only [verifyCertification, guard_eq_some]
  unfold Ser.truthful at hi
  rw [hi]
  exact ⟨h.2.1, hal, h.2.2⟩

theorem sign_then_verify_key (c : Cfg) (sv sv' : Nat) (k : Key) (p : Bytes)
    (h : signKey c sv k = some p) (hal : verifyAligned c sv' = true) : verifyKey c sv' k = some p := by
  simp only [signKey, guard_eq_some] at h
  simp only [verifyKey, guard_eq_some]
  exact ⟨h.2.1, hal, h.2.2⟩

theorem sign_then_verify_subkey_binding (c : Cfg) (sv : Nat) (pk sk : Key) (p : Bytes)
    (h : signSubkeyBinding c sv pk sk = some p)
    (hal : verifyAligned c pk.ver = true) : verifySubkeyBinding c pk sk = some p := by
  simp only [signSubkeyBinding, guard_eq_some] at h
  simp only [verifySubkeyBinding, guard_eq_some]
  exact ⟨h.2.1, hal, h.2.2⟩

theorem sign_then_verify_primary_key_binding (c : Cfg) (sv : Nat) (pk sk : Key) (p : Bytes)
    (h : signPrimaryKeyBinding c sv pk sk = some p)
    (hal : verifyAligned c sk.ver = true) : verifyPrimaryKeyBinding c sk pk = some p := by
  simp only [signPrimaryKeyBinding, guard_eq_some] at h
  simp only [verifyPrimaryKeyBinding, guard_eq_some]
  exact ⟨h.2.1, hal, h.2.2⟩

/-- an untruthful `write_len()` of the identity is exactly what separates the two sides: witness
(identity of one octet announced as two) -/
theorem untruthful_write_len_splits_sign_and_verify :
    ∃ c sv k tag id p q, signCertification c sv k tag id = some p ∧
      verifyCertification c sv k tag id = some q ∧ p ≠ q :=
  ⟨{ ver := .v4, typ := 0x13, pk := 1, hash := 8, area := [] }, 4,
    { ver := 4, ser := { writeLen := 1, bytes := [4] } }, 13, { writeLen := 2, bytes := [65] }, _, _, rfl, rfl,
    by decide⟩

/-! ## non-vacuity / concrete evaluations -/

/-- RFC 9580 §5.2.4 on a toy v4 direct-key signature: 0x99 len16 key, fields, trailer 04 FF 00000006 -/
example : Spec.preimage
    { ver := .v4, typ := 0x1F, pk := 1, hash := 8, area := [], salt := [], created := 0,
      subject := .directKey { fmt := .legacy, body := [4, 0, 0, 0, 0, 1] } } =
    [0x99, 0, 6, 4, 0, 0, 0, 0, 1, 4, 0x1F, 1, 8, 0, 0, 4, 0xFF, 0, 0, 0, 6] := by decide

/-- v6: salt, 0x9B len32 key, 0xB4 len32 uid, four-octet area length, trailer 06 FF 00000008+|area| -/
example : Spec.preimage
    { ver := .v6, typ := 0x13, pk := 27, hash := 8, area := [2, 9], salt := [0xAA, 0xBB],
      created := 0, subject := .certification { fmt := .v6, body := [6, 1] } false [0x41] } =
    [0xAA, 0xBB, 0x9B, 0, 0, 0, 2, 6, 1, 0xB4, 0, 0, 0, 1, 0x41,
     6, 0x13, 27, 8, 0, 0, 0, 2, 2, 9, 6, 0xFF, 0, 0, 0, 10] := by decide

/-- v3: subject, type, creation time -/
example : Spec.preimage
    { ver := .v3, typ := 0x00, pk := 1, hash := 1, area := [], salt := [], created := 258,
      subject := .document [0x61] } = [0x61, 0x00, 0, 0, 1, 2] := by decide

example : Spec.WF
    { ver := .v4, typ := 0x1F, pk := 1, hash := 8, area := [], salt := [], created := 0,
      subject := .directKey { fmt := .legacy, body := [4, 0, 0, 0, 0, 1] } } = true := by decide

example : signKey { ver := .v4, typ := 0x1F, pk := 1, hash := 8, area := [] } 4
      { ver := 4, ser := { writeLen := 6, bytes := [4, 0, 0, 0, 0, 1] } } =
    some [0x99, 0, 6, 4, 0, 0, 0, 0, 1, 4, 0x1F, 1, 8, 0, 0, 4, 0xFF, 0, 0, 0, 6] := by decide

/-- a v4 configuration whose hashed area does not fit two octets is refused, a v6 one is not -/
example : lenField 2 65536 = none ∧ lenField 4 65536 = some [0, 1, 0, 0] := by decide

end Rpgp.C11
