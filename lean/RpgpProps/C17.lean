import RpgpProofs.Framing
/-!
# C17 — packet framing: the reader accepts every legal framing, the writer emits only legal ones

Model: `RpgpModel/Framing.lean`.  Thresholds are re-extracted from the source on every run
(`RpgpModel/Gen/Constants.lean`), one definition per use site; the `sites_agree_*` theorems
tie the several copies of the same codec in the source to each other and to RFC 9580 §4.2.
-/
namespace Rpgp.C17
open Rpgp

/-! ## the constants are the RFC's and all use sites agree -/

theorem reader_ranges_rfc :
    Gen.rdOneOctetMax = 191 ∧ Gen.rdTwoOctetMin = 192 ∧ Gen.rdTwoOctetMax = 223 ∧
    Gen.rdTwoOctetSub = 192 ∧ Gen.rdTwoOctetShift = 8 ∧ Gen.rdTwoOctetAdd = 192 ∧
    Gen.rdPartialMin = 224 ∧ Gen.rdPartialMax = 254 ∧ Gen.rdPartialMask = 31 ∧
    Gen.rdFiveOctetMarker = 255 := by decide

theorem sites_agree_new :
    Gen.wrNewOneOctetLimit = 192 ∧ Gen.wrNewTwoOctetLimit = 8384 ∧
    Gen.whNewOneOctetLimit = Gen.wrNewOneOctetLimit ∧ Gen.whNewTwoOctetLimit = Gen.wrNewTwoOctetLimit ∧
    Gen.hlNewOneOctetLimit = Gen.wrNewOneOctetLimit ∧ Gen.hlNewTwoOctetLimit = Gen.wrNewTwoOctetLimit ∧
    Gen.felOneOctetLimit = Gen.wrNewOneOctetLimit ∧ Gen.felTwoOctetLimit = Gen.wrNewTwoOctetLimit ∧
    Gen.phwNewOneOctetLimit = Gen.wrNewOneOctetLimit ∧ Gen.phwNewTwoOctetLimit = Gen.wrNewTwoOctetLimit ∧
    Gen.wrPartialBase = Gen.rdPartialMin := by decide

theorem sites_agree_old :
    Gen.whOldOneOctetLimit = 256 ∧ Gen.whOldTwoOctetLimit = 65536 ∧
    Gen.hlOldOneOctetLimit = Gen.whOldOneOctetLimit ∧ Gen.hlOldTwoOctetLimit = Gen.whOldTwoOctetLimit ∧
    -- `PacketHeader::to_writer` writes as many length octets as the length TYPE in the header octet
    -- announces (1, 2, 4 for types 0, 1, 2: RFC 9580 4.2.2), and `write_len` counts the same
    Gen.phtOldType0Octets = 1 ∧ Gen.phtOldType1Octets = 2 ∧ Gen.phtOldType2Octets = 4 ∧
    Gen.phwOldType0Len = 1 + Gen.phtOldType0Octets ∧ Gen.phwOldType1Len = 1 + Gen.phtOldType1Octets ∧
    Gen.phwOldType2Len = 1 + Gen.phtOldType2Octets ∧
    -- the length type chosen by `old_fixed_type` for a new header can hold the length, and switches
    -- where `write_header` switches
    Gen.oftOneOctetLimit = 256 ^ Gen.phtOldType0Octets ∧ Gen.oftTwoOctetLimit = 256 ^ Gen.phtOldType1Octets ∧
    Gen.oftOneOctetLimit = Gen.whOldOneOctetLimit ∧ Gen.oftTwoOctetLimit = Gen.whOldTwoOctetLimit := by
  decide

theorem partial_limits_rfc :
    Gen.rdFirstPartialMin = 512 ∧ Gen.maxPartialLenLog2 = 30 ∧
    Gen.rdFirstPartialMin ≤ Gen.litPartialMinChunk ∧ Gen.rdFirstPartialMin ≤ Gen.cmpPartialMinChunk := by
  decide

/-! ## codecs -/

/-- new-format length codec round trip for every length below 2³² and any following bytes -/
theorem newlen_roundtrip (n : Nat) (h : n < 4294967296) (rest : Bytes) :
    decodeNewLen (encodeNewLen n ++ rest) = some (Len.fixed n, rest) :=
  decodeNewLen_encodeNewLen n h rest

/-- the two writers of the new-format length in the source are the same function -/
theorem newlen_writers_agree (n : Nat) : encodeNewLenHdr n = encodeNewLen n := encodeNewLenHdr_eq n

/-- partial-length octet `224+k` ↔ `2^k`, `k ≤ 30` -/
theorem partial_code (k : Nat) (hk : k ≤ 30) (r : Bytes) :
    decodeNewLen (partialOctet k :: r) = some (Len.part (2 ^ k), r) :=
  decodeNewLen_partialOctet k hk r

/-- … and nothing else decodes to a partial length -/
theorem partial_code_only (o : Byte) (r : Bytes) (n : Nat) (r' : Bytes)
    (h : decodeNewLen (o :: r) = some (Len.part n, r')) : ∃ k, k ≤ 30 ∧ n = 2 ^ k ∧ r' = r :=
  decodeNewLen_partial_range o r n r' h

/-- headers written by `write_header` (either format, every tag the format can carry, every
length below 2³²) parse back to the same tag and length -/
theorem header_roundtrip (newFormat : Bool) (tag n : Nat)
    (ht : if newFormat then tag < 64 else tag < 16) (hn : n < 4294967296) (rest : Bytes) :
    parseHeader (writeHeader newFormat tag n ++ rest) =
      .ok ({ newFormat := newFormat, tag := tag, len := .fixed n }, rest) :=
  parseHeader_writeHeader newFormat tag n ht hn rest

/-! ## the reader accepts every legal framing and returns the same body -/

/-- fixed length, legacy or current header format -/
theorem deframe_fixed_any_format (newFormat : Bool) (tag : Nat)
    (ht : if newFormat then tag < 64 else tag < 16) (body rest : Bytes) (hb : body.length < 4294967296) :
    deframe (writeHeader newFormat tag body.length ++ body ++ rest) =
      .ok ({ newFormat := newFormat, tag := tag, len := .fixed body.length }, body, rest) :=
  Rpgp.deframe_fixed newFormat tag ht body rest hb

/-- … and in *any* admissible length form, minimal or not (new: 1/2/5 octets, old: 1/2/4) -/
theorem deframe_fixed_any_length_form (newFormat : Bool) (tag form : Nat)
    (ht : if newFormat then tag < 64 else tag < 16) (body s rest : Bytes)
    (hs : frameFixedAs newFormat tag form body = some s) :
    deframe (s ++ rest) =
      .ok ({ newFormat := newFormat, tag := tag, len := .fixed body.length }, body, rest) :=
  deframe_frameFixedAs newFormat tag form ht body s rest hs

/-- indeterminate length (legacy format): the body is the rest of the input -/
theorem deframe_indeterminate (tag : Nat) (ht : tag < 16) (body : Bytes) :
    deframe ((128 + tag * 4 + 3).toUInt8 :: body) =
      .ok ({ newFormat := false, tag := tag, len := .indet }, body, []) :=
  Rpgp.deframe_indeterminate tag ht body

/-- **any** split of a data packet into partial-body chunks — arbitrary sequence of powers of two
up to 2³⁰, the first at least 512, final fixed chunk possibly empty — is read back as the body -/
theorem deframe_any_legal (tag k : Nat) (ks : List Nat) (body s rest : Bytes)
    (hs : framePartial tag (k :: ks) body = some s)
    (hallow : partialAllowed tag = true) (hfirst : 9 ≤ k)
    (hk : ∀ x ∈ k :: ks, x ≤ 30) (hb : body.length < 4294967296) :
    deframe (s ++ rest) = .ok ({ newFormat := true, tag := tag, len := .part (2 ^ k) }, body, rest) :=
  deframe_partial tag k ks body s rest hs hallow hfirst hk hb

/-- hence two legal framings of the same body are read as the same value -/
theorem framing_irrelevant (tag k k' : Nat) (ks ks' : List Nat) (body s s' rest : Bytes)
    (hs : framePartial tag (k :: ks) body = some s) (hs' : framePartial tag (k' :: ks') body = some s')
    (hallow : partialAllowed tag = true) (h9 : 9 ≤ k) (h9' : 9 ≤ k')
    (hk : ∀ x ∈ k :: ks, x ≤ 30) (hk' : ∀ x ∈ k' :: ks', x ≤ 30) (hb : body.length < 4294967296) :
    (deframe (s ++ rest)).map (fun r => (r.2.1, r.2.2)) = (deframe (s' ++ rest)).map (fun r => (r.2.1, r.2.2)) ∧
    (deframe (s ++ rest)).map (fun r => r.2.1) =
      (deframe (writeHeader true tag body.length ++ body ++ rest)).map (fun r => r.2.1) := by
  rw [deframe_any_legal tag k ks body s rest hs hallow h9 hk hb,
    deframe_any_legal tag k' ks' body s' rest hs' hallow h9' hk' hb,
    deframe_fixed_any_format true tag (partialAllowed_lt tag hallow) body rest hb]
  exact ⟨rfl, rfl⟩

/-! ## illegal framings are rejected, never mis-split -/

theorem rejects_partial_on_non_data_tag (tag : Nat) (ht : tag < 64) (hna : partialAllowed tag = false)
    (k : Nat) (hk : k ≤ 30) (r : Bytes) :
    deframe ((192 + tag).toUInt8 :: partialOctet k :: r) = .error .bad :=
  deframe_rejects_partial_tag tag ht hna k hk r

theorem rejects_first_chunk_under_512 (tag : Nat) (ht : tag < 64) (k : Nat) (hk : k < 9) (r : Bytes) :
    deframe ((192 + tag).toUInt8 :: partialOctet k :: r) = .error .bad :=
  deframe_rejects_short_first tag ht k hk r

theorem rejects_body_shorter_than_declared (newFormat : Bool) (tag n : Nat)
    (ht : if newFormat then tag < 64 else tag < 16) (hn : n < 4294967296)
    (avail : Bytes) (hshort : avail.length < n) :
    deframe (writeHeader newFormat tag n ++ avail) = .error .bad :=
  deframe_rejects_truncated_fixed newFormat tag n ht hn avail hshort

/-- whenever the continuation reader succeeds, the body is exactly the concatenation of the
declared segments and `rest` is what follows them (no byte invented, dropped or reordered) -/
theorem never_mis_split (fuel : Nat) (inp b rest : Bytes) (h : deframeCont fuel inp = .ok (b, rest)) :
    ContFramed inp b rest ∧ b.length + rest.length < inp.length :=
  ⟨deframeCont_sound fuel inp b rest h, (deframeCont_sound fuel inp b rest h).length_lt⟩

/-! ## every stream the emitters write is legal and is read back -/

/-- the partial-body emitters (`LiteralDataPartialGenerator`, `CompressedDataPartialGenerator`,
`encrypt_write`) only ever use chunks `2^k` (the configured size), and when the data does not
fit a single packet the result is exactly the legal framing `k, k, …, k` + final fixed chunk
(for a header that fits the first chunk, `hdr.length ≤ 2^k`) -/
theorem emit_legal (tag k : Nat) (hdr body : Bytes) (hh : hdr.length ≤ 2 ^ k)
    (hbig : ¬ body.length < 2 ^ k - hdr.length) :
    framePartial tag (k :: List.replicate ((body.length - (2 ^ k - hdr.length)) / 2 ^ k) k) (hdr ++ body)
      = some (emitPartial tag k hdr body) :=
  emitPartial_eq_framePartial tag k hdr body hh hbig

/-- emit → deframe round trip for every chunk size 2⁹..2³⁰, header of at most one chunk
(`hdr.length ≤ 2^k`) and payload with header + payload below 2³² -/
theorem emit_deframe (tag k : Nat) (hdr body rest : Bytes)
    (hallow : partialAllowed tag = true) (hk9 : 9 ≤ k) (hk30 : k ≤ 30) (hh : hdr.length ≤ 2 ^ k)
    (hb : hdr.length + body.length < 4294967296) :
    ∃ h, deframe (emitPartial tag k hdr body ++ rest) = .ok (h, hdr ++ body, rest) ∧ h.tag = tag :=
  deframe_emitPartial tag k hdr body rest hallow hk9 hk30 hh hb

/-- the fixed-length emitter (`MessageBuilder::from_bytes`, `from_file`: the announced length comes
from the caller / the file's metadata): for EVERY source — also one that yields more or fewer octets
than were announced — a clean end means one legal packet with exactly the source's octets behind
the literal header, "with lengths that match the bytes that follow" (D17c) -/
theorem emit_fixed_legal (lit : Bytes) (n : Nat) (src out rest : Bytes)
    (hn : lit.length + n < 4294967296) (h : fixedGen lit n src = some out) :
    src.length = n ∧
    deframe (out ++ rest) = .ok ({ newFormat := true, tag := 11, len := .fixed (lit ++ src).length }, lit ++ src, rest) :=
  fixedGen_legal lit n src out rest hn h

theorem emit_fixed_prefix_witness :
    fixedGenWith false [98, 0, 0, 0, 0, 0] 0 [1, 2, 3] = some [0xCB, 6, 98, 0, 0, 0, 0, 0, 1, 2, 3] ∧
    fixedGenWith true [98, 0, 0, 0, 0, 0] 0 [1, 2, 3] = none ∧
    fixedGenWith true [98, 0, 0, 0, 0, 0] 3 [1, 2, 3] = some [0xCB, 9, 98, 0, 0, 0, 0, 0, 1, 2, 3] :=
  fixedGen_prefix_witness

/-! ## packet streams: where a packet ends depends on its framing alone -/

/-- a fixed-length framing in any admissible length form is a framing in the sense of `Framed` -/
theorem framed_fixed (newFormat : Bool) (tag form : Nat)
    (ht : if newFormat then tag < 64 else tag < 16) (body s : Bytes)
    (hs : frameFixedAs newFormat tag form body = some s) :
    Framed { newFormat := newFormat, tag := tag, len := .fixed body.length } body s :=
  fun rest => deframe_frameFixedAs newFormat tag form ht body s rest hs

/-- … and so is every legal partial-body framing -/
theorem framed_partial (tag k : Nat) (ks : List Nat) (body s : Bytes)
    (hs : framePartial tag (k :: ks) body = some s)
    (hallow : partialAllowed tag = true) (hfirst : 9 ≤ k)
    (hk : ∀ x ∈ k :: ks, x ≤ 30) (hb : body.length < 4294967296) :
    Framed { newFormat := true, tag := tag, len := .part (2 ^ k) } body s :=
  fun rest => deframe_partial tag k ks body s rest hs hallow hfirst hk hb

/-- **stream split**: a concatenation of any number of framed packets — whatever their tags and
whatever their bodies contain, so in particular packets whose type or content the library refuses —
is split into exactly those packets: nothing of a body is ever taken for a header -/
theorem stream_split (ps : List (Hdr × Bytes × Bytes))
    (hall : ∀ p ∈ ps, Framed p.1 p.2.1 p.2.2) :
    deframeAll (ps.length + 1) (ps.map (·.2.2)).flatten = (ps.map (fun p => (p.1, p.2.1)), none) := by
  have := deframeAll_framed_append ps 1 [] hall
  simpa [deframeAll] using this

/-- … and when something that cannot be read as a packet follows them, the packets in front of it
are still delivered whole and the stream ends with an error, not with a clean end -/
theorem stream_error_after_packets (ps : List (Hdr × Bytes × Bytes))
    (hall : ∀ p ∈ ps, Framed p.1 p.2.1 p.2.2) (x : Byte) (t : Bytes) (e : FrErr)
    (ht : deframe (x :: t) = .error e) :
    deframeAll (ps.length + 1) ((ps.map (·.2.2)).flatten ++ x :: t) =
      (ps.map (fun p => (p.1, p.2.1)), some e) := by
  have := deframeAll_framed_append ps 1 (x :: t) hall
  simpa [deframeAll, ht] using this

/-! ## non-vacuity -/

example : frameFixedAs true 2 5 [9, 9] = some [194, 255, 0, 0, 0, 2, 9, 9] := by decide
example : partialAllowed 11 = true ∧ partialAllowed 2 = false := by decide
example : framePartial 11 [1, 0] [1, 2, 3, 4] = some [203, 225, 1, 2, 224, 3, 1, 4] := by decide
example : decodeNewLen (encodeNewLen 8383 ++ [7]) = some (Len.fixed 8383, [7]) :=
  newlen_roundtrip 8383 (by decide) [7]
example : encodeNewLen 191 = [191] ∧ encodeNewLen 192 = [192, 0] ∧ encodeNewLen 8383 = [223, 255] ∧
    encodeNewLen 8384 = [255, 0, 0, 32, 192] := by decide
example : deframeAll 4 [0xCA, 3, 80, 71, 80, 0xFF, 2, 0xCD, 0xCD, 0xCD, 4, 108, 97, 115, 116] =
    ([({ newFormat := true, tag := 10, len := .fixed 3 }, [80, 71, 80]),
      ({ newFormat := true, tag := 63, len := .fixed 2 }, [0xCD, 0xCD]),
      ({ newFormat := true, tag := 13, len := .fixed 4 }, [108, 97, 115, 116])], none) := by decide

end Rpgp.C17
