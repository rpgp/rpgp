import RpgpProofs.Resource
import RpgpProofs.CleartextIncr
/-!
# C19 — work and memory are bounded by the input actually supplied (PARTIAL)

Model: `RpgpModel/Resource.lean` (cost semantics of the containers rpgp's parsers and streaming
readers ask for) and the decryptor / canonicaliser state machines of `Seipd.lean`, `Canon.lean`.

What is proved here, for ALL declared sizes, sources, chunkings, lengths and parameter octets:
the capacity / buffer length the modelled code requests is bounded by the bytes actually present
plus an extracted constant — never by a declared length — and every modelled loop consumes input
on each iteration or stops.  What is NOT proved (and is measured by the harness instead): what the
real allocator does with those requests, wall-clock time, stack depth, and everything in the crate
that is not modelled (see the manifest entry).

Embedded signatures (D19, repaired in the tree by `MAX_EMBEDDED_SIGNATURE_DEPTH`): `embedded_sig`
copies the rest of the subpacket body and recurses, but refuses to do so below the extracted
nesting cap, so `embedded_copy_linear` / `embedded_recursion_bounded` hold at full strength (every
input, every nesting).  The `uncapped_*` theorems are regression theorems about the code WITHOUT the
cap (`sigCopyUncapped`): quadratic copy volume and unbounded recursion on the witness family
`nestSig` — they say what the cap is for and break nothing if it changes.

Still open (known finding D19b): the armor header accumulator re-parses its whole back buffer on
every refill: memory is bounded (`armor_backbuffer`), the work is not linear
(`armor_reparse_quadratic`).
-/
namespace Rpgp.C19
open Rpgp Rpgp.Resource

/-! ## constants the bounds are parametric in (re-extracted from the sources on every run) -/

/-- the documented ceilings -/
theorem constants_documented :
    Gen.takeBytesPreallocCap = 1024 ∧ Gen.subpacketVecCapLimit = 32 ∧ Gen.maxExternMpiBits = 16384 ∧
    Gen.argon2MaxT = 32 ∧ Gen.argon2MaxP = 32 ∧ Gen.argon2MemoryLimitKib = 2 ^ 21 ∧ Gen.s2kExpbias = 6 ∧
    Gen.armorDefaultLimit = 2 ^ 30 ∧ Gen.seipd1DefaultMaxMessageSize = 2 ^ 30 ∧ Gen.libMaxBufferSize = 2 ^ 30 := by
  decide

/-- every streaming reader uses a fixed buffer; the sites agree (`LineWriter` and `Base64Decoder` hold
fixed-size arrays only: their bound is their type) -/
theorem stream_buffer_sizes :
    Gen.packetBodyBufferSize = 8192 ∧ Gen.literalReaderBufferSize = 8192 ∧
    Gen.compressedReaderBufferSize = 8192 ∧ Gen.signedManyBufferSize = 8192 ∧
    Gen.symDecBufferSize = 8192 ∧ Gen.normalizedReaderWindow = 512 ∧
    Gen.aeadWindowFactor = 2 ∧ Gen.aeadWindowFactorCap = Gen.aeadWindowFactor ∧ Gen.aeadTagSize = 16 ∧
    Gen.aeadMaxChunkBytes = 4194304 ∧
    Gen.base64DecoderBufSize = 1024 ∧ Gen.base64DecoderOutCap = 768 ∧ Gen.drainChunk = 256 := by
  decide

/-- the subpacket length codec sites agree with RFC 9580 §5.2.3.7 -/
theorem subpacket_length_codec :
    Gen.subLenOneOctetMax = 191 ∧ Gen.subLenTwoOctetMin = 192 ∧ Gen.subLenTwoOctetMax = 254 ∧
    Gen.subLenTwoOctetSub = 192 ∧ Gen.subLenTwoOctetAdd = 192 ∧ Gen.subLenFiveOctetMarker = 255 ∧
    Gen.subTypeEmbeddedSignature = 32 ∧ Gen.subTypeCriticalShift = 7 := by
  decide

/-! ## `take_bytes`: allocation follows the data present, never the declared size -/

/-- **`take_bytes_alloc`.** For EVERY declared `size` and every source (any chunking, any length):
the capacity held is at most `2·|present| + 1024`, where `present` counts only bytes that were
really there (and never more than were asked for); all allocator requests together are at most
twice that, the high-water mark at most 3/2 of it. -/
theorem take_bytes_alloc (size : Nat) (src : List Bytes) :
    (takeBytesBuf size src).cap ≤ 2 * min size src.flatten.length + Gen.takeBytesPreallocCap ∧
    (takeBytesBuf size src).total ≤ 2 * (2 * min size src.flatten.length + Gen.takeBytesPreallocCap) ∧
    2 * (takeBytesBuf size src).peak ≤ 3 * (2 * min size src.flatten.length + Gen.takeBytesPreallocCap) := by
  obtain ⟨h, h1, h2, _⟩ := takeBytes_spec size src
  have hc := h.cap_le_add (Nat.min_le_right _ _) (by decide)
  have hcap : (takeBytesBuf size src).cap ≤ 2 * min size src.flatten.length + Gen.takeBytesPreallocCap := by omega
  exact ⟨hcap, Nat.le_trans h.total_le (Nat.mul_le_mul_left 2 hcap),
    Nat.le_trans h.peak_le (Nat.mul_le_mul_left 3 hcap)⟩

/-- the bytes taken never exceed what was declared nor what was present -/
theorem take_bytes_len (size : Nat) (src : List Bytes) :
    (takeBytesBuf size src).len ≤ size ∧ (takeBytesBuf size src).len ≤ src.flatten.length :=
  ⟨(takeBytes_spec size src).2.1, (takeBytes_spec size src).2.2.1⟩

/-- a declared size larger than the data present is an error (and conversely) -/
theorem take_bytes_ok_iff (size : Nat) (src : List Bytes) (hne : ∀ c ∈ src, c ≠ []) :
    takeBytesOk size src = true ↔ size ≤ src.flatten.length :=
  takeBytesOk_iff size src hne

/-- a declared size of 2^32-1 over an empty or short body: the capacity stays at the initial 1024 bytes -/
theorem take_bytes_huge_declared (src : List Bytes) (h : src.flatten.length ≤ 512) :
    (takeBytesBuf 4294967295 src).cap = 1024 := by
  obtain ⟨hi, _, h2, _⟩ := takeBytes_spec 4294967295 src
  have hle := hi.cap_le_max (K := 1024) (by decide) (by decide)
  -- capacity never shrinks below the initial one
  have hge : 1024 ≤ (takeBytesBuf 4294967295 src).cap :=
    takeLoop_cap_mono 4294967295 src (Buf.withCapacity (min 4294967295 Gen.takeBytesPreallocCap))
  omega

/-- `rest()` (`Vec::new()` + `read_to_end`): everything is returned, capacity ≤ 2·n + 32 -/
theorem rest_alloc (n : Nat) :
    (restBuf n).len = n ∧ (restBuf n).cap ≤ 2 * n + 32 ∧ (restBuf n).total ≤ 2 * (2 * n + 32) ∧
    2 * (restBuf n).peak ≤ 3 * (2 * n + 32) := by
  obtain ⟨h, hl⟩ := restBuf_spec n
  have hc := h.cap_le
  rw [hl] at hc
  exact ⟨hl, hc, Nat.le_trans h.alloc.total_le (Nat.mul_le_mul_left 2 hc),
    Nat.le_trans h.alloc.peak_le (Nat.mul_le_mul_left 3 hc)⟩

/-! ## `parse_alloc_linear` for the modelled parsers -/

/-- **`parse_alloc_linear`.** A body parser that is a sequence of length-prefixed fields (one
`take_bytes` per declared size, over the same source) holds, over ALL its fields together, at most
`2·|bytes present| + 1024·(number of fields)` bytes of capacity — whatever the declared sizes are -/
theorem parse_alloc_linear (sizes : List Nat) (src : List Bytes) :
    ((takeSeq sizes src).map (·.cap)).sum ≤ 2 * src.flatten.length + Gen.takeBytesPreallocCap * sizes.length :=
  takeSeq_alloc sizes src

/-- MPI: a bit count above the ceiling is refused before anything is allocated; otherwise at most
2048 octets are taken, only if present, with the `take_bytes` capacity bound -/
theorem mpi_alloc (bits : Nat) (src : List Bytes) :
    (Gen.maxExternMpiBits < bits → mpiRead bits src = (.tooLarge, Buf.withCapacity 0)) ∧
    (mpiRead bits src).2.len ≤ 2048 ∧ (mpiRead bits src).2.len ≤ src.flatten.length ∧
    (mpiRead bits src).2.cap ≤ 4096 := by
  obtain ⟨h1, h2, h3, h4⟩ := mpiRead_spec bits src
  have e : (Gen.maxExternMpiBits + Gen.mpiRoundAdd) / 2 ^ Gen.mpiRoundShift = 2048 := by decide
  have e2 : Gen.takeBytesPreallocCap = 1024 := rfl
  rw [e] at h2
  exact ⟨h1, h2, h3, by omega⟩

/-- subpacket vectors: whatever length the area *declares*, the vector's capacity is at most
`max 32 (2·count)` and every subpacket parsed consumed at least two octets that were present —
so the capacity (in elements) is at most `max 32 |area present|` -/
theorem subpacket_vec_linear (declared : Nat) (area : Bytes) (n cap : Nat)
    (h : subpacketsShape declared area = some (n, cap)) :
    n ≤ cap ∧ cap ≤ max Gen.subpacketVecCapLimit (2 * n) ∧ 2 * n ≤ area.length ∧
    cap ≤ max Gen.subpacketVecCapLimit area.length := by
  obtain ⟨h1, h2, h3⟩ := subpacketsShape_spec declared area n cap h
  exact ⟨h1, h2, h3, by omega⟩

/-! ## embedded signatures (`signature/de.rs embedded_sig` with the nesting cap) -/

/-- the cap the tree uses (re-extracted), and that it admits the one nesting RFC 9580 needs (the
primary-key-binding signature inside a subkey binding signature) -/
theorem embedded_depth_cap : Gen.maxEmbeddedSignatureDepth = 4 ∧ 1 ≤ Gen.maxEmbeddedSignatureDepth := by decide

/-- generic form: with ANY cap, a signature parser running at nesting `depth` copies at most
`(cap − depth)·|body|` bytes, whatever the body contains -/
theorem embedded_copy_linear_cap (cap fuel depth : Nat) (b : Bytes) :
    (sigCost cap fuel depth b).copy ≤ (cap - depth) * b.length :=
  (sig_area_cost_le cap fuel depth).1 b

/-- **`parse_alloc_linear` for signatures, full strength.** For EVERY signature packet body — any
nesting of Embedded Signature subpackets, any declared lengths — the bytes `embedded_sig` copies
(all levels together, hence also the bytes alive at any moment) are at most `cap·|input|` -/
theorem embedded_copy_linear (b : Bytes) :
    (sigCostOf b).copy ≤ Gen.maxEmbeddedSignatureDepth * b.length := by
  have := embedded_copy_linear_cap Gen.maxEmbeddedSignatureDepth (b.length + 1) 0 b
  simpa [sigCostOf] using this

/-- **recursion depth.** No (transitively) nested `Signature::try_from_reader_nested` ever runs with
`depth > cap`: at most `cap + 1` signature parsers are on the stack, for every input -/
theorem embedded_recursion_bounded (b : Bytes) :
    (sigCostOf b).reach ≤ Gen.maxEmbeddedSignatureDepth := by
  have := ((sig_area_reach Gen.maxEmbeddedSignatureDepth (b.length + 1) 0).1 b).2
  simpa [sigCostOf] using this

/-- the capped parser on the witness family (v6, every depth that fits the encoding): accepted iff
`d ≤ cap`; only the levels actually entered are copied; the deepest parser runs at `min d cap` -/
theorem nest_capped (d : Nat) (h : 34 + 40 * d < 4294967296) :
    sigCostOf (nestSig 6 d) =
      ⟨nestCopyCapped 6 d Gen.maxEmbeddedSignatureDepth, decide (d ≤ Gen.maxEmbeddedSignatureDepth),
       min d Gen.maxEmbeddedSignatureDepth⟩ ∧
    nestCopyCapped 6 d Gen.maxEmbeddedSignatureDepth ≤ Gen.maxEmbeddedSignatureDepth * (34 + 40 * d) := by
  have hl := nestSig_length 6 d
  have e : nestLen 6 d = 34 + 40 * d := rfl
  have := nestSig_capped 6 (.inr rfl) d ((nestSig 6 d).length + 1) 0 Gen.maxEmbeddedSignatureDepth
    (by rw [hl, e]; omega) h
  rw [Nat.zero_add, Nat.zero_add] at this
  exact ⟨this, nestCopyCapped_le 6 d Gen.maxEmbeddedSignatureDepth⟩

/-- … and for v4 signatures (16-bit area lengths) -/
theorem nest_capped_v4 (d : Nat) (h : 13 + 19 * d < 65536) :
    sigCostOf (nestSig 4 d) =
      ⟨nestCopyCapped 4 d Gen.maxEmbeddedSignatureDepth, decide (d ≤ Gen.maxEmbeddedSignatureDepth),
       min d Gen.maxEmbeddedSignatureDepth⟩ := by
  have hl := nestSig_length 4 d
  have e : nestLen 4 d = 13 + 19 * d := rfl
  have := nestSig_capped 4 (.inl rfl) d ((nestSig 4 d).length + 1) 0 Gen.maxEmbeddedSignatureDepth
    (by rw [hl, e]; omega) h
  rwa [Nat.zero_add, Nat.zero_add] at this

/-- boundary: nesting exactly `cap` deep is accepted, `cap + 1` is refused — and the refused
1000-deep witness (40 034 octets) costs 159 736 copied octets instead of 20 014 000 -/
theorem nest_cap_boundary :
    (sigCostOf (nestSig 6 Gen.maxEmbeddedSignatureDepth)).ok = true ∧
    (sigCostOf (nestSig 6 (Gen.maxEmbeddedSignatureDepth + 1))).ok = false ∧
    (sigCostOf (nestSig 6 1000)).ok = false ∧ (sigCostOf (nestSig 6 1000)).copy = 159736 ∧
    (sigCostOf (nestSig 6 1000)).reach = 4 := by
  have h4 := (nest_capped Gen.maxEmbeddedSignatureDepth (by decide)).1
  have h5 := (nest_capped (Gen.maxEmbeddedSignatureDepth + 1) (by decide)).1
  have h1000 := (nest_capped 1000 (by decide)).1
  rw [h4, h5, h1000]
  decide

/-! ### regression theorems about the code WITHOUT the cap (`sigCopyUncapped`, the tree before the
D19 repair): what the cap prevents -/

/-- the witness family: length, copy volume and recursion depth of `nestSig 6 d` (v6 signatures,
32-bit area lengths) for every depth that fits the encoding -/
theorem uncapped_nest_copy_closed (d : Nat) (h : 34 + 40 * d < 4294967296) :
    (nestSig 6 d).length = 34 + 40 * d ∧
    sigCopyUncappedOf (nestSig 6 d) = 34 * d + 40 * (d * (d - 1) / 2) ∧
    sigDepthUncappedOf (nestSig 6 d) = d := by
  have hl := nestSig_length 6 d
  have e : nestLen 6 d = 34 + 40 * d := rfl
  exact ⟨hl, nestSig_uncapped 6 (.inr rfl) d ((nestSig 6 d).length + 1) (by rw [hl, e]; omega) h⟩

/-- … and for v4 signatures (16-bit area lengths, depth ≤ 3448, input ≤ 65525 octets) -/
theorem uncapped_nest_copy_closed_v4 (d : Nat) (h : 13 + 19 * d < 65536) :
    (nestSig 4 d).length = 13 + 19 * d ∧
    sigCopyUncappedOf (nestSig 4 d) = 13 * d + 19 * (d * (d - 1) / 2) ∧
    sigDepthUncappedOf (nestSig 4 d) = d := by
  have hl := nestSig_length 4 d
  have e : nestLen 4 d = 13 + 19 * d := rfl
  exact ⟨hl, nestSig_uncapped 4 (.inl rfl) d ((nestSig 4 d).length + 1) (by rw [hl, e]; omega) h⟩

/-- **Without the cap (D19 as it was).** The 40 034-octet signature `nestSig 6 1000` makes the
parser copy 20 014 000 octets (all of them alive at the deepest point) and recurse 1000 deep:
more than the oracle's `8·|input| + 4 MiB`. -/
theorem uncapped_embedded_copy_quadratic :
    (nestSig 6 1000).length = 40034 ∧ sigCopyUncappedOf (nestSig 6 1000) = 20014000 ∧
    sigDepthUncappedOf (nestSig 6 1000) = 1000 ∧
    8 * (nestSig 6 1000).length + 4 * 1024 * 1024 < sigCopyUncappedOf (nestSig 6 1000) := by
  obtain ⟨h1, h2, h3⟩ := uncapped_nest_copy_closed 1000 (by decide)
  rw [h1, h2, h3]
  decide

/-- no linear bound `a·|input| + c` with `a, c < 2^20` holds: the witness of depth `2·(a + c) + 2`
exceeds it -/
theorem uncapped_embedded_copy_not_linear (a c : Nat) (ha : a < 1048576) (hc : c < 1048576) :
    ∃ b : Bytes, b.length < 4294967296 ∧ a * b.length + c < sigCopyUncappedOf b := by
  obtain ⟨h1, h2, _⟩ := uncapped_nest_copy_closed (2 * (a + c) + 2) (by omega)
  exact ⟨nestSig 6 (2 * (a + c) + 2), by omega, by rw [h1, h2]; exact nestCopyClosed_gt_linear a c⟩

/-! ## armor header / footer accumulation (`read_from_buf`) -/

/-- the back buffer never holds more than `limit + C` bytes (`C` = the longest `fill_buf` result),
whatever the parser answers; every loop step consumes at least one source byte or is the last; the
bytes consumed are bytes that were present -/
theorem armor_backbuffer (P : Bytes → PRes) (limit C : Nat) (src : List Bytes) (hC : ∀ c ∈ src, c.length ≤ C) :
    (readFromBuf P limit src).maxBack ≤ limit + C ∧
    (readFromBuf P limit src).steps ≤ (readFromBuf P limit src).consumed + 1 ∧
    (readFromBuf P limit src).consumed ≤ src.flatten.length :=
  ⟨(readFromBuf_spec P limit C src hC).1, (readFromBuf_spec P limit C src hC).2.1, (readFromBuf_spec P limit C src hC).2.2.1⟩

/-- work bound: at most `(steps+1)·(limit + C)` bytes are handed to the parser -/
theorem armor_work_bound (P : Bytes → PRes) (limit C : Nat) (src : List Bytes) (hC : ∀ c ∈ src, c.length ≤ C) :
    (readFromBuf P limit src).work ≤ ((readFromBuf P limit src).steps + 1) * (limit + C) :=
  (readFromBuf_spec P limit C src hC).2.2.2

/-- … and that bound is attained in order of magnitude: while the parser keeps answering
"incomplete" (e.g. leading text without `-----`), `k+1` refills of `c` bytes make it scan
`c·(k+1)(k+2)/2` bytes — quadratic in the number of refills (not linear in the input) -/
theorem armor_reparse_quadratic (limit c k : Nat) (chunk : Bytes) (hc : chunk.length = c) (hpos : 0 < c)
    (hl : (k + 1) * c ≤ limit) :
    (readFromBuf (fun _ => .incomplete) limit (List.replicate (k + 1) chunk)).work = c * ((k + 2) * (k + 1) / 2) := by
  have hne : chunk ≠ [] := List.ne_nil_of_length_pos (hc ▸ hpos)
  have hk : (k + 1) * c = c + k * c := by rw [Nat.add_mul, Nat.one_mul]; omega
  simp only [List.replicate_succ, readFromBuf, hne, if_false]
  rw [rfbLoop_incomplete_work limit c chunk hc hpos k chunk _ (by omega)]
  simp only [hc]
  have t := tri (k + 1)
  simp only [Nat.add_sub_cancel] at t
  rw [t, Nat.mul_add, Nat.mul_add, Nat.mul_one, Nat.mul_comm k c]
  omega

/-! ## streaming: `buf_bounded`, as invariants `Inv s → Inv (step s)` -/

/-- `fill_buffer_bytes(source, buffer, len)` never leaves more than `max len |buffer before|` -/
theorem fill_buffer_bytes_bounded (len : Nat) (src : List Bytes) (buf : Bytes) :
    (fillBufferBytes len src buf).1.length ≤ max len buf.length :=
  fillBufferBytes_len len src buf

/-- **`buf_bounded` (refill-when-empty readers).** `PacketBodyReader`, `LiteralDataReader`,
`CompressedDataReader`, `SignatureManyReader`: whatever the consumer and the source do, the buffer
holds at most `BUFFER_SIZE` bytes — `Inv s → Inv (step s)` for every operation -/
theorem buf_bounded_refill (B : Nat) (s : Refill) (op : RefillOp) (h : Refill.Inv B s) :
    Refill.Inv B (s.step B op) :=
  Refill.inv_step B s op h

/-- … hence after any sequence of operations from the empty buffer -/
theorem buf_bounded_refill_run (B : Nat) (ops : List RefillOp) (src : List Bytes) :
    Refill.Inv B (ops.foldl (Refill.step B) ⟨[], src⟩) := by
  have : ∀ (ops : List RefillOp) (s : Refill), Refill.Inv B s → Refill.Inv B (ops.foldl (Refill.step B) s) := by
    intro ops
    induction ops with
    | nil => intro s h; exact h
    | cons o os ih => intro s h; exact ih _ (Refill.inv_step B s o h)
  exact this ops _ (by simp [Refill.Inv])

/-- the instrumented SEIPDv2 decryptor computes exactly what `seipd2Dec` (C03/C09) computes -/
theorem seipd2_instrumented_same (A : Aead) (info : Bytes) (cs T k fuel : Nat) (enc : Bytes) (idx written : Nat) (src : Bytes) :
    ((seipd2DecI A info cs T k fuel enc idx written src).1, (seipd2DecI A info cs T k fuel enc idx written src).2.1)
      = seipd2Dec A info cs T k fuel enc idx written src :=
  seipd2DecI_erase A info cs T k fuel enc idx written src

/-- **`buf_bounded` (SEIPDv2).** For every ciphertext (honest or not), chunk size and AEAD, in every
round the decryptor's buffer holds at most `2·(cs + 16)` bytes -/
theorem buf_bounded_seipd2 (A : Aead) (info : Bytes) (cs : Nat) (fuel : Nat) (ct : Bytes) :
    ∀ b ∈ (seipd2DecI A info cs Gen.aeadTagSize Gen.aeadWindowFactor fuel [] 0 0 ct).2.2,
      b.length ≤ 2 * (cs + 16) := by
  intro b hb
  have := seipd2DecI_bufs A info cs Gen.aeadTagSize Gen.aeadWindowFactor fuel [] 0 0 ct (by simp) b hb
  simpa [Gen.aeadTagSize, Gen.aeadWindowFactor] using this

/-- with the largest chunk size the crate accepts that is 2·(4 MiB + 16) -/
theorem buf_bounded_seipd2_max (cs : Nat) (h : cs ≤ Gen.aeadMaxChunkBytes) : Gen.aeadWindow cs ≤ 8388640 := by
  have e : Gen.aeadMaxChunkBytes = 4194304 := by decide
  simp only [Gen.aeadWindow, Gen.aeadWindowFactor, Gen.aeadTagSize]
  omega

theorem seipd1_instrumented_same (sha1 : Bytes → Bytes) (pre : Bytes) (B fuel : Nat) (held hashed src : Bytes) :
    ((seipd1RoundsI sha1 pre B fuel held hashed src).1, (seipd1RoundsI sha1 pre B fuel held hashed src).2.1)
      = seipd1Rounds sha1 pre B fuel held hashed src :=
  seipd1RoundsI_erase sha1 pre B fuel held hashed src

/-- **`buf_bounded` (SEIPDv1 streaming mode).** The buffer holds at most `BUFFER_SIZE` bytes in every
round, for every input -/
theorem buf_bounded_seipd1_streaming (sha1 : Bytes → Bytes) (pre : Bytes) (fuel : Nat) (src : Bytes) :
    ∀ b ∈ (seipd1RoundsI sha1 pre Gen.symDecBufferSize fuel [] [] src).2.2, b.length ≤ Gen.symDecBufferSize :=
  seipd1RoundsI_bufs sha1 pre Gen.symDecBufferSize fuel [] [] src (by simp)

/-- **`checkfirst_capped`.** Default-mode SEIPDv1 buffers the whole message, but never more than
`max_message_size`: anything accepted fits, anything longer is refused -/
theorem checkfirst_capped (sha1 : Bytes → Bytes) (bs max : Nat) (dec : Bytes) :
    (∀ body, seipd1CheckFirst sha1 bs max dec = some body → body.length + Gen.mdcLen ≤ max) ∧
    (max + (bs + 2) < dec.length → seipd1CheckFirst sha1 bs max dec = none) ∧
    (checkFirstBuffered max (dec.drop (bs + 2))).length ≤ max :=
  ⟨fun body h => (seipd1CheckFirst_capped sha1 bs max dec body h).1, seipd1CheckFirst_over sha1 bs max dec,
   by simp only [checkFirstBuffered, List.length_take]; omega⟩

/-- **`buf_bounded` (`NormalizedReader`).** Every block it produces is at most `2·window + 2` bytes,
for every input (the window itself is a fixed array) -/
theorem buf_bounded_normalized (inp : Bytes) :
    ∀ blk ∈ nrBlocks CRLF Gen.normalizedReaderWindow (nrInit Gen.normalizedReaderWindow) inp,
      blk.length ≤ 2 * Gen.normalizedReaderWindow + 2 :=
  nrBlocks_block_le Gen.normalizedReaderWindow (by decide) inp _ List.length_replicate

/-! ## S2K -/

/-- **`s2k_admission`.** An Argon2 parameter set that `derive_key` accepts has `1 ≤ t ≤ 32`,
`1 ≤ p ≤ 32` and a memory size `2^m` KiB of at most 2 GiB (and at least `8·p` KiB) -/
theorem s2k_admission (t p m : Nat) (h : argon2Admit t p m = true) :
    1 ≤ t ∧ t ≤ 32 ∧ 1 ≤ p ∧ p ≤ 32 ∧ m ≤ 21 ∧ 2 ^ m ≤ 2097152 ∧ 8 * p ≤ 2 ^ m := by
  obtain ⟨h1, h2, h3, h4, _, h6, h7⟩ := argon2Admit_sound t p m h
  have e1 : Gen.argon2MaxT = 32 := rfl
  have e2 : Gen.argon2MaxP = 32 := rfl
  have e3 : Gen.argon2MemoryLimitKib = 2097152 := rfl
  rw [e3] at h6
  refine ⟨h1, by omega, h3, by omega, ?_, h6, h7⟩
  rcases Nat.lt_or_ge 21 m with hlt | hge
  · have : 2 ^ 22 ≤ 2 ^ m := Nat.pow_le_pow_right (by decide) hlt
    have e : (2 : Nat) ^ 22 = 4194304 := by decide
    omega
  · exact hge

/-- everything above the ceiling is refused, for all 2^24 octet triples -/
theorem s2k_over_ceiling_refused (t p m : Nat) (h : 32 < t ∨ 32 < p ∨ 21 < m) : argon2Admit t p m = false := by
  cases hb : argon2Admit t p m with
  | false => rfl
  | true =>
    obtain ⟨_, h2, _, h4, h5, _⟩ := s2k_admission t p m hb
    omega

/-- **`iterated_bound`.** Every count octet decodes to at most 65 011 712; the octets hashed per
round are `max(count, |salt‖pw|)`, so at most `65 011 712 + |salt‖pw|`, fed in at most
`count/|salt‖pw| + 1` updates (the loop terminates because each update consumes `|salt‖pw| > 0`) -/
theorem iterated_bound (c ds : Nat) (hc : c < 256) (hds : 0 < ds) :
    decodeCount c ≤ 65011712 ∧ (iterHashed c ds).1 = max (decodeCount c) ds ∧
    (iterHashed c ds).1 ≤ 65011712 + ds ∧ (iterHashed c ds).2 ≤ max (decodeCount c) ds / ds + 1 := by
  have h1 := decodeCount_le c hc
  obtain ⟨h2, h3⟩ := iterLoop_spec ds hds (max (decodeCount c) ds + 1) (max (decodeCount c) ds) (by omega)
  unfold iterHashed
  simp only
  exact ⟨h1, h2, by rw [h2]; omega, h3⟩

theorem iterated_count_max : decodeCount 255 = 65011712 := decodeCount_max

/-! ## `steps_linear`: every modelled loop step consumes input or is the last -/

/-- `take_bytes`: iterations ≤ bytes taken;  subpackets: 2·iterations ≤ bytes of the area;
`read_from_buf`: iterations ≤ bytes consumed + 1  (the iterated S2K loop: `iterated_bound`) -/
theorem steps_linear (size : Nat) (src : List Bytes) (declared : Nat) (area : Bytes) (n cap : Nat)
    (hs : subpacketsShape declared area = some (n, cap)) (P : Bytes → PRes) (limit : Nat) :
    takeBytesSteps size src ≤ (takeBytesBuf size src).len ∧
    (takeBytesBuf size src).len ≤ src.flatten.length ∧
    2 * n ≤ area.length ∧
    (readFromBuf P limit src).steps ≤ (readFromBuf P limit src).consumed + 1 ∧
    (readFromBuf P limit src).consumed ≤ src.flatten.length := by
  obtain ⟨_, _, h3, h4⟩ := takeBytes_spec size src
  obtain ⟨_, _, h7⟩ := subpacketsShape_spec declared area n cap hs
  obtain ⟨_, h9, h10, _⟩ :=
    readFromBuf_spec P limit _ src fun _ h => (List.sublist_flatten_of_mem h).length_le
  exact ⟨h4, h3, h7, h9, h10⟩

/-! ## non-vacuity / concrete evaluations -/

example : (takeBytesBuf 4294967295 [[1, 2, 3]]).allocs = [1024] := by decide
example : takeBytesOk 4294967295 [[1, 2, 3]] = false := by decide
example : takeBytesOk 3 [[1], [2, 3, 4]] = true := by decide
example : (takeSeq [2, 4294967295, 5] [[1, 2, 3], [4]]).map (·.cap) = [2, 1024] := by decide
example : subpacketsShape 65535 [2, 101, 0, 2, 102, 0] = some (2, 32) := by decide
example : subpacketsShape 1 [2, 101, 0, 2, 102, 0] = some (2, 4) := by decide
example : sigCopyUncappedOf (nestSig 4 2) = 13 + 32 ∧ sigDepthUncappedOf (nestSig 4 2) = 2 := by decide
example : sigCostOf (nestSig 4 2) = ⟨13 + 32, true, 2⟩ := by rw [nest_capped_v4 2 (by decide)]; decide
example : sigCostOf (nestSig 4 5) = ⟨89 + 70 + 51 + 32, false, 4⟩ := by rw [nest_capped_v4 5 (by decide)]; decide
example : argon2Admit 1 4 21 = true ∧ argon2Admit 33 1 10 = false ∧ argon2Admit 1 4 4 = false ∧ argon2Admit 1 1 22 = false := by decide
example : (readFromBuf (fun _ => .incomplete) 10 [[1, 2, 3, 4], [5, 6, 7, 8], [9, 10, 11, 12], [13]]).res = .tooLarge := by decide
example : (mpiRead 16385 [[1, 2]]).1 = .tooLarge ∧ (mpiRead 16 [[1, 2, 3]]).1 = .ok 2 := by decide

/-! ## cleartext signature framework: the search for the signature block (D19c)

Octets looked at by the `rfind` of `read_cleartext_body`, summed over one run of its loop. -/

/-- repaired loop: at most the text once more plus one octet per line — linear in the input -/
theorem cleartext_search_work_linear (inp : Bytes) :
    searchWorkIncr [] (splitInclusive inp) ≤ 2 * inp.length := by
  have h := searchWorkIncr_le (splitInclusive inp) []
  rw [splitInclusive_flatten] at h
  have := splitInclusive_length_le inp
  omega

/-- the loop before the repair: what had been read before the loop continues is looked at again for
every further line (a product, not a sum) -/
theorem cleartext_search_work_was_a_product (ls : List Bytes) (out : Bytes) :
    out.length * ls.length ≤ searchWorkFull out ls :=
  searchWorkFull_ge ls out

/-- regression witness: 8 lines of 2 octets — 72 octets searched before, 23 after -/
theorem d19c_witness :
    searchWorkFull [] (List.replicate 8 [97, 10]) = 72 ∧
    searchWorkIncr [] (List.replicate 8 [97, 10]) = 23 := by decide

/-! ## many signatures over one message (known finding D19d)

Every One-Pass Signature packet of a message is a hasher that sees the whole data: the work of reading
the message is (number of signature packets) × (data length), which no constant multiple of the input
size bounds. -/

theorem many_signatures_work_is_a_product (n : Nat) (chunks : List Nat) :
    sigHashWork n chunks = n * chunks.sum := sigHashWork_eq n chunks

/-- for every constant `c` there is a message (with `opsLen`-octet OPS packets and `sigLen`-octet
signature packets, e.g. 15 and 19) whose hashing work exceeds `c` times its size -/
theorem many_signatures_work_not_linear (c opsLen sigLen : Nat) :
    ∃ n dataLen, c * opsMessageSize n opsLen sigLen dataLen < sigHashWork n [dataLen] := by
  refine ⟨2 * c + 1, (2 * c + 1) * (opsLen + sigLen) + 1, ?_⟩
  rw [sigHashWork_eq]
  simp only [opsMessageSize, List.sum_cons, List.sum_nil, Nat.add_zero]
  generalize hk : opsLen + sigLen = k
  have e1 : (2 * c + 1) * opsLen + ((2 * c + 1) * k + 1) + (2 * c + 1) * sigLen = 2 * ((2 * c + 1) * k) + 1 := by
    rw [← hk, Nat.mul_add]; omega
  rw [e1]
  generalize (2 * c + 1) * k = m
  rw [Nat.add_mul, Nat.mul_add, Nat.mul_add]
  have : c * (2 * m) = 2 * c * m := by rw [← Nat.mul_assoc, Nat.mul_comm c 2]
  omega

example : sigHashWork 3 [8192, 8192, 100] = 3 * 16484 := by decide

/-! ## ignored packets behind a message are not kept (D19e) -/

theorem d19e_repaired : Gen.fixD19eTrailingPacketsDrained = 1 := by decide

/-- whatever the size of a trailing ignored packet and however it arrives, at most one `drain` buffer
of it is held -/
theorem trailing_packet_not_kept (reads : List Nat) : ∀ h ∈ heldTrailing reads, h ≤ Gen.drainChunk := by
  intro h hh
  unfold heldTrailing at hh
  rw [if_pos d19e_repaired] at hh
  unfold heldDrained at hh
  obtain ⟨c, _, rfl⟩ := List.mem_map.mp hh
  exact Nat.min_le_left _ _

/-- regression witness, four reads of 8 KiB: collected, all 32 KiB are held in the end; drained, 256 octets -/
theorem d19e_witness : (heldCollected (List.replicate 4 8192)).getLast? = some 32768 ∧
    (heldDrained (List.replicate 4 8192)).getLast? = some 256 := by decide

end Rpgp.C19
